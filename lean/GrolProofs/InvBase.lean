import GrolProofs.EnvConst
import GrolProofs.EvalSafeEnv
/-
The evaluator invariant and the Hoare-style predicate `Post`, once for C07 (no evaluation ends in a
Go panic) and C19 (constants cannot be changed), in namespace `Grol.G`.  What distinguishes the two is a
`Policy`: which names are protected, and the two restrictions that protecting a name needs.

Three vocabularies say the same thing.  `Grol.G` (here, InvEnv.lean … InvMain.lean) is the one the proofs are
in: `G.Inv P`, `G.Post P`, `G.Spec P`, `G.spec_all`.  `Grol.E` (EvalInv.lean) and `Grol.K` (ConstInvBase.lean)
are the terms the C07 and C19 statements are written in; EvalSafeMain.lean and ConstInvBase.lean show them to be
`Grol.G` at the policy that protects nothing (`polE`) and at the one that protects the constants (`polK`).
-/
namespace Grol.K
open Grol.E

/- `Acc` and `Eqv` do not depend on a policy.  They are named `K.` because the C19 statements speak of
them under that name, and they stand here because `G.Kept` is stated with them. -/

/-- the rewrite `createOrSet` accepts for a bound constant: `Cmp` says equal, same types at every level -/
def Acc (a b : Obj) : Prop := cmp a b = .ok 0 ∧ sameTypes a b = true

/-- the equivalence generated by accepted rewrites (with IEEE comparison laws `Acc` is itself an
equivalence on data values; the model's floats are opaque to the kernel, so the closure is taken) -/
inductive Eqv : Obj → Obj → Prop
  | refl (a) : Eqv a a
  | step {a b} : Acc a b → Eqv a b
  | symm {a b} : Eqv a b → Eqv b a
  | trans {a b c} : Eqv a b → Eqv b c → Eqv a c

end Grol.K

namespace Grol.G
open Grol.E Grol.K

/-- `prot`: the names whose direct bindings are to be kept.  The checking setter guards constant
names only; a binding reached through a stored reference is recognised by the reference's name;
`del` unbinds whatever it is given: hence the three conditions. -/
structure Policy where
  prot : String → Bool
  /-- a stored reference carries the name it is stored under -/
  named : Bool
  /-- programs may contain `del(…)` -/
  del : Bool
  prot_const : ∀ n, prot n = true → isConstant n = true
  prot_named : ∀ n, prot n = true → named = true
  prot_del : ∀ n, prot n = true → del = false

variable {P : Policy}

theorem Policy.unprot (hd : P.del = true) (n : String) : P.prot n = false := by
  cases h : P.prot n with
  | false => rfl
  | true => rw [P.prot_del n h] at hd; cases hd

/-! ### programs: `del` only where the policy admits it, no function named like a protected name -/

def constName (P : Policy) : Option String → Bool
  | some n => P.prot n
  | none => false

mutual
def okNode (P : Policy) : Node → Bool
  | .pre _ r => okNode P r
  | .inf _ l r => okNode P l && okNode P r
  | .stmts l => okNodes P l
  | .ifE c a b => okNode P c && okNode P a && okNode P b
  | .forE c b => okNode P c && okNode P b
  | .ret v => okNode P v
  | .builtin name ps => (P.del || name != "DEL") && okNodes P ps
  | .fn name _ _ _ _ body => !constName P name && okNode P body
  | .call f args => okNode P f && okNodes P args
  | .arr els => okNodes P els
  | .mapLit ks vs => okNodes P ks && okNodes P vs
  | .idx _ l i => okNode P l && okNode P i
  | _ => true
def okNodes (P : Policy) : List Node → Bool
  | [] => true
  | x :: xs => okNode P x && okNodes P xs
end

def okFn (P : Policy) (f : FuncVal) : Bool := okNode P f.body && !constName P f.name

/-! ### well-scoped values: every frame index occurring in a value is below `n`, every function in it is `okFn` -/

mutual
def okObj (P : Policy) (n : Nat) : Obj → Bool
  | .array els => okList P n els
  | .map _ kvs => okPairs P n kvs
  | .func f => decide (f.env < n) && okFn P f
  | .ret v _ => okObj P n v
  | .ref e _ => decide (e < n)
  | _ => true
def okList (P : Policy) (n : Nat) : List Obj → Bool
  | [] => true
  | x :: xs => okObj P n x && okList P n xs
def okPairs (P : Policy) (n : Nat) : List (Obj × Obj) → Bool
  | [] => true
  | (k, v) :: xs => okObj P n k && okObj P n v && okPairs P n xs
end

theorem okList_iff {n : Nat} {l : List Obj} : okList P n l = true ↔ ∀ x ∈ l, okObj P n x = true := by
  induction l with
  | nil => simp [okList]
  | cons x xs ih => simp [okList, ih]

theorem okPairs_iff {n : Nat} {l : List (Obj × Obj)} :
    okPairs P n l = true ↔ ∀ kv ∈ l, okObj P n kv.1 = true ∧ okObj P n kv.2 = true := by
  induction l with
  | nil => simp [okPairs]
  | cons x xs ih => obtain ⟨k, v⟩ := x; simp [okPairs, ih, and_assoc]

mutual
theorem okObj_mono {n m : Nat} (h : n ≤ m) : ∀ o, okObj P n o = true → okObj P m o = true
  | .array els => by simpa [okObj] using okList_mono h els
  | .map _ kvs => by simpa [okObj] using okPairs_mono h kvs
  | .func f => by simp only [okObj, Bool.and_eq_true, decide_eq_true_eq]; exact fun ⟨a, b⟩ => ⟨by omega, b⟩
  | .ret v _ => by simpa [okObj] using okObj_mono h v
  | .ref e _ => by simp [okObj]; omega
  | .null | .bool _ | .int _ | .float _ | .str _ | .ext _ | .error _ | .quote _ => by simp [okObj]
theorem okList_mono {n m : Nat} (h : n ≤ m) : ∀ l, okList P n l = true → okList P m l = true
  | [] => by simp [okList]
  | x :: xs => by
    simp only [okList, Bool.and_eq_true]
    exact fun ⟨a, b⟩ => ⟨okObj_mono h x a, okList_mono h xs b⟩
theorem okPairs_mono {n m : Nat} (h : n ≤ m) : ∀ l, okPairs P n l = true → okPairs P m l = true
  | [] => by simp [okPairs]
  | (k, v) :: xs => by
    simp only [okPairs, Bool.and_eq_true]
    exact fun ⟨⟨a, b⟩, c⟩ => ⟨⟨okObj_mono h k a, okObj_mono h v b⟩, okPairs_mono h xs c⟩
end

/-- `i`, `d`: index and depth of the frame the store belongs to -/
def StoreOk (P : Policy) (frames : Array Frame) (i d : Nat) (store : List (String × Obj)) : Prop :=
  ∀ k v, (k, v) ∈ store → okObj P frames.size v = true ∧
    ∀ e nm, v = Obj.ref e nm → (e < i ∧ ∀ fe, frames[e]? = some fe → fe.depth < d) ∧ (P.named = true → nm = k)

/-- `outer` points to a frame of strictly smaller index and depth (so reference chains descend and end); the frame's
function and store are well scoped -/
structure FrameOk (P : Policy) (frames : Array Frame) (i : Nat) (f : Frame) : Prop where
  outer : ∀ o, f.outer = some o → o < i ∧ ∀ fo, frames[o]? = some fo → fo.depth < f.depth
  func : ∀ fn, f.function = some fn → fn.env < frames.size ∧ okFn P fn = true
  store : StoreOk P frames i f.depth f.store

/-- the evaluator invariant: `cur`/`root` are frames of the heap, every frame is `FrameOk`, cached results are well scoped -/
structure Inv (P : Policy) (st : St) : Prop where
  cur : st.cur < st.frames.size
  root : st.root < st.frames.size
  frames : ∀ i f, st.frames[i]? = some f → FrameOk P st.frames i f
  cache : ∀ c, c ∈ st.cache → okObj P st.frames.size c.result = true

/-- every protected name directly bound (to a value, not a reference) in a frame of `st` is still directly bound in the
same frame of `st'`, to an equivalent value -/
def Kept (P : Policy) (st st' : St) : Prop :=
  ∀ e N v, P.prot N = true → frameVal st e N = some v → ∃ v', frameVal st' e N = some v' ∧ Eqv v v'

theorem Kept.refl (st : St) : Kept P st st := fun _ _ v _ h => ⟨v, h, Eqv.refl v⟩

theorem Kept.trans {a b c : St} (h1 : Kept P a b) (h2 : Kept P b c) : Kept P a c := by
  intro e N v hc hv
  obtain ⟨v', hv', e1⟩ := h1 e N v hc hv
  obtain ⟨v'', hv'', e2⟩ := h2 e N v' hc hv'
  exact ⟨v'', hv'', e1.trans e2⟩

theorem Kept.of_vals {st st' : St} (h : ∀ e N, frameVal st' e N = frameVal st e N) : Kept P st st' :=
  fun e N v _ hv => ⟨v, by rw [h]; exact hv, Eqv.refl v⟩

theorem Kept.of_frames {st st' : St} (h : st'.frames = st.frames) : Kept P st st' :=
  Kept.of_vals (fun e N => by unfold frameVal; rw [h])

/-- where `del` is admitted nothing is protected -/
theorem Kept.of_del (hd : P.del = true) (st st' : St) : Kept P st st' :=
  fun _ N _ hN => by rw [P.unprot hd N] at hN; cases hN

def Rel (P : Policy) (st st' : St) : Prop := st.frames.size ≤ st'.frames.size ∧ Kept P st st'

theorem Rel.refl (st : St) : Rel P st st := ⟨Nat.le_refl _, Kept.refl st⟩

theorem Rel.trans {a b c : St} (h1 : Rel P a b) (h2 : Rel P b c) : Rel P a c :=
  ⟨Nat.le_trans h1.1 h2.1, h1.2.trans h2.2⟩

/-- running `x` from `st` does not end in a Go panic; the final state satisfies `Inv` again (also after an abnormal
stop) and is `Rel`-related to `st`; a normal result satisfies `Q` -/
def Post (P : Policy) (x : M α) (st : St) (Q : α → St → Prop) : Prop :=
  match runM x st with
  | (.ok a, st') => Inv P st' ∧ Rel P st st' ∧ Q a st'
  | (.error (.goPanic _), _) => False
  | (.error _, st') => Inv P st' ∧ Rel P st st'

theorem Post.of_ok {x : M α} {st st' : St} {a : α} {Q : α → St → Prop} (h : runM x st = (.ok a, st'))
    (hI : Inv P st') (hr : Rel P st st') (hq : Q a st') : Post P x st Q := by
  unfold Post; rw [h]; exact ⟨hI, hr, hq⟩

theorem Post.pure {a : α} {st : St} {Q : α → St → Prop} (hI : Inv P st) (h : Q a st) :
    Post P (pure a : M α) st Q := .of_ok (runM_pure a st) hI (.refl _) h

/-- the continuation sees the invariant and the growth of the heap (what it needs about values held
in local variables); `Kept` is composed by `bind` itself -/
theorem Post.bind {x : M α} {f : α → M β} {st : St} {Q : α → St → Prop} {R : β → St → Prop}
    (hx : Post P x st Q)
    (hf : ∀ a st', Inv P st' → st.frames.size ≤ st'.frames.size → Q a st' → Post P (f a) st' R) :
    Post P (x >>= f) st R := by
  unfold Post at hx ⊢
  rw [runM_bind]
  split at hx
  next a st' h =>
    simp only [h]
    obtain ⟨hI, hle, hq⟩ := hx
    have := hf a st' hI hle.1 hq
    unfold Post at this
    split at this
    next b st'' h2 => simp only [h2]; exact ⟨this.1, hle.trans this.2.1, this.2.2⟩
    next h2 => exact this.elim
    next e st'' hne h2 =>
      simp only [h2]
      exact ⟨this.1, hle.trans this.2⟩
  next h => exact hx.elim
  next e st' hne h =>
    simp only [h]
    exact hx

theorem Post.ite {c : Prop} [Decidable c] {a b : M α} {st : St} {Q : α → St → Prop}
    (ha : c → Post P a st Q) (hb : ¬ c → Post P b st Q) : Post P (if c then a else b) st Q := by
  split
  · exact ha ‹_›
  · exact hb ‹_›

theorem Post.mono {x : M α} {st : St} {Q R : α → St → Prop} (hx : Post P x st Q)
    (h : ∀ a st', Inv P st' → st.frames.size ≤ st'.frames.size → Q a st' → R a st') : Post P x st R := by
  unfold Post at hx ⊢
  split at hx
  next a st' h1 => exact ⟨hx.1, hx.2.1, h a st' hx.1 hx.2.1.1 hx.2.2⟩
  next h1 => exact hx.elim
  next e st' hne h1 => exact hx

theorem Post.get {st : St} {Q : St → St → Prop} (hI : Inv P st) (h : Q st st) : Post P (get : M St) st Q :=
  .of_ok (runM_get st) hI (.refl _) h

theorem Post.set {s st : St} {Q : Unit → St → Prop} (hI : Inv P s) (hle : st.frames.size ≤ s.frames.size)
    (hk : Kept P st s) (h : Q () s) : Post P (set s : M Unit) st Q :=
  .of_ok (runM_set s st) hI ⟨hle, hk⟩ h

theorem Post.modify {g : St → St} {st : St} {Q : Unit → St → Prop} (hI : Inv P (g st))
    (hle : st.frames.size ≤ (g st).frames.size) (hk : Kept P st (g st)) (h : Q () (g st)) :
    Post P (modify g : M Unit) st Q :=
  .of_ok (runM_modify g st) hI ⟨hle, hk⟩ h

theorem Post.stop {e : Stop} {st : St} {Q : α → St → Prop} (hI : Inv P st) (he : ∀ s, e ≠ .goPanic s) :
    Post P (Grol.E.stop e : M α) st Q := by
  unfold Post; rw [runM_stop]
  split
  next h => cases h
  next s _ h => cases h; exact (he _ rfl).elim
  next h => cases h; exact ⟨hI, Rel.refl _⟩

theorem Post.stop_bind {e : Stop} {st : St} {f : α → M β} {R : β → St → Prop} (hI : Inv P st)
    (he : ∀ s, e ≠ .goPanic s) : Post P (Grol.E.stop e >>= f) st R :=
  Post.bind (Q := fun _ _ => False) (Post.stop hI he) (fun _ _ _ _ h => h.elim)

theorem Post.throw {e : Stop} {st : St} {Q : α → St → Prop} (hI : Inv P st) (he : ∀ s, e ≠ .goPanic s) :
    Post P (throw e : M α) st Q := Post.stop (e := e) hI he

theorem Post.after {x : M α} {st : St} {Q : α → St → Prop} (h : Post P x st Q) :
    Inv P (stateAfter x st) ∧ Rel P st (stateAfter x st) ∧ isGoPanic (outcome x st) = false ∧
      ∀ a, outcome x st = .ok a → Q a (stateAfter x st) := by
  unfold Post at h
  rw [stateAfter_eq, outcome_eq]
  split at h
  next h1 => rw [h1]; exact ⟨h.1, h.2.1, rfl, fun a ha => by cases ha; exact h.2.2⟩
  next h1 => exact h.elim
  next e st' hne h1 =>
    rw [h1]
    refine ⟨h.1, h.2, ?_, fun a ha => by cases ha⟩
    cases e <;> first | rfl | exact (hne _ rfl).elim

theorem Post.liftR {r : R α} {st : St} {Q : α → St → Prop} (hI : Inv P st) (hr : NPR r)
    (h : ∀ a, r = .ok a → Q a st) : Post P (Grol.E.liftR r) st Q := by
  unfold Grol.E.liftR
  cases r with
  | ok a => exact Post.pure hI (h a rfl)
  | error e => exact Post.throw hI (fun s he => hr s (by rw [he]))

end Grol.G
