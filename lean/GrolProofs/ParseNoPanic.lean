import GrolProofs.ParseLeaf
/-
C08, parser half: for every well-formed token stream and every fuel the parser model never
reaches a `goPanic` branch (`SafeAt` is closed under the parser's commands, so `ParserClosed.all`
applies), hence neither does `parseProgram`.
-/

namespace Grol.Parser
open Grol.Generated

variable {s : TokStream}

structure AllSafe (s : TokStream) (fuel : Nat) : Prop where
  parseExpression : ∀ prec, Safe s (parseExpression s fuel prec)
  parseExpressionLoop : ∀ prec l, Safe s (parseExpressionLoop s fuel prec l)
  prefixDispatch : ∀ fn st, Inv s st → lookup prefixRegs st.cur.type = some fn →
    OKQ s (fun _ _ => True) (prefixDispatch s fuel fn st)
  infixDispatch : ∀ fn l, Safe s (infixDispatch s fuel fn l)
  parseStatement : Safe s (parseStatement s fuel)
  parseReturnStatement : Safe s (parseReturnStatement s fuel)
  parseArrayLiteral : Safe s (parseArrayLiteral s fuel)
  parseGroupedExpression : Safe s (parseGroupedExpression s fuel)
  parsePrefixExpression : Safe s (parsePrefixExpression s fuel)
  parseLambdaMulti : ∀ l m, Safe s (parseLambdaMulti s fuel l m)
  parseInfixExpression : ∀ l, Safe s (parseInfixExpression s fuel l)
  parseForExpression : Safe s (parseForExpression s fuel)
  parseIfExpression : Safe s (parseIfExpression s fuel)
  parseBlockStatement : Safe s (parseBlockStatement s fuel)
  parseBlockLoop : ∀ acc, Safe s (parseBlockLoop s fuel acc)
  parseFunctionLiteral : Safe s (parseFunctionLiteral s fuel)
  parseBuiltin : Safe s (parseBuiltin s fuel)
  parseCallExpression : ∀ f, Safe s (parseCallExpression s fuel f)
  parseExpressionList : ∀ e, (constLiteral e).isSome = true → Safe s (parseExpressionList s fuel e)
  parseExpressionListLoop : ∀ a, Safe s (parseExpressionListLoop s fuel a)
  parseIndexExpression : ∀ l, Safe s (parseIndexExpression s fuel l)
  parseMapLiteral : Safe s (parseMapLiteral s fuel)
  parseMapLoop : ∀ t k, Safe s (parseMapLoop s fuel t k)
  parseMacroLiteral : Safe s (parseMacroLiteral s fuel)

theorem safeClosed (hwf : StreamWF s) : ParserClosed s (SafeAt s) where
  pure _ _ hi := ⟨hi, trivial⟩
  bind := SafeAt.bind
  getSt_bind h := h
  outOfFuel _ _ := trivial
  nextToken _ hi := ⟨inv_adv hi, trivial⟩
  setCont _ hi := ⟨inv_setCont hi, trivial⟩
  pushErr e _ hi := ⟨inv_pushErr e hi, trivial⟩
  errorLine := safe_errorLine hwf
  -- `nextToken` has just set `prev`
  parsePostfix _ hi := ⟨inv_adv hi, trivial⟩
  parseComment st hl := safe_parseComment hwf st (parseComment_regs _ hl)

theorem allSafe (hwf : StreamWF s) : ∀ fuel, AllSafe s fuel := fun fuel =>
  have h := safeClosed hwf
  have a := h.all fuel
  { parseExpression := a.parseExpression
    parseExpressionLoop := a.parseExpressionLoop
    prefixDispatch := fun fn st hi hl => a.prefixDispatch fn st (fun e => h.parseComment st (e ▸ hl)) hi
    infixDispatch := a.infixDispatch
    parseStatement := a.parseStatement
    parseReturnStatement := a.parseReturnStatement
    parseArrayLiteral := a.parseArrayLiteral
    parseGroupedExpression := a.parseGroupedExpression
    parsePrefixExpression := a.parsePrefixExpression
    parseLambdaMulti := a.parseLambdaMulti
    parseInfixExpression := a.parseInfixExpression
    parseForExpression := a.parseForExpression
    parseIfExpression := a.parseIfExpression
    parseBlockStatement := a.parseBlockStatement
    parseBlockLoop := a.parseBlockLoop
    parseFunctionLiteral := a.parseFunctionLiteral
    parseBuiltin := a.parseBuiltin
    parseCallExpression := a.parseCallExpression
    parseExpressionList := fun e he st => a.parseExpressionList e st (h.expect e he)
    parseExpressionListLoop := a.parseExpressionListLoop
    parseIndexExpression := a.parseIndexExpression
    parseMapLiteral := a.parseMapLiteral
    parseMapLoop := a.parseMapLoop
    parseMacroLiteral := a.parseMacroLiteral }

theorem inv_init (s : TokStream) : Inv s (init s) := ⟨Nat.le_refl 2, rfl, rfl, rfl⟩

theorem safe_parseProgramLoop (hwf : StreamWF s) (fuel : Nat) (acc : NList) : Safe s (parseProgramLoop s fuel acc) :=
  (safeClosed hwf).parseProgramLoop fuel acc

/-- **C08 (parser)**: on a well-formed token stream the parser never panics, whatever the fuel. -/
theorem parseProgram_no_panic (s : TokStream) (hwf : StreamWF s) (fuel : Nat) (site : PanicSite) :
    parseProgram s fuel ≠ .goPanic site := by
  have h := safe_parseProgramLoop hwf fuel [] (init s) (inv_init s)
  unfold parseProgram
  revert h
  cases parseProgramLoop s fuel [] (init s) with
  | goPanic p => intro h; exact h.elim
  | outOfFuel => intro _ h; cases h
  | ok r => intro _ h; cases h

end Grol.Parser
