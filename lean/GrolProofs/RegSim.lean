import GrolProofs.RegRewrite
import GrolProofs.CallRun
import GrolProofs.Props.C15chunks
import GrolProofs.Props.C06
/-
C05, the SIMULATION between the two configurations (registers on / off), at the level of the models.

Register-aware evaluation.  The evaluator model `Grol.E.eval` is the register-free configuration and
cannot be extended with a register node without touching `Node` (see RegRewrite.lean).  In the Go code
`evalInternal(*object.Register)` returns the register, which every consumer reads through `Int64Value` /
`object.Value` / `CopyRegister`, i.e. as the integer the register holds at that moment; an eligible
body never writes the register (`x = e`, `x++`, `++x` are refused), and the loop writes it only between
two evaluations of the body.  So DURING one evaluation of the body the register is a constant, and the
register-aware evaluation of a rewritten body is the evaluation of `inst regs b'`: the tree in which
every register node is the integer literal of its current content (`evalReg`).  That this is what the
Go code does with a Register object is not proved here; it is what the `eval` suite compares (registers
on vs the register-free model) on every generated program.

The loop around it (`evalForInteger` with a register): per iteration `regs[idx] := i`, evaluate
`inst regs b'`; at exit `Set(name, last)`.  Without: per iteration `Set(name, i)`, evaluate `b`.

What is proved (`C05.read_sim`, `C05.simulation_partial`): in a state whose current frame binds `n` to
`.int v` (the register-free configuration just did `Set(n, v)`), evaluating the rewritten body with the
register holding `v` and evaluating the original body give the same result AND the same state,
  * for the read of the variable itself (the leaf of the induction), any fuel, any deadline;
  * for every body of the arithmetic fragment `Arith`: the variable, other registers, literals, prefix
    operators other than `++`/`--`, infix operators other than `=`/`:=` (arithmetic, comparison, logic),
    and identifiers bound directly (not through a reference) in the current frame.
What is only stated (`C05.SimStatement`), with the hypotheses that are necessary:
  * `noCall`: no call in the body.  With calls the two configurations DIFFER exactly when the callee
    reads `n` through its defining scope (open finding `loop-variable-invisible-to-callee`); the precise
    hypothesis would be "no call whose callee mentions `n` free", which is not a property of the tree.
  * `identPositionsOk`: `n` does not occur where the evaluator wants an identifier and reports an error
    otherwise (`n[i] = e`, `n.f = e`, `del(n[i])`, `del(n.f)`): both configurations fail there, with
    different messages, so results are equal only up to the error text.
  * the frame does not shadow `n` (`Bound`): `n` is not an extension name, not `info`/`self`, not the name
    of the frame's own function (there, WITHOUT registers, the function wins over a parameter of the same
    name — finding `param-same-name-as-its-function`).
Call-free STATEMENTS (assignments to other variables, `if`, statement lists, `print`, `return`/`break`/`continue`,
identifiers resolved through references) are covered by `C05.simulation_stmt_partial` in RegSimStmt.lean, with the
invariant carried through `createOrSet`/`envDelete`/`makeRef` in RegSimEnv.lean.  Still missing for the full
statement: nested `for` loops, array/map literals, index reads and the remaining builtins (step lemmas of the same
kind), and calls (where the statement is false without the callee hypothesis).
The second half of the equivalence — a body that does not mention `n` evaluates the same whether or not
the frame binds `n` (the register configuration has no binding, or a stale one) — is stated as
`C05.IrrelevanceStatement`.
-/
namespace Grol.RegRewrite
open Grol.E

mutual
/-- the rewritten body as the evaluator sees it while the registers hold `regs` -/
def inst (regs : Nat → Int64) : RNode → Node
  | .reg _ i => .int (regs i)
  | .ident n => .ident n
  | .int v => .int v
  | .float b => .float b
  | .str s => .str s
  | .bool b => .bool b
  | .pre op r => .pre op (inst regs r)
  | .post op n => .post op n
  | .inf op l r => .inf op (inst regs l) (inst regs r)
  | .stmts l => .stmts (instList regs l)
  | .none => .none
  | .ifE c a b => .ifE (inst regs c) (inst regs a) (inst regs b)
  | .forE c b => .forE (inst regs c) (inst regs b)
  | .ctl k => .ctl k
  | .ret v => .ret (inst regs v)
  | .builtin t ps => .builtin t (instList regs ps)
  | .fn name ps variadic lambda key body => .fn name ps variadic lambda key (inst regs body)
  | .call f as => .call (inst regs f) (instList regs as)
  | .arr els => .arr (instList regs els)
  | .mapLit ks vs => .mapLit (instList regs ks) (instList regs vs)
  | .idx tok l i => .idx tok (inst regs l) (inst regs i)
  | .comment => .comment
  | .macroLit ps body => .macroLit ps (inst regs body)
def instList (regs : Nat → Int64) : List RNode → List Node
  | [] => []
  | x :: xs => inst regs x :: instList regs xs
end

/-- register-aware evaluation of a (rewritten) body: a register read gives the integer it holds -/
def evalReg (fuel : Nat) (regs : Nat → Int64) (b : RNode) : M Obj := evalI fuel (inst regs b)

/-- a read of `m` in `st` finds the value `o` bound DIRECTLY in the current frame: `m` is not an extension
name, not `info`/`self`, not the name of the frame's own function, and the binding is not a reference -/
structure Direct (m : String) (o : Obj) (st : St) : Prop where
  notExt : st.extNames.contains m = false
  notInfo : (m == "info") = false
  notSelf : (m == "self") = false
  frame : ∃ f, st.frames[st.cur]? = some f ∧ lookupStore f.store m = some o ∧
    (∀ fn, f.function = some fn → (fn.name == some m) = false)
  notRef : ∀ e k, o ≠ .ref e k

/-- the register-free configuration after `Set(n, v)`: `n` is bound to the integer in the current frame -/
def Bound (n : String) (v : Int64) (st : St) : Prop := Direct n (.int v) st

/-- the part of the state `Direct` depends on -/
def Same (st st' : St) : Prop := st'.frames = st.frames ∧ st'.cur = st.cur ∧ st'.extNames = st.extNames

theorem Same.refl (st : St) : Same st st := ⟨rfl, rfl, rfl⟩
theorem Same.trans {a b c : St} (h1 : Same a b) (h2 : Same b c) : Same a c :=
  ⟨h2.1.trans h1.1, h2.2.1.trans h1.2.1, h2.2.2.trans h1.2.2⟩

theorem Direct.of_same {m : String} {o : Obj} {st st' : St} (h : Direct m o st) (hs : Same st st') : Direct m o st' := by
  obtain ⟨h1, h2, h3, h4, h5⟩ := h
  obtain ⟨hf, hc, he⟩ := hs
  exact ⟨by rw [he]; exact h1, h2, h3, by rw [hf, hc]; exact h4, h5⟩

/-- `Environment.Get` on a direct binding: the value, no state change -/
theorem run_envGet_direct {m : String} {o : Obj} {st : St} (h : Direct m o st) :
    run (envGet st.cur m) st = (.ok (some o), st) := by
  obtain ⟨_, h2, h3, ⟨f, hf, hl, hfn⟩, h5⟩ := h
  exact run_envGet_bound hf h2 h3 hfn hl h5

/-- `evalIdentifier` on a direct binding -/
theorem run_evalIdentifier_direct {m : String} {o : Obj} {st : St} (h : Direct m o st) :
    run (evalIdentifier m) st = (.ok o, st) := by
  obtain ⟨h1, h2, h3, ⟨f, hf, hl, hfn⟩, h5⟩ := h
  exact run_evalIdentifier_bound h1 hf h2 h3 hfn hl h5

class Stable (I : St → Prop) : Prop where
  stable : ∀ st st', Same st st' → I st → I st'

instance (s0 : St) : Stable (Same s0) := ⟨fun _ _ h h0 => h0.trans h⟩

theorem Stable.step {I : St → Prop} [Stable I] {s s' : St} (hs : I s) (h : Same s s') : I s' := Stable.stable s s' h hs

def EqOn (I : St → Prop) (x x' : M α) : Prop := ∀ st, I st → run x st = run x' st ∧ I (run x st).2

/-- `bind` when the continuations are only related for the results the first computation can have -/
theorem EqOn.bind_post {I : St → Prop} {x x' : M α} {f f' : α → M β} {P : α → Prop} (hx : EqOn I x x')
    (hP : ∀ st, I st → ∀ a, (run x st).1 = .ok a → P a)
    (hf : ∀ a, P a → EqOn I (f a) (f' a)) : EqOn I (x >>= f) (x' >>= f') := by
  intro st hs
  obtain ⟨e, hs1⟩ := hx st hs
  rw [run_bind, run_bind, ← e]
  match h : run x st with
  | (.ok a, st1) =>
    simp only
    rw [h] at hs1
    exact hf a (hP st hs a (by rw [h])) st1 hs1
  | (.error err, st1) =>
    rw [h] at hs1
    exact ⟨rfl, hs1⟩

theorem EqOn.bind {I : St → Prop} {x x' : M α} {f f' : α → M β} (hx : EqOn I x x') (hf : ∀ a, EqOn I (f a) (f' a)) :
    EqOn I (x >>= f) (x' >>= f') :=
  EqOn.bind_post (P := fun _ => True) hx (fun _ _ _ _ => trivial) (fun a _ => hf a)

theorem EqOn.of_readOnly {I : St → Prop} {x : M α} (hx : ReadOnly x) : EqOn I x x :=
  fun st hs => ⟨rfl, by rw [hx st]; exact hs⟩

theorem EqOn.get_bind {I : St → Prop} {k k' : St → M β} (h : ∀ s, I s → EqOn I (k s) (k' s)) :
    EqOn I (get >>= k) (get >>= k') := by
  intro st hs
  rw [run_bind, run_bind, run_get]
  exact h st hs st hs

theorem EqOn.set_bind {I : St → Prop} {s' : St} {k k' : Unit → M β} (hs' : I s') (h : EqOn I (k ()) (k' ())) :
    EqOn I (set s' >>= k) (set s' >>= k') := by
  intro st _
  rw [run_bind, run_bind, run_set]
  exact h s' hs'

theorem EqOn.modify_bind {I : St → Prop} [Stable I] {g : St → St} {k k' : Unit → M β} (hg : ∀ st, Same st (g st)) (h : EqOn I (k ()) (k' ())) :
    EqOn I (modify g >>= k) (modify g >>= k') := by
  intro st hs
  rw [run_bind, run_bind, run_modify]
  exact h (g st) (Stable.stable _ _ (hg st) hs)

theorem EqOn.stop_bind {I : St → Prop} {e : Stop} {k k' : α → M β} :
    EqOn I ((stop e : M α) >>= k) ((stop e : M α) >>= k') := by
  intro st hs
  rw [run_bind, run_bind, run_stop]
  exact ⟨rfl, hs⟩

theorem eval_succ_eqOn {I : St → Prop} [Stable I] {fuel : Nat} {L L' : Node} (h : EqOn I (evalI fuel L) (evalI fuel L')) :
    EqOn I (eval (fuel+1) L) (eval (fuel+1) L') := by
  rw [eval, eval]
  apply EqOn.get_bind
  intro s hs
  simp (config := { zeta := true, zetaHave := true }) only
  split
  · exact EqOn.stop_bind
  · refine EqOn.set_bind ?_ ?_
    · exact Stable.step hs ⟨rfl, rfl, rfl⟩
    apply EqOn.bind h
    intro result
    refine EqOn.modify_bind ?_ ?_
    · exact fun st => ⟨rfl, rfl, rfl⟩
    apply EqOn.of_readOnly
    split
    · split
      · exact ReadOnly.bind (ReadOnly.pure _) (fun r => by split; exact readOnly_refValue _ _; exact ReadOnly.pure _)
      · exact ReadOnly.bind (ReadOnly.pure _) (fun r => by split; exact readOnly_refValue _ _; exact ReadOnly.pure _)
    · exact ReadOnly.bind (ReadOnly.pure _) (fun r => by split; exact readOnly_refValue _ _; exact ReadOnly.pure _)

/-! ### the cases of `evalI`

Every case of `evalI (fuel+1)` is `ticked` (step counter, deadline test) around the work of the case. -/

/-- the head of `evalI (fuel+1) _`: count the step, test the deadline, then `x` -/
def ticked (x : M Obj) : M Obj := do
  let st ← get
  set { st with steps := st.steps + 1 }
  match st.cfg.deadlineAfter with
  | some k => if st.steps ≥ k then pure (err "context deadline exceeded") else x
  | _ => x

theorem EqOn.ticked {I : St → Prop} [Stable I] {x y : M Obj} (h : EqOn I x y) : EqOn I (ticked x) (ticked y) := by
  apply EqOn.get_bind; intro s hs
  refine EqOn.set_bind (Stable.step hs ⟨rfl, rfl, rfl⟩) ?_
  split
  · split
    · exact EqOn.of_readOnly (ReadOnly.pure _)
    · exact h
  · exact h

theorem evalI_pre {fuel : Nat} {op : String} {R : Node} (hop : (op == "INCR" || op == "DECR") = false) :
    evalI (fuel+1) (.pre op R) = ticked (do
      let r ← eval fuel R
      if r.isError then pure r else pure (evalPrefixOp op r)) := by
  rw [evalI]; simp only [hop, Bool.false_eq_true, if_false]; rfl

theorem evalI_pre_eqOn {I : St → Prop} [Stable I] {fuel : Nat} {op : String} {R R' : Node} (hop : (op == "INCR" || op == "DECR") = false)
    (h : EqOn I (eval fuel R) (eval fuel R')) :
    EqOn I (evalI (fuel+1) (.pre op R)) (evalI (fuel+1) (.pre op R')) := by
  rw [evalI_pre hop, evalI_pre hop]
  exact EqOn.ticked (EqOn.bind h fun r => EqOn.of_readOnly (by split <;> exact ReadOnly.pure _))

/-! The infix case after the left operand, cut at its join points: three guards that either leave with a result
that does not depend on the state or go on with `k`, then the right operand and the operator. -/

def andGuard (op : String) (left : Obj) (k : M Obj) : M Obj := do
  if op == "AND" then if let .bool false := left then return .bool false
  k

def orGuard (op : String) (left : Obj) (k : M Obj) : M Obj := do
  if op == "OR" then if let .bool true := left then return .bool true
  k

/-- `paren`: the right operand is a call (`s | f(x)`) -/
def pipeGuard (op : String) (paren : Bool) (left : Obj) (k : M Obj) : M Obj := do
  if op == "BITOR" then
    if let .str _ := left then if paren then stop (.unmodelled "pipe")
  k

/-- `hz`: the name the hazard note records, `evr`: the evaluation of the right operand -/
def infixTail (op hz : String) (evr : M Obj) (left : Obj) : M Obj := do
  let right ← evr
  if right.isError then return right
  if let .array els := left then
    noteHazard (op == "PLUS" && els.length > (← get).cfg.maxSmallArray) "large-array-append-shares-capacity" hz
  evalInfixOp op left right

theorem evalI_inf {fuel : Nat} {op : String} {l r : Node} (hop : (op == "ASSIGN" || op == "DEFINE") = false) :
    evalI (fuel+1) (.inf op l r) = ticked (do
      let left ← eval fuel l
      if left.isError then pure left
      else andGuard op left (orGuard op left (pipeGuard op (r.tokType == "LPAREN") left
        (infixTail op (hazardBase l) (eval fuel r) left)))) := by
  rw [evalI]; simp only [hop, Bool.false_eq_true, if_false]; rfl

section
variable {I : St → Prop} {fuel : Nat} {op : String} {paren : Bool} {left : Obj} {k k' : M Obj}

theorem EqOn.andGuard (h : EqOn I k k') : EqOn I (andGuard op left k) (andGuard op left k') := by
  unfold RegRewrite.andGuard
  split
  · split
    · exact EqOn.of_readOnly (ReadOnly.pure _)
    · exact h
  · exact h

theorem EqOn.orGuard (h : EqOn I k k') : EqOn I (orGuard op left k) (orGuard op left k') := by
  unfold RegRewrite.orGuard
  split
  · split
    · exact EqOn.of_readOnly (ReadOnly.pure _)
    · exact h
  · exact h

theorem EqOn.pipeGuard (h : EqOn I k k') : EqOn I (pipeGuard op paren left k) (pipeGuard op paren left k') := by
  unfold RegRewrite.pipeGuard
  split
  · split
    · split
      · exact EqOn.stop_bind
      · exact h
    · exact h
  · exact h

/-- the hazard note names the left operand: the two names agree, or the left value is no array (and nothing is noted) -/
theorem EqOn.infixTail [Stable I] {hz hz' : String} {evr evr' : M Obj} (hr : EqOn I evr evr')
    (hh : hz = hz' ∨ ∀ els, left ≠ .array els) : EqOn I (infixTail op hz evr left) (infixTail op hz' evr' left) := by
  unfold RegRewrite.infixTail
  refine EqOn.bind hr fun right => ?_
  split
  · exact EqOn.of_readOnly (ReadOnly.pure _)
  · split
    · next els =>
      cases hh with
      | inr h => exact absurd rfl (h els)
      | inl h =>
        rw [h]
        refine EqOn.get_bind fun s _ => ?_
        unfold noteHazard
        split
        · exact EqOn.modify_bind (fun _ => ⟨rfl, rfl, rfl⟩) (EqOn.of_readOnly (evalInfixOp_readOnly _ _ _))
        · exact EqOn.bind (EqOn.of_readOnly (ReadOnly.pure _)) fun _ => EqOn.of_readOnly (evalInfixOp_readOnly _ _ _)
    · exact EqOn.of_readOnly (evalInfixOp_readOnly _ _ _)

variable {L L' R R' : Node}

/-- the side condition of the infix case: same name on the left, or the left value is never an array -/
def HazOk (I : St → Prop) (fuel : Nat) (L L' : Node) : Prop :=
  hazardBase L = hazardBase L' ∨ ∀ st, I st → ∀ els, (run (eval fuel L) st).1 ≠ .ok (.array els)

theorem evalI_inf_eqOn [Stable I] (hop : (op == "ASSIGN" || op == "DEFINE") = false)
    (ht : (R.tokType == "LPAREN") = (R'.tokType == "LPAREN"))
    (hl : EqOn I (eval fuel L) (eval fuel L')) (hr : EqOn I (eval fuel R) (eval fuel R')) (hz : HazOk I fuel L L') :
    EqOn I (evalI (fuel+1) (.inf op L R)) (evalI (fuel+1) (.inf op L' R')) := by
  rw [evalI_inf hop, evalI_inf hop, ht]
  refine EqOn.ticked (EqOn.bind_post (P := fun left => hazardBase L = hazardBase L' ∨ ∀ els, left ≠ .array els) hl ?_ ?_)
  · intro st hst a ha
    exact hz.imp id fun h els he => h st hst els (by rw [ha, he])
  · intro left hleft
    split
    · exact EqOn.of_readOnly (ReadOnly.pure _)
    · exact EqOn.andGuard (EqOn.orGuard (EqOn.pipeGuard (EqOn.infixTail hr hleft)))
end

theorem eval_int_not_array (fuel : Nat) (v : Int64) (st : St) (els : List Obj) :
    (run (eval fuel (.int v)) st).1 ≠ .ok (.array els) := by
  -- an integer literal evaluates to itself or to the deadline error, if it evaluates at all
  match fuel with
  | 0 => intro h; cases h
  | 1 => rw [run_eval]; split <;> (intro h; cases h)
  | fuel + 2 =>
    rw [run_eval]
    split
    · intro h; cases h
    · rw [show evalI (fuel + 1) (.int v) = C15.enter (pure (.int v)) by rw [evalI]; exact C15.enter_of _]
      rcases C15.run_enter_cases (pure (.int v)) { st with depth := st.depth + 1 } with h | h <;> rw [h] <;>
        (intro h; cases h)

macro "pres_crawl" : tactic => `(tactic| repeat' (first
  | exact Pres.of_readOnly (ReadOnly.pure _)
  | exact Pres.of_readOnly (evalInfixOp_readOnly _ _ _)
  | exact Pres.bind (Pres.of_readOnly ReadOnly.get) (fun _ => Pres.bind (pres_noteHazard _ _ _) (fun _ => Pres.of_readOnly (evalInfixOp_readOnly _ _ _)))
  | split))

macro "inf_crawl" ht:ident hr:ident : tactic => `(tactic| repeat' (first
  | contradiction
  | with_reducible exact $ht _ (by assumption)
  | with_reducible exact EqOn.of_readOnly (ReadOnly.pure _)
  | with_reducible exact EqOn.stop_bind
  | (with_reducible apply EqOn.bind $hr; intro right; apply EqOn.of_pres; pres_crawl)
  | split))

/-- the infix case for one setting of the three operator tests the evaluator makes (`and`, `or`, `|`): with them
decided the unfolded body is small.  `$ha $ho $hb` are the hypotheses `(op == "AND") = …` etc. -/
macro "inf_proof" I:ident fuel:ident op:ident L:ident L':ident R:ident R':ident hop:ident ht:ident hl:ident hr:ident hz:ident ha:ident ho:ident hb:ident : tactic => `(tactic| (
  rw [evalI, evalI]
  apply EqOn.get_bind; intro s hs
  refine EqOn.set_bind ?_ ?_
  · exact Stable.step hs ⟨rfl, rfl, rfl⟩
  have htail : ∀ left : Obj, LeftOk $L $L' left → EqOn $I
      (do let right ← eval $fuel $R
          if right.isError = true then pure right
          else match left with
            | Obj.array l => do
              let __do_lift ← get
              noteHazard ($op == "PLUS" && decide (l.length > __do_lift.cfg.maxSmallArray)) "large-array-append-shares-capacity" (hazardBase $L)
              evalInfixOp $op left right
            | x => evalInfixOp $op left right)
      (do let right ← eval $fuel $R'
          if right.isError = true then pure right
          else match left with
            | Obj.array l => do
              let __do_lift ← get
              noteHazard ($op == "PLUS" && decide (l.length > __do_lift.cfg.maxSmallArray)) "large-array-append-shares-capacity" (hazardBase $L')
              evalInfixOp $op left right
            | x => evalInfixOp $op left right) := by
    intro left hleft
    apply EqOn.bind $hr; intro right
    cases hleft with
    | inl hn =>
      rw [hn]
      apply EqOn.of_pres
      split
      · exact Pres.of_readOnly (ReadOnly.pure _)
      · split
        · exact Pres.bind (Pres.of_readOnly ReadOnly.get) (fun _ => Pres.bind (pres_noteHazard _ _ _) (fun _ => Pres.of_readOnly (evalInfixOp_readOnly _ _ _)))
        · exact Pres.of_readOnly (evalInfixOp_readOnly _ _ _)
    | inr hna =>
      split
      · exact EqOn.of_readOnly (ReadOnly.pure _)
      · split
        · exact absurd rfl (hna _)
        · exact EqOn.of_readOnly (evalInfixOp_readOnly _ _ _)
  have hP : ∀ st, $I st → ∀ a, (run (eval $fuel $L) st).1 = .ok a → LeftOk $L $L' a := by
    intro st hst a ha'
    cases $hz:ident with
    | inl h => exact Or.inl h
    | inr h => exact Or.inr (fun els he => h st hst els (by rw [ha', he]))
  simp (config := { zeta := true, zetaHave := true }) only [$hop:ident, $ha:ident, $ho:ident, $hb:ident, Bool.false_eq_true, if_false, if_true]
  try rw [$ht:ident]
  split
  · rename_i k _
    by_cases hk : s.steps ≥ k
    · rw [if_pos hk, if_pos hk]; exact EqOn.of_readOnly (ReadOnly.pure _)
    · rw [if_neg hk, if_neg hk]
      refine EqOn.bind_post $hl hP ?_; intro left hleft
      inf_crawl htail $hr
  · refine EqOn.bind_post $hl hP ?_; intro left hleft
    inf_crawl htail $hr))

/-- bodies of the fragment: the variable, registers, literals, identifiers bound directly in the current frame
of `s0`, prefix operators other than `++`/`--`, infix operators other than `=`/`:=` -/
def Arith (n : String) (s0 : St) : RNode → Prop
  | .ident m => m = n ∨ ∃ o, Direct m o s0
  | .reg .. | .int _ | .bool _ | .str _ | .float _ => True
  | .pre op r => (op == "INCR" || op == "DECR") = false ∧ Arith n s0 r
  | .inf op l r => (op == "ASSIGN" || op == "DEFINE") = false ∧ Arith n s0 l ∧ Arith n s0 r
  | _ => False

theorem tokType_paren (regs : Nat → Int64) (n : String) (idx : Nat) (r : RNode) :
    ((inst regs (substAll n idx r)).tokType == "LPAREN") = ((inst regs r).tokType == "LPAREN") := by
  cases r <;> try rfl
  case ident m =>
    by_cases h : (m == n) = true
    · simp only [substAll, h, if_true, inst, Node.tokType]; decide
    · simp only [substAll, h, inst]; rfl

theorem eqOn_ident {s0 : St} {m : String} {o : Obj} (h : Direct m o s0) : EqOn (Same s0) (pure o) (evalIdentifier m) := by
  intro st hs
  rw [run_evalIdentifier_direct (h.of_same hs)]
  exact ⟨rfl, hs⟩

theorem eqOn_ident_self {s0 : St} {m : String} {o : Obj} (h : Direct m o s0) : EqOn (Same s0) (evalIdentifier m) (evalIdentifier m) := by
  intro st hs
  rw [run_evalIdentifier_direct (h.of_same hs)]
  exact ⟨rfl, hs⟩

/-- (c), the leaf: in a state where the current frame binds `n` to `.int v`, reading the register that holds
`v` (= evaluating the literal) and reading the variable give the same result and the same state — same
step count, same deadline behaviour, any fuel -/
theorem C05.read_sim (n : String) (v : Int64) (fuel : Nat) (st : St) (h : Bound n v st) :
    run (evalI fuel (.ident n)) st = run (evalI fuel (.int v)) st := by
  cases fuel with
  | zero => rfl
  | succ fuel =>
    rw [evalI, evalI]
    exact ((EqOn.ticked (eqOn_ident h)) st (Same.refl st)).1.symm

theorem sim_arith (n : String) (idx : Nat) (v : Int64) (regs : Nat → Int64) (hregs : regs idx = v) (s0 : St) (hb : Bound n v s0) :
    ∀ (fuel : Nat) (b : RNode), Arith n s0 b →
      EqOn (Same s0) (evalI fuel (inst regs (substAll n idx b))) (evalI fuel (inst regs b)) ∧
      EqOn (Same s0) (eval fuel (inst regs (substAll n idx b))) (eval fuel (inst regs b)) := by
  intro fuel
  induction fuel with
  | zero =>
    intro b _
    constructor
    · rw [evalI, evalI]; exact EqOn.of_readOnly (ReadOnly.stop _)
    · rw [eval, eval]; exact EqOn.of_readOnly (ReadOnly.stop _)
  | succ fuel ih =>
    intro b hb'
    refine ⟨?_, eval_succ_eqOn (ih b hb').1⟩
    cases b with
    | ident m =>
      by_cases hm : (m == n) = true
      · have : m = n := eq_of_beq hm
        subst this
        simp only [substAll, hm, if_true, inst, hregs]
        rw [evalI, evalI]
        exact EqOn.ticked (eqOn_ident hb)
      · simp only [substAll, hm, inst]
        cases hb' with
        | inl h => exact absurd (by rw [h]; exact beq_self_eq_true n) hm
        | inr h =>
          obtain ⟨o, ho⟩ := h
          rw [evalI]
          exact EqOn.ticked (eqOn_ident_self ho)
    | reg m i => simp only [substAll, inst]; rw [evalI]; exact EqOn.ticked (EqOn.of_readOnly (ReadOnly.pure _))
    | int w => simp only [substAll, inst]; rw [evalI]; exact EqOn.ticked (EqOn.of_readOnly (ReadOnly.pure _))
    | bool w => simp only [substAll, inst]; rw [evalI]; exact EqOn.ticked (EqOn.of_readOnly (ReadOnly.pure _))
    | str w => simp only [substAll, inst]; rw [evalI]; exact EqOn.ticked (EqOn.of_readOnly (ReadOnly.pure _))
    | float w => simp only [substAll, inst]; rw [evalI]; exact EqOn.ticked (EqOn.of_readOnly (ReadOnly.pure _))
    | pre op r =>
      simp only [substAll, inst]
      exact evalI_pre_eqOn hb'.1 (ih r hb'.2).2
    | inf op l r =>
      simp only [substAll, inst]
      refine evalI_inf_eqOn hb'.1 (tokType_paren regs n idx r) (ih l hb'.2.1).2 (ih r hb'.2.2).2 ?_
      -- the hazard note names the left operand: the same on both sides, except for the variable itself, whose
      -- register side is an integer literal (never an array)
      cases l with
      | ident m =>
        by_cases hm : (m == n) = true
        · refine Or.inr (fun st _ els => ?_)
          simp only [substAll, hm, if_true, inst]
          exact eval_int_not_array fuel _ st els
        · exact Or.inl (by simp only [substAll, hm, inst]; rfl)
      | _ => exact Or.inl rfl
    | _ => exact absurd hb' (by simp [Arith])

/-! ### the general statement (not proved) -/

mutual
/-- no call anywhere in the body (function and macro literals are refused by the rewrite anyway) -/
def noCall : RNode → Bool
  | .call .. => false
  | .pre _ r => noCall r
  | .inf _ l r => noCall l && noCall r
  | .stmts l => noCallList l
  | .ifE c a b => noCall c && noCall a && noCall b
  | .forE c b => noCall c && noCall b
  | .ret v => noCall v
  | .builtin _ ps => noCallList ps
  | .fn .. => false
  | .arr els => noCallList els
  | .mapLit ks vs => noCallList ks && noCallList vs
  | .idx _ l i => noCall l && noCall i
  | .macroLit .. => false
  | .ident _ | .int _ | .float _ | .str _ | .bool _ | .post .. | .none | .ctl _ | .comment | .reg .. => true
def noCallList : List RNode → Bool
  | [] => true
  | x :: xs => noCall x && noCallList xs
end

/-- is `x[..]` / `x.f` with `x` the variable -/
def isVarIndex (name : String) (idx : Nat) : RNode → Bool
  | .idx _ l _ => isVar name idx l
  | _ => false

mutual
/-- the variable does not occur where the evaluator insists on an identifier and answers an error otherwise
(`x[i] = e`, `x.f = e`, `del(x[i])`, `del(x.f)`), nor as the left side of a `.` (namespaced extension lookup):
there both configurations fail, but with different messages -/
def identPositionsOk (name : String) (idx : Nat) : RNode → Bool
  | .inf op l r =>
    !((op == "ASSIGN" || op == "DEFINE") && isVarIndex name idx l) && identPositionsOk name idx l && identPositionsOk name idx r
  | .builtin t ps =>
    (match ps with
     | [p] => !(t == "DEL" && isVarIndex name idx p)
     | _ => true) && identPositionsOkList name idx ps
  | .idx tok l i => !(tok == "DOT" && isVar name idx l) && identPositionsOk name idx l && identPositionsOk name idx i
  | .pre _ r => identPositionsOk name idx r
  | .stmts l => identPositionsOkList name idx l
  | .ifE c a b => identPositionsOk name idx c && identPositionsOk name idx a && identPositionsOk name idx b
  | .forE c b => identPositionsOk name idx c && identPositionsOk name idx b
  | .ret v => identPositionsOk name idx v
  | .fn _ _ _ _ _ body => identPositionsOk name idx body
  | .call f as => identPositionsOk name idx f && identPositionsOkList name idx as
  | .arr els => identPositionsOkList name idx els
  | .mapLit ks vs => identPositionsOkList name idx ks && identPositionsOkList name idx vs
  | .macroLit _ body => identPositionsOk name idx body
  | .ident _ | .int _ | .float _ | .str _ | .bool _ | .post .. | .none | .ctl _ | .comment | .reg .. => true
def identPositionsOkList (name : String) (idx : Nat) : List RNode → Bool
  | [] => true
  | x :: xs => identPositionsOk name idx x && identPositionsOkList name idx xs
end

/-- (c), the simulation for one evaluation of the body: if the rewrite of `b` for `n` succeeded, the register
holds `v`, the body contains no call and `n` is not used in an identifier-only position, then in every state
whose current frame binds `n` to `.int v` the register-aware evaluation of the rewritten body and the
evaluation of the original body have the same outcome (value, error, Go panic, …) and the same final state
(output, bindings, cache, counters).  `b` may hold registers of enclosing rewrites (`regs` gives their
contents, the same on both sides). -/
def C05.SimStatement : Prop :=
  ∀ (n : String) (idx : Nat) (v : Int64) (regs : Nat → Int64) (b b' : RNode) (fuel : Nat) (st : St),
    modifyR n idx b = some b' → regs idx = v → noCall b = true → identPositionsOk n idx b = true → Bound n v st →
    run (evalReg fuel regs b') st = run (evalI fuel (inst regs b)) st

/-- the state in which the current frame has no binding of `n` (the register configuration, where the variable
is only written back at the end of the loop) -/
def dropBinding (n : String) (st : St) : St :=
  { st with frames := st.frames.modify st.cur fun f => { f with store := delStore f.store n } }

/-- the other half: a body that does not name `n` at all (no identifier, no `n++`, nothing the rewrite refuses)
and calls nothing evaluates the same whether or not the current frame binds `n` -/
def C05.IrrelevanceStatement : Prop :=
  ∀ (n : String) (idx : Nat) (regs : Nat → Int64) (b : RNode) (fuel : Nat) (st : St),
    countIdent n b = 0 → refuses n idx b = false → noCall b = true → (n == "info") = false →
    (run (evalReg fuel regs b) (dropBinding n st)).1 = (run (evalReg fuel regs b) st).1 ∧
    (run (evalReg fuel regs b) (dropBinding n st)).2 = dropBinding n (run (evalReg fuel regs b) st).2

/-- (c) for the arithmetic fragment: if the rewrite of `b` for `n` succeeded and the register holds `v`, then in
every state whose current frame binds `n` to `.int v`, the register-aware evaluation of the rewritten body and the
evaluation of the original body have the same outcome and the same final state — any fuel, any deadline.
(`SimStatement` with `noCall`/`identPositionsOk` replaced by the stronger `Arith`.) -/
theorem C05.simulation_partial (n : String) (idx : Nat) (v : Int64) (regs : Nat → Int64) (b b' : RNode) (fuel : Nat) (st : St)
    (hm : modifyR n idx b = some b') (hregs : regs idx = v) (hb : Bound n v st) (ha : Arith n st b) :
    run (evalReg fuel regs b') st = run (evalI fuel (inst regs b)) st := by
  cases modifyR_eq_some hm
  exact ((sim_arith n idx v regs hregs st hb fuel b ha).1 st (Same.refl st)).1

/-- non-vacuity: the body `i * i + 1 < x` of a loop `for i = …` at top level, with `i = 2` and `x = 7` bound -/
def exampleState : St := { (initState {}) with frames := #[{ store := [("i", .int 2), ("x", .int 7)] }] }

example : Bound "i" 2 exampleState :=
  ⟨by decide +kernel, by decide +kernel, by decide +kernel,
   ⟨{ store := [("i", .int 2), ("x", .int 7)] }, rfl, rfl, fun fn h => by cases h⟩, fun e k h => by cases h⟩

example : Arith "i" exampleState
    (.inf "LT" (.inf "PLUS" (.inf "ASTERISK" (.ident "i") (.ident "i")) (.int 1)) (.ident "x")) :=
  ⟨by decide +kernel, ⟨by decide +kernel, ⟨by decide +kernel, Or.inl rfl, Or.inl rfl⟩, trivial⟩,
   Or.inr ⟨.int 7, by decide +kernel, by decide +kernel, by decide +kernel,
     ⟨{ store := [("i", .int 2), ("x", .int 7)] }, rfl, rfl, fun fn h => by cases h⟩, fun e k h => by cases h⟩⟩

end Grol.RegRewrite
