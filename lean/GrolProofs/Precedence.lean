import Grol.Generated.Precedence
/-
Hand-written expectations about the tables regenerated from the Go source on every run
(`harness extract` → lean/Grol/Generated/Precedence.lean).  A changed precedence, priority level or
parser registration breaks one of these `decide`s (the model imports the generated tables, so the
correspondence run alone would not notice: model and code would move together).
-/
namespace Grol.Generated

/-- the documented operator precedences (comments of `ast.Priority` in ast/ast.go) -/
def documentedPrecedences : List (TokType × Nat) := [
  (.ASSIGN, 2), (.PLUS, 8), (.MINUS, 8), (.ASTERISK, 9), (.SLASH, 10), (.PERCENT, 9), (.LT, 7), (.GT, 7),
  (.BITAND, 9), (.BITOR, 8), (.BITXOR, 8), (.LPAREN, 12), (.LBRACKET, 13), (.COLON, 4), (.DOT, 14),
  (.LTEQ, 7), (.GTEQ, 7), (.EQ, 6), (.NOTEQ, 6), (.INCR, 11), (.DECR, 11), (.OR, 3), (.AND, 4),
  (.LEFTSHIFT, 9), (.RIGHTSHIFT, 9), (.LAMBDA, 5), (.DEFINE, 2)]

theorem precedences_documented : precedences = documentedPrecedences := by decide +kernel

theorem priorities_documented :
    priorityNames = [("LOWEST", 1), ("ASSIGN", 2), ("OR", 3), ("AND", 4), ("LAMBDA", 5), ("EQUALS", 6), ("LESSGREATER", 7),
      ("SUM", 8), ("PRODUCT", 9), ("DIVIDE", 10), ("PREFIX", 11), ("CALL", 12), ("INDEX", 13), ("DOTINDEX", 14)] := by decide +kernel

theorem prefix_registrations_expected : prefixRegs = [
    (.IDENT, .parseIdentifier), (.DOTDOT, .parseIdentifier), (.INT, .parseIntegerLiteral), (.FLOAT, .parseFloatLiteral),
    (.BANG, .parsePrefixExpression), (.MINUS, .parsePrefixExpression), (.PLUS, .parsePrefixExpression),
    (.INCR, .parsePrefixExpression), (.DECR, .parsePrefixExpression), (.BITNOT, .parsePrefixExpression),
    (.BITXOR, .parsePrefixExpression), (.TRUE, .parseBoolean), (.FALSE, .parseBoolean), (.LPAREN, .parseGroupedExpression),
    (.IF, .parseIfExpression), (.FOR, .parseForExpression), (.BREAK, .parseControlExpression),
    (.CONTINUE, .parseControlExpression), (.FUNC, .parseFunctionLiteral), (.STRING, .parseStringLiteral),
    (.LEN, .parseBuiltin), (.FIRST, .parseBuiltin), (.REST, .parseBuiltin), (.LBRACKET, .parseArrayLiteral),
    (.LBRACE, .parseMapLiteral), (.LINECOMMENT, .parseComment), (.BLOCKCOMMENT, .parseComment), (.PRINT, .parseBuiltin),
    (.PRINTLN, .parseBuiltin), (.LOG, .parseBuiltin), (.MACRO, .parseMacroLiteral), (.ERROR, .parseBuiltin),
    (.CATCH, .parseBuiltin), (.QUOTE, .parseBuiltin), (.UNQUOTE, .parseBuiltin), (.DEL, .parseBuiltin)] := by decide +kernel

theorem infix_registrations_expected : infixRegs = [
    (.PLUS, .parseInfixExpression), (.MINUS, .parseInfixExpression), (.SLASH, .parseInfixExpression),
    (.PERCENT, .parseInfixExpression), (.ASTERISK, .parseInfixExpression), (.EQ, .parseInfixExpression),
    (.NOTEQ, .parseInfixExpression), (.LT, .parseInfixExpression), (.LTEQ, .parseInfixExpression),
    (.GT, .parseInfixExpression), (.GTEQ, .parseInfixExpression), (.LPAREN, .parseCallExpression),
    (.LBRACKET, .parseIndexExpression), (.DOT, .parseIndexExpression), (.LEFTSHIFT, .parseInfixExpression),
    (.RIGHTSHIFT, .parseInfixExpression), (.OR, .parseInfixExpression), (.AND, .parseInfixExpression),
    (.BITAND, .parseInfixExpression), (.BITOR, .parseInfixExpression), (.BITXOR, .parseInfixExpression),
    (.COLON, .parseInfixExpression), (.LAMBDA, .parseLambdaExpression), (.ASSIGN, .parseInfixExpression),
    (.DEFINE, .parseInfixExpression)] := by decide +kernel

theorem postfix_registrations_expected :
    postfixRegs = [(.INCR, .parsePostfixExpression), (.DECR, .parsePostfixExpression)] := by decide +kernel

end Grol.Generated
