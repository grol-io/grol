import GrolProofs.SaveQuote
/-
C14 lemmas: the printed form of a data value contains no newline byte, hence every line
`SaveGlobals` writes for a data binding is exactly one line.
-/
namespace Grol.Save
open Grol.E
open Grol.Wire (Bytes)

def NoNL (l : Bytes) : Prop := ∀ x ∈ l, x ≠ 10

theorem NoNL.append {a b : Bytes} (ha : NoNL a) (hb : NoNL b) : NoNL (a ++ b) := by
  intro x hx
  rcases List.mem_append.mp hx with h | h
  · exact ha x h
  · exact hb x h

theorem noNL_of_all {l : Bytes} (h : l.all (· != 10) = true) : NoNL l := by
  intro x hx
  have := List.all_eq_true.mp h x hx
  simpa using this

theorem digitBytes_noNL (n : Nat) : NoNL (digitBytes n) := by
  intro x hx
  unfold digitBytes at hx
  obtain ⟨c, hc, rfl⟩ := List.mem_map.mp hx
  have hd := Nat.isDigit_of_mem_toDigits (by decide) (by decide) hc
  simp only [Char.isDigit, Bool.and_eq_true, decide_eq_true_eq] at hd
  intro h10
  have h48 : 48 ≤ c.toNat := by
    have := hd.1
    exact UInt32.le_iff_toNat_le.mp this
  have h57 : c.toNat ≤ 57 := by
    have := hd.2
    exact UInt32.le_iff_toNat_le.mp this
  have : (c.toNat.toUInt8).toNat = c.toNat := by
    simp [Nat.toUInt8, UInt8.toNat_ofNat']
    omega
  rw [h10] at this
  simp at this
  omega

theorem intBytes_noNL (v : Int64) : NoNL (intBytes v) := by
  unfold intBytes
  split
  · intro x hx
    rcases List.mem_cons.mp hx with rfl | h
    · decide
    · exact digitBytes_noNL _ x h
  · exact digitBytes_noNL _

theorem quoteBody_noNL : ∀ (s : Bytes) (out : Bytes), quoteBody s = some out → NoNL out
  | [], out, h => by
    obtain rfl : [] = out := Option.some.inj h
    exact noNL_of_all rfl
  | b :: rest, out, h => by
    obtain ⟨q, r, hq, hr, rfl⟩ := quoteBody_cons h
    exact (noNL_of_all (quoteByte_some hq).2.2).append (quoteBody_noNL rest r hr)

theorem quoteAscii_noNL {s out : Bytes} (h : quoteAscii s = .ok out) : NoNL out := by
  unfold quoteAscii at h
  cases hb : quoteBody s with
  | none => simp [hb, throw, throwThe, MonadExceptOf.throw] at h
  | some b =>
    simp [hb, pure, Except.pure] at h
    subst h
    have hq : NoNL ([34] : Bytes) := by intro x hx; simp at hx; subst hx; decide
    exact (hq.append (quoteBody_noNL s b hb)).append hq

theorem floatBytes_noNL {bits : UInt64} {out : Bytes} (h : floatBytes bits = .ok out) : NoNL out := by
  unfold floatBytes at h
  simp only at h
  split at h
  · simp [pure, Except.pure] at h; subst h; exact noNL_of_all (by decide)
  · split at h
    · simp [pure, Except.pure] at h; subst h
      split
      · exact noNL_of_all (by decide)
      · exact noNL_of_all (by decide)
    · split at h
      · split at h
        · simp [pure, Except.pure] at h; subst h; exact noNL_of_all (by decide)
        · simp [pure, Except.pure] at h
          subst h
          exact (intBytes_noNL _).append (noNL_of_all (l := [46, 48]) (by decide))
      · simp [throw, throwThe, MonadExceptOf.throw] at h

mutual
/-- numbers, strings, booleans, nil, and arrays / maps of them -/
def isData : Obj → Bool
  | .null | .bool _ | .int _ | .float _ | .str _ => true
  | .array els => isDataList els
  | .map _ kvs => isDataPairs kvs
  | _ => false
def isDataList : List Obj → Bool
  | [] => true
  | x :: xs => isData x && isDataList xs
def isDataPairs : List (Obj × Obj) → Bool
  | [] => true
  | (k, v) :: xs => isData k && isData v && isDataPairs xs
end

/-- the two library printers of a `Fmt` never write a newline -/
structure Fmt.OneLine (fm : Fmt) : Prop where
  quote : ∀ s out, fm.quote s = .ok out → NoNL out
  float : ∀ b out, fm.float b = .ok out → NoNL out

theorem stdFmt_oneLine : stdFmt.OneLine :=
  ⟨fun _ _ h => quoteAscii_noNL h, fun _ _ h => floatBytes_noNL h⟩

theorem noNL_single {b : UInt8} (h : b ≠ 10) : NoNL [b] := by
  intro x hx
  simp at hx
  subst hx
  exact h

theorem bind_ok {α β : Type} {x : R α} {f : α → R β} {out : β} (h : (x >>= f) = .ok out) :
    ∃ a, x = .ok a ∧ f a = .ok out := by
  cases x with
  | error e => cases h
  | ok a => exact ⟨a, rfl, h⟩

mutual
theorem inspectP_noNL (fm : Fmt) (hf : fm.OneLine) : ∀ (v : Obj) (out : Bytes), isData v = true →
    inspectP fm v = .ok out → NoNL out
  | .null, out, _, h => by
    cases h; exact noNL_of_all (by decide)
  | .bool b, out, _, h => by
    cases h; cases b <;> exact noNL_of_all (by decide)
  | .int v, out, _, h => by
    cases h; exact intBytes_noNL v
  | .float b, out, _, h => hf.float b out h
  | .str s, out, _, h => hf.quote s out h
  | .array els, out, hd, h => by
    obtain ⟨parts, hp, h⟩ := bind_ok h
    cases h
    exact ((noNL_single (by decide)).append (inspectListP_noNL fm hf els parts hd hp)).append (noNL_single (by decide))
  | .map big kvs, out, hd, h => by
    obtain ⟨parts, hp, h⟩ := bind_ok h
    cases h
    exact ((noNL_single (by decide)).append (inspectPairsP_noNL fm hf kvs parts hd hp)).append (noNL_single (by decide))
  | .func _, _, hd, _ => by cases hd
  | .ext _, _, hd, _ => by cases hd
  | .error _, _, hd, _ => by cases hd
  | .ret _ _, _, hd, _ => by cases hd
  | .ref _ _, _, hd, _ => by cases hd
  | .quote _, _, hd, _ => by cases hd
theorem inspectListP_noNL (fm : Fmt) (hf : fm.OneLine) : ∀ (l : List Obj) (out : Bytes), isDataList l = true →
    inspectListP fm l = .ok out → NoNL out
  | [], out, _, h => by
    cases h; exact noNL_of_all rfl
  | [x], out, hd, h => by
    simp only [inspectListP] at h
    exact inspectP_noNL fm hf x out (by simpa [isDataList] using hd) h
  | x :: y :: ys, out, hd, h => by
    simp only [inspectListP] at h
    simp only [isDataList, Bool.and_eq_true] at hd
    obtain ⟨a, hx, h⟩ := bind_ok h
    obtain ⟨r, hr, h⟩ := bind_ok h
    cases h
    exact ((inspectP_noNL fm hf x a hd.1 hx).append (noNL_single (by decide))).append
      (inspectListP_noNL fm hf (y :: ys) r (by simp [isDataList, hd.2]) hr)
theorem inspectPairsP_noNL (fm : Fmt) (hf : fm.OneLine) : ∀ (l : List (Obj × Obj)) (out : Bytes), isDataPairs l = true →
    inspectPairsP fm l = .ok out → NoNL out
  | [], out, _, h => by
    cases h; exact noNL_of_all rfl
  | [(k, v)], out, hd, h => by
    simp only [inspectPairsP] at h
    simp only [isDataPairs, Bool.and_eq_true] at hd
    obtain ⟨a, hk, h⟩ := bind_ok h
    obtain ⟨b, hv, h⟩ := bind_ok h
    cases h
    exact ((inspectP_noNL fm hf k a hd.1.1 hk).append (noNL_single (by decide))).append
      (inspectP_noNL fm hf v b hd.1.2 hv)
  | (k, v) :: y :: ys, out, hd, h => by
    simp only [inspectPairsP] at h
    rw [isDataPairs] at hd
    simp only [Bool.and_eq_true] at hd
    obtain ⟨a, hk, h⟩ := bind_ok h
    obtain ⟨b, hv, h⟩ := bind_ok h
    obtain ⟨r, hr, h⟩ := bind_ok h
    cases h
    exact ((((inspectP_noNL fm hf k a hd.1.1 hk).append (noNL_single (by decide))).append
      (inspectP_noNL fm hf v b hd.1.2 hv)).append (noNL_single (by decide))).append
      (inspectPairsP_noNL fm hf (y :: ys) r hd.2 hr)
end

end Grol.Save
