import GrolProofs.MapModel
/-
Every map operation preserves the representation invariant and commutes with the abstraction to the
reference finite map.
-/
namespace Grol.Map
open Grol.Ord

variable {κ ν : Type}

/-- representation invariant: strictly sorted keys (hence no two `c`-equal keys) and a small map holds
at most `maxSmall` pairs -/
def Inv (c : κ → κ → Int) (maxSmall : Nat) (m : M κ ν) : Prop :=
  Sorted c m.kvs ∧ (m.isBig = false → m.len ≤ maxSmall)

theorem length_setVal (l : List (κ × ν)) : ∀ i v, (setVal l i v).length = l.length := by
  induction l with
  | nil => intro i v; rfl
  | cons p rest ih =>
    intro i v
    obtain ⟨k, v0⟩ := p
    cases i <;> simp [setVal, ih]

theorem length_insertAt (l : List (κ × ν)) (i : Nat) (x : κ × ν) : (insertAt l i x).length = l.length + 1 := by
  simp only [insertAt, List.length_append, List.length_cons, List.length_take, List.length_drop]
  omega

theorem length_erase_le (c : κ → κ → Int) (key : κ) (l : List (κ × ν)) : (Spec.erase c key l).length ≤ l.length := by
  induction l with
  | nil => simp [Spec.erase]
  | cons p rest ih =>
    obtain ⟨k, v⟩ := p
    simp only [Spec.erase]
    split <;> simp <;> omega

theorem inv_big (c : κ → κ → Int) (maxSmall : Nat) (l : List (κ × ν)) (hs : Sorted c l) : Inv c maxSmall (.big l) :=
  ⟨hs, by intro h; cases h⟩

theorem inv_small (c : κ → κ → Int) (maxSmall : Nat) (l : List (κ × ν)) (hs : Sorted c l) (hl : l.length ≤ maxSmall) :
    Inv c maxSmall (.small l) := ⟨hs, fun _ => hl⟩

section
variable (c : κ → κ → Int) (hc : ∀ a, PW c a) (maxSmall : Nat)
include hc

theorem getIdx_eq (m : M κ ν) (hs : Sorted c m.kvs) (key : κ) : getIdx c m key = specGet c key m.kvs := by
  cases m with
  | small l => simp only [getIdx, M.kvs, smallGet_eq c hc key l 0, Nat.zero_add]
  | big l => exact bigGet_eq c hc key l hs

/-- lookup is the reference lookup, in either representation -/
theorem get_eq (m : M κ ν) (hs : Sorted c m.kvs) (key : κ) : get c m key = Spec.lookup c key m.kvs := by
  rw [get, getIdx_eq c hc m hs, (specGet_spec c hc key m.kvs hs).1]

theorem set_spec (m : M κ ν) (hI : Inv c maxSmall m) (key : κ) (v : ν) :
    (set c maxSmall m key v).kvs = Spec.insert c key v m.kvs ∧ Inv c maxSmall (set c maxSmall m key v) := by
  have hs := hI.1
  obtain ⟨_, h2, _, h4, _⟩ := specGet_spec c hc key m.kvs hs
  have hso := (sorted_insert c hc key v m.kvs hs).1
  cases m with
  | small l =>
    have hg : smallGet c key l 0 = specGet c key l := by rw [smallGet_eq c hc key l 0, Nat.zero_add]
    have hl : l.length ≤ maxSmall := hI.2 rfl
    simp only [M.kvs] at h2 h4 hso hs
    simp only [set, hg]
    generalize specGet c key l = g at h2 h4
    obtain ⟨r, i⟩ := g
    cases r with
    | some v' =>
      have e := h2 v (by simp)
      dsimp only at e ⊢
      refine ⟨e, ?_⟩
      rw [e]
      exact inv_small c maxSmall _ hso (by rw [← e, length_setVal]; exact hl)
    | none =>
      have e := h4 v rfl
      dsimp only at e ⊢
      by_cases hbig : l.length + 1 > maxSmall
      · rw [if_pos hbig]
        refine ⟨e, ?_⟩
        rw [e]; exact inv_big c maxSmall _ hso
      · rw [if_neg hbig]
        refine ⟨e, ?_⟩
        rw [e]; exact inv_small c maxSmall _ hso (by rw [← e, length_insertAt]; omega)
  | big l =>
    have hg : bigGet c key l = specGet c key l := bigGet_eq c hc key l hs
    simp only [M.kvs] at h2 h4 hso hs
    simp only [set, hg]
    generalize specGet c key l = g at h2 h4
    obtain ⟨r, i⟩ := g
    cases r with
    | some v' =>
      have e := h2 v (by simp)
      dsimp only at e ⊢
      refine ⟨e, ?_⟩
      rw [e]; exact inv_big c maxSmall _ hso
    | none =>
      have e := h4 v rfl
      dsimp only at e ⊢
      refine ⟨e, ?_⟩
      rw [e]; exact inv_big c maxSmall _ hso

theorem delete_spec (m : M κ ν) (hI : Inv c maxSmall m) (key : κ) :
    (delete c m key).1.kvs = Spec.erase c key m.kvs ∧ Inv c maxSmall (delete c m key).1
    ∧ (delete c m key).2 = (Spec.lookup c key m.kvs).isSome := by
  have hs := hI.1
  obtain ⟨h1, _, h3, _, h5⟩ := specGet_spec c hc key m.kvs hs
  have hso := sorted_erase c key m.kvs hs
  have hle := length_erase_le c key m.kvs
  cases m with
  | small l =>
    have hg : smallGet c key l 0 = specGet c key l := by rw [smallGet_eq c hc key l 0, Nat.zero_add]
    have hl : l.length ≤ maxSmall := hI.2 rfl
    simp only [M.kvs] at h1 h3 h5 hso hs hle
    simp only [delete, hg, M.kvs]
    rw [← h1]
    generalize specGet c key l = g at h3 h5
    obtain ⟨r, i⟩ := g
    cases r with
    | some v' =>
      have e := h3 (by simp)
      dsimp only at e ⊢
      refine ⟨e, ?_, rfl⟩
      rw [e]; exact inv_small c maxSmall _ hso (by omega)
    | none =>
      have e := h5 rfl
      dsimp only at e ⊢
      exact ⟨e.symm, inv_small c maxSmall _ hs hl, rfl⟩
  | big l =>
    have hg : bigGet c key l = specGet c key l := bigGet_eq c hc key l hs
    simp only [M.kvs] at h1 h3 h5 hso hs hle
    simp only [delete, hg, M.kvs]
    rw [← h1]
    generalize specGet c key l = g at h3 h5
    obtain ⟨r, i⟩ := g
    cases r with
    | some v' =>
      have e := h3 (by simp)
      dsimp only at e ⊢
      refine ⟨e, ?_, rfl⟩
      rw [e]; exact inv_big c maxSmall _ hso
    | none =>
      have e := h5 rfl
      dsimp only at e ⊢
      exact ⟨e.symm, inv_big c maxSmall _ hs, rfl⟩

theorem setAll_spec (kvs : List (κ × ν)) : ∀ (m : M κ ν), Inv c maxSmall m →
    (setAll c maxSmall m kvs).kvs = Spec.insertAll c m.kvs kvs ∧ Inv c maxSmall (setAll c maxSmall m kvs) := by
  induction kvs with
  | nil => intro m hI; exact ⟨rfl, hI⟩
  | cons kv rest ih =>
    intro m hI
    obtain ⟨e, hI'⟩ := set_spec c hc maxSmall m hI kv.1 kv.2
    have := ih _ hI'
    simp only [setAll, Spec.insertAll, List.foldl_cons] at this ⊢
    rw [e] at this
    exact this

omit hc in
theorem inv_newMapSize (n : Nat) : Inv c maxSmall (newMapSize maxSmall n : M κ ν) ∧ (newMapSize maxSmall n : M κ ν).kvs = [] := by
  unfold newMapSize
  split
  · exact ⟨inv_small c maxSmall [] List.Pairwise.nil (Nat.zero_le _), rfl⟩
  · exact ⟨inv_big c maxSmall [] List.Pairwise.nil, rfl⟩

theorem literal_spec (pairs : List (κ × ν)) :
    (literal c maxSmall pairs).kvs = Spec.insertAll c [] pairs ∧ Inv c maxSmall (literal c maxSmall pairs) := by
  obtain ⟨hI, e⟩ := inv_newMapSize c maxSmall (κ := κ) (ν := ν) pairs.length
  have := setAll_spec c hc maxSmall pairs _ hI
  rw [e] at this
  exact this

theorem append_spec (l r : M κ ν) (hl : Inv c maxSmall l) :
    (append c maxSmall l r).kvs = Spec.insertAll c l.kvs r.kvs ∧ Inv c maxSmall (append c maxSmall l r) := by
  cases l with
  | small ll =>
    simp only [append]
    split
    · exact setAll_spec c hc maxSmall r.kvs _ hl
    · exact setAll_spec c hc maxSmall r.kvs (.big ll) (inv_big c maxSmall ll hl.1)
  | big ll => exact setAll_spec c hc maxSmall r.kvs _ hl

omit hc in
theorem rest_spec (m : M κ ν) (hI : Inv c maxSmall m) :
    match rest maxSmall m with
    | none => m.kvs.length ≤ 1
    | some m' => 1 < m.kvs.length ∧ m'.kvs = m.kvs.tail ∧ Inv c maxSmall m' := by
  cases m with
  | small l =>
    have hl : l.length ≤ maxSmall := hI.2 rfl
    by_cases h1 : l.length ≤ 1
    · simp only [rest, if_pos h1, M.kvs]; exact h1
    · simp only [rest, if_neg h1, M.kvs]
      exact ⟨by omega, trivial, inv_small c maxSmall _ hI.1.tail (by simp; omega)⟩
  | big l =>
    by_cases h1 : l.length ≤ 1
    · simp only [rest, if_pos h1, M.kvs]; exact h1
    · by_cases h2 : l.length - 1 > maxSmall
      · simp only [rest, if_neg h1, if_pos h2, M.kvs]
        exact ⟨by omega, trivial, inv_big c maxSmall _ hI.1.tail⟩
      · simp only [rest, if_neg h1, if_neg h2, M.kvs]
        exact ⟨by omega, trivial, inv_small c maxSmall _ hI.1.tail (by simp; omega)⟩

omit hc in
theorem range_spec (m : M κ ν) (hI : Inv c maxSmall m) (lo hi : Nat) :
    match range maxSmall m lo hi with
    | none => ¬ (lo ≤ hi ∧ hi ≤ m.kvs.length)
    | some m' => (lo ≤ hi ∧ hi ≤ m.kvs.length) ∧ m'.kvs = (m.kvs.take hi).drop lo ∧ Inv c maxSmall m' := by
  by_cases h : lo ≤ hi ∧ hi ≤ m.len
  · have hlen : ((m.kvs.take hi).drop lo).length = hi - lo := by
      simp only [List.length_drop, List.length_take, M.len] at *; omega
    cases m with
    | small l =>
      have hl : l.length ≤ maxSmall := hI.2 rfl
      simp only [range, if_pos h]
      simp only [M.kvs, M.len] at *
      exact ⟨h, trivial, inv_small c maxSmall _ (hI.1.slice lo hi) (by omega)⟩
    | big l =>
      by_cases h2 : hi - lo > maxSmall
      · simp only [range, if_pos h, if_pos h2]
        simp only [M.kvs, M.len] at *
        exact ⟨h, trivial, inv_big c maxSmall _ (hI.1.slice lo hi)⟩
      · simp only [range, if_pos h, if_neg h2]
        simp only [M.kvs, M.len] at *
        exact ⟨h, trivial, inv_small c maxSmall _ (hI.1.slice lo hi) (by omega)⟩
  · simp only [range, if_neg h]; exact h

/-- the variable holds NULL in both runs, or a map satisfying the invariant whose pairs are the reference map -/
def Rel (m : Option (M κ ν)) (l : Option (List (κ × ν))) : Prop :=
  match m, l with
  | none, none => True
  | some m, some l => Inv c maxSmall m ∧ m.kvs = l
  | _, _ => False

theorem step_spec (m : Option (M κ ν)) (l : Option (List (κ × ν))) (h : Rel c maxSmall m l) (op : Op κ ν) :
    Rel c maxSmall (step c maxSmall m op) (Spec.step c l op) := by
  cases op with
  | lit ps =>
    obtain ⟨e, hI⟩ := literal_spec c hc maxSmall ps
    exact ⟨hI, e⟩
  | set k v =>
    cases m <;> cases l <;> simp only [Rel] at h <;> try exact h.elim
    · trivial
    · rename_i m l
      obtain ⟨e, hI⟩ := set_spec c hc maxSmall m h.1 k v
      exact ⟨hI, by rw [e, h.2]⟩
  | del k =>
    cases m <;> cases l <;> simp only [Rel] at h <;> try exact h.elim
    · trivial
    · rename_i m l
      obtain ⟨e, hI, _⟩ := delete_spec c hc maxSmall m h.1 k
      exact ⟨hI, by rw [e, h.2]⟩
  | app ps =>
    cases m <;> cases l <;> simp only [Rel] at h <;> try exact h.elim
    · trivial
    · rename_i m l
      obtain ⟨e, hI⟩ := append_spec c hc maxSmall m (literal c maxSmall ps) h.1
      obtain ⟨e', _⟩ := literal_spec c hc maxSmall ps
      exact ⟨hI, by rw [e, e', h.2]⟩
  | rest =>
    cases m <;> cases l <;> simp only [Rel] at h <;> try exact h.elim
    · trivial
    · rename_i m l
      have := rest_spec c maxSmall m h.1
      simp only [step, Spec.step, Option.bind]
      rw [← h.2]
      split at this
      · rename_i e; rw [e, if_pos this]; trivial
      · rename_i m' e; rw [e, if_neg (by omega)]; exact ⟨this.2.2, this.2.1⟩
  | range lo hi =>
    cases m <;> cases l <;> simp only [Rel] at h <;> try exact h.elim
    · trivial
    · rename_i m l
      have := range_spec c maxSmall m h.1 lo hi
      simp only [step, Spec.step, Option.bind]
      rw [← h.2]
      split at this
      · rename_i e; rw [e, if_neg this]; trivial
      · rename_i m' e; rw [e, if_pos this.1]; exact ⟨this.2.2, this.2.1⟩

theorem run_spec_from (ops : List (Op κ ν)) : ∀ (m : Option (M κ ν)) (l : Option (List (κ × ν))), Rel c maxSmall m l →
    Rel c maxSmall (ops.foldl (step c maxSmall) m) (ops.foldl (Spec.step c) l) := by
  induction ops with
  | nil => intro m l h; exact h
  | cons op rest ih => intro m l h; exact ih _ _ (step_spec c hc maxSmall m l h op)

end

end Grol.Map
