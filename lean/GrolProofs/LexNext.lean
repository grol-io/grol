import GrolProofs.LexScan
/-
C16 lemmas: what one call of `Lexer.next` returns (`next_spec`).
-/
namespace Grol.Lexer
open Grol.Token Grol.Token.TType

/-- the byte tests of the scanner as equations (stated for bytes, so that no instance is searched at each use) -/
theorem byte_beq {a b : UInt8} : (a == b) = true ↔ a = b := beq_iff_eq

def spanL (input : Array UInt8) (a b : Nat) : Bytes := (input.extract a b).toList

theorem slice?_eq {input : Array UInt8} {a b : Nat} (h1 : a ≤ b) (h2 : b ≤ input.size) :
    slice? input a b = some (spanL input a b) := by
  unfold slice? spanL
  rw [if_pos ⟨h1, h2⟩]

theorem spanL_getElem? (input : Array UInt8) (a b i : Nat) :
    (spanL input a b)[i]? = if i < min b input.size - a then input[a + i]? else none := by
  unfold spanL
  rw [Array.getElem?_toList, Array.getElem?_extract]

theorem spanL_length (input : Array UInt8) (a b : Nat) : (spanL input a b).length = min b input.size - a := by
  unfold spanL
  rw [Array.length_toList, Array.size_extract]

theorem spanL_one {input : Array UInt8} {a : Nat} (h : a < input.size) :
    spanL input a (a + 1) = [peekAt input a] := by
  apply List.ext_getElem?
  intro i
  rw [spanL_getElem?]
  have : min (a + 1) input.size - a = 1 := by omega
  rw [this]
  cases i with
  | zero => simp [peekAt, Array.getElem?_eq_getElem h]
  | succ j => simp

theorem spanL_two {input : Array UInt8} {a : Nat} (h : a + 1 < input.size) :
    spanL input a (a + 2) = [peekAt input a, peekAt input (a + 1)] := by
  apply List.ext_getElem?
  intro i
  rw [spanL_getElem?]
  have : min (a + 2) input.size - a = 2 := by omega
  rw [this]
  match i with
  | 0 => simp [peekAt, Array.getElem?_eq_getElem (show a < input.size by omega)]
  | 1 => simp [peekAt, Array.getElem?_eq_getElem h]
  | j + 2 => simp; omega

/-! ### well-formed tokens: the invariant behind pointer identity -/

/-- what the lexer guarantees about a token, per producing API call -/
def _root_.Grol.Token.Tok.WF (t : Tok) : Prop :=
  match t.src with
  | .eoleof => (t.type = EOL ∨ t.type = EOF) ∧ t.lit = []
  | .char1 => ∃ c, t.lit = [c] ∧ cTokens.lookup c = some t.type
  | .char2 => ∃ a b, t.lit = [a, b] ∧ c2Tokens.lookup (a, b) = some t.type
  | .intern => t.type = ILLEGAL ∨ t.type = INT ∨ t.type = FLOAT ∨ t.type = STRING ∨ t.type = LINECOMMENT
      ∨ t.type = BLOCKCOMMENT
  | .lookup => t.type = (keywords.lookup t.lit).getD IDENT
  | .nil => False
  | .panic => False

theorem lookup_mem {α β : Type} [BEq α] [LawfulBEq α] (k : α) (v : β) :
    ∀ l : List (α × β), l.lookup k = some v → (k, v) ∈ l := by
  intro l
  induction l with
  | nil => intro h; cases h
  | cons x xs ih =>
    intro h
    obtain ⟨a, b⟩ := x
    simp only [List.lookup] at h
    split at h
    · rename_i he
      have : k = a := by simpa using he
      cases h; subst this; exact List.mem_cons_self
    · exact List.mem_cons_of_mem _ (ih h)

/-- the types each producing call can return: what a fact about the type of a well-formed token is
checked on -/
def srcTypes : Src → List TType
  | .eoleof => [EOL, EOF]
  | .char1 => cTokens.map (·.2)
  | .char2 => c2Tokens.map (·.2)
  | .intern => [ILLEGAL, INT, FLOAT, STRING, LINECOMMENT, BLOCKCOMMENT]
  | .lookup => IDENT :: keywords.map (·.2)
  | _ => []

theorem _root_.Grol.Token.Tok.WF.type_mem {t : Tok} (wf : t.WF) : t.type ∈ srcTypes t.src := by
  unfold Tok.WF at wf
  split at wf <;> rename_i hs <;> rw [hs]
  · rcases wf.1 with e | e <;> rw [e] <;> decide
  · obtain ⟨c, _, hc⟩ := wf
    exact List.mem_map.mpr ⟨_, lookup_mem _ _ _ hc, rfl⟩
  · obtain ⟨a, b, _, hc⟩ := wf
    exact List.mem_map.mpr ⟨_, lookup_mem _ _ _ hc, rfl⟩
  · rcases wf with e | e | e | e | e | e <;> rw [e] <;> decide
  · rw [wf]
    cases hl : keywords.lookup t.lit with
    | none => exact List.mem_cons_self
    | some ty => exact List.mem_cons_of_mem _ (List.mem_map.mpr ⟨_, lookup_mem _ _ _ hl, rfl⟩)
  · exact wf.elim
  · exact wf.elim

theorem lookupIdent_wf (w : Bytes) : (lookupIdent w).WF := by
  unfold lookupIdent
  split <;> rename_i h <;> simp [Tok.WF, h]

theorem lookupIdent_src (w : Bytes) : (lookupIdent w).src = .lookup := by
  unfold lookupIdent; split <;> rfl

theorem lookupIdent_lit (w : Bytes) : (lookupIdent w).lit = w := by
  unfold lookupIdent; split <;> rfl

/-- a token that is not the end marker, spanning `[start, stop)` -/
structure TokOK (input : Array UInt8) (start : Nat) (t : Tok) (stop : Nat) : Prop where
  lt : start < stop
  le : stop ≤ input.size
  wf : t.WF
  notMarker : t.src ≠ .eoleof
  /-- operators, identifiers/keywords, numbers and block comments: the literal is the span -/
  lit : (t.src = .char1 ∨ t.src = .char2 ∨ t.src = .lookup ∨
      (t.src = .intern ∧ (t.type = INT ∨ t.type = FLOAT ∨ t.type = BLOCKCOMMENT))) → t.lit = spanL input start stop
  /-- strings: the span starts with a quote and ends with the same quote -/
  str : t.src = .intern → t.type = STRING →
    start + 2 ≤ stop ∧ (peekAt input start = 34 ∨ peekAt input start = 96) ∧ peekAt input (stop - 1) = peekAt input start
  /-- line comments: `//` up to (not including) the next newline / NUL / end; literal = trimmed span -/
  lc : t.src = .intern → t.type = LINECOMMENT →
    t.lit = trimSpaceRight (spanL input start stop) ∧ peekAt input start = 47 ∧ peekAt input (start + 1) = 47
      ∧ (∀ i, start + 1 ≤ i → i < stop → notEOL (peekAt input i) = true) ∧ notEOL (peekAt input stop) = false
  /-- block comments: `/*` … and either a closing `*/` or a NUL byte / the end of the input -/
  bc : t.src = .intern → t.type = BLOCKCOMMENT →
    peekAt input start = 47 ∧ peekAt input (start + 1) = 42 ∧
      ((start + 4 ≤ stop ∧ peekAt input (stop - 2) = 42 ∧ peekAt input (stop - 1) = 47) ∨ peekAt input stop = 0)
  /-- illegal byte: one byte, literal = Go's `string(byte)` -/
  ill : t.src = .intern → t.type = ILLEGAL → stop = start + 1 ∧ t.lit = stringOfByte (peekAt input start)
  /-- identifiers, keywords and numbers contain no newline byte -/
  nonl : (t.src = .lookup ∨ (t.src = .intern ∧ (t.type = INT ∨ t.type = FLOAT))) →
    ∀ i, start ≤ i → i < stop → peekAt input i ≠ 10

theorem TokOK.c1 {input : Array UInt8} {start : Nat} {ch : UInt8} (hch : peekAt input start = ch)
    (hk : (cTokens.lookup ch).isSome = true) : TokOK input start (constantTokenChar ch) (start + 1) := by
  have hne : ch ≠ 0 := by
    intro h0; subst h0; revert hk; decide
  have hlt : start < input.size := lt_size_of_peekAt_ne_zero (by rw [hch]; exact hne)
  obtain ⟨ty, hty⟩ := Option.isSome_iff_exists.mp hk
  have e : constantTokenChar ch = { type := ty, lit := [ch], src := .char1 } := by
    unfold constantTokenChar; rw [hty]
  rw [e]
  refine ⟨by omega, by omega, ⟨ch, rfl, hty⟩, by simp, fun _ => ?_, ?_, ?_, ?_, ?_, ?_⟩
  · rw [spanL_one hlt, hch]
  all_goals first | (intro h; rcases h with h | ⟨h, _⟩ <;> cases h) | (intro h; cases h)

theorem TokOK.c2 {input : Array UInt8} {start : Nat} {a b : UInt8} (ha : peekAt input start = a)
    (hb : peekAt input (start + 1) = b) (hb0 : b ≠ 0)
    (hk : (c2Tokens.lookup (a, b)).isSome = true) : TokOK input start (constantTokenChar2 a b) (start + 2) := by
  have hlt : start + 1 < input.size := lt_size_of_peekAt_ne_zero (by rw [hb]; exact hb0)
  obtain ⟨ty, hty⟩ := Option.isSome_iff_exists.mp hk
  have e : constantTokenChar2 a b = { type := ty, lit := [a, b], src := .char2 } := by
    unfold constantTokenChar2; rw [hty]
  rw [e]
  refine ⟨by omega, by omega, ⟨a, b, rfl, hty⟩, by simp, fun _ => ?_, ?_, ?_, ?_, ?_, ?_⟩
  · rw [spanL_two hlt, ha, hb]
  all_goals first | (intro h; rcases h with h | ⟨h, _⟩ <;> cases h) | (intro h; cases h)

theorem readIdentifier_ok (s : State) (start : Nat) (hs : s.pos = start + 1) (hlt : start < s.input.size)
    (h0 : peekAt s.input start ≠ 10) :
    TokOK s.input start (tokOfSlice lookupIdent (readIdentifier s).1) (readIdentifier s).2.pos
    ∧ (readIdentifier s).2 = { s with pos := (readIdentifier s).2.pos } := by
  have sc := scanWhile_spec isAlphaNum (by decide) s.input s.pos (by omega)
  unfold readIdentifier
  simp only []
  rw [slice?_eq (by have := sc.ge; omega) sc.le]
  have e : s.pos - 1 = start := by omega
  rw [e]
  refine ⟨⟨by have := sc.ge; omega, sc.le, lookupIdent_wf _, by simp [tokOfSlice, lookupIdent_src],
    fun _ => by simp [tokOfSlice, lookupIdent_lit], ?_, ?_, ?_, ?_, ?_⟩, trivial⟩
  · intro h; simp [tokOfSlice, lookupIdent_src] at h
  · intro h; simp [tokOfSlice, lookupIdent_src] at h
  · intro h; simp [tokOfSlice, lookupIdent_src] at h
  · intro h; simp [tokOfSlice, lookupIdent_src] at h
  · intro _ i hi1 hi2
    by_cases hi : i = start
    · rw [hi]; exact h0
    · have := sc.all i (by omega) hi2
      intro h10; rw [h10] at this; revert this; decide

theorem readLineComment_ok (s : State) (start : Nat) (hs : s.pos = start + 1) (h0 : peekAt s.input start = 47)
    (h1 : peekAt s.input (start + 1) = 47) :
    TokOK s.input start (tokOfSlice (internTok LINECOMMENT) (readLineComment s).1) (readLineComment s).2.pos
    ∧ (readLineComment s).2 = { s with pos := (readLineComment s).2.pos } := by
  have hlt : start + 1 < s.input.size := lt_size_of_peekAt_ne_zero (by rw [h1]; decide)
  have sc := scanWhile_spec notEOL (by decide) s.input s.pos (by omega)
  unfold readLineComment
  simp only []
  rw [slice?_eq (by have := sc.ge; omega) sc.le]
  have e : s.pos - 1 = start := by omega
  rw [e]
  refine ⟨⟨by have := sc.ge; omega, sc.le, by simp [tokOfSlice, internTok, Tok.WF], by simp [tokOfSlice, internTok],
    fun h => by simp [tokOfSlice, internTok] at h, fun _ h => by simp [tokOfSlice, internTok] at h,
    fun _ _ => ⟨by simp [tokOfSlice, internTok], h0, h1, fun i a b => sc.all i (by omega) b, sc.stop⟩,
    fun _ h => by simp [tokOfSlice, internTok] at h, fun _ h => by simp [tokOfSlice, internTok] at h,
    fun h => by simp [tokOfSlice, internTok] at h⟩, trivial⟩

theorem readBlockComment_ok (s : State) (start : Nat) (hs : s.pos = start + 1) (h0 : peekAt s.input start = 47)
    (h1 : peekAt s.input (start + 1) = 42) :
    TokOK s.input start (tokOfSlice (internTok BLOCKCOMMENT) (readBlockComment s).1) (readBlockComment s).2.pos
    ∧ (readBlockComment s).2 = { s with pos := (readBlockComment s).2.pos } := by
  have hlt : start + 1 < s.input.size := lt_size_of_peekAt_ne_zero (by rw [h1]; decide)
  have bl := blockLoop_spec s.input (s.input.size + 2 - (s.pos + 1 + 1)) (peekAt s.input (s.pos + 1)) (s.pos + 1 + 1)
    (by omega) (by omega) (by simp) (by omega)
  unfold readBlockComment
  simp only [State.readChar, State.peekChar]
  obtain ⟨r, hr⟩ : ∃ r, blockLoop s.input (s.input.size + 2 - (s.pos + 1 + 1)) (peekAt s.input (s.pos + 1)) (s.pos + 1 + 1) = r := ⟨_, rfl⟩
  simp only [hr]
  rw [hr] at bl
  have e : s.pos - 1 = start := by omega
  rw [e]
  have ge := bl.ge
  have le := bl.le
  -- where the comment ends: before the NUL byte / the end of the input, or after the closing `*/`
  obtain ⟨p, hp, hp1, hp2, hend⟩ : ∃ p, (if (r.1 == 0) = true then r.2 - 1 else r.2 + 1) = p ∧ start + 2 ≤ p
      ∧ p ≤ s.input.size ∧ ((start + 4 ≤ p ∧ peekAt s.input (p - 2) = 42 ∧ peekAt s.input (p - 1) = 47)
        ∨ peekAt s.input p = 0) := by
    refine ⟨_, rfl, ?_⟩
    split
    · rename_i c
      exact ⟨by omega, by omega, Or.inr (by rw [← bl.ch]; exact byte_beq.mp c)⟩
    · rename_i c
      obtain ⟨hs42, hs47⟩ := bl.stop.resolve_left (by simpa using c)
      have hlt2 : r.2 < s.input.size := lt_size_of_peekAt_ne_zero (by rw [hs47]; decide)
      refine ⟨by omega, by omega, Or.inl ⟨by omega, ?_, ?_⟩⟩
      · rw [show r.2 + 1 - 2 = r.2 - 1 by omega, ← bl.ch]; exact hs42
      · exact hs47
  rw [hp, slice?_eq (by omega) hp2]
  exact ⟨⟨by omega, hp2, by simp [tokOfSlice, internTok, Tok.WF], by simp [tokOfSlice, internTok],
    fun _ => by simp [tokOfSlice, internTok], fun _ h => by simp [tokOfSlice, internTok] at h,
    fun _ h => by simp [tokOfSlice, internTok] at h,
    fun _ _ => ⟨h0, h1, hend⟩, fun _ h => by simp [tokOfSlice, internTok] at h,
    fun h => by simp [tokOfSlice, internTok] at h⟩, trivial⟩

def NumSpec (s : State) (start : Nat) (r : TType × Option Bytes × State) : Prop :=
  (r.1 = INT ∨ r.1 = FLOAT) ∧ r.2.1 = some (spanL s.input start r.2.2.pos) ∧ start + 1 ≤ r.2.2.pos
    ∧ r.2.2.pos ≤ s.input.size ∧ r.2.2 = { s with pos := r.2.2.pos }
    ∧ ∀ i, s.pos ≤ i → i < r.2.2.pos → peekAt s.input i ≠ 10

/-- `[s.pos, p)` lies inside the input and holds no newline byte: what every stretch `readNumber` passes
over keeps -/
structure Clean (s : State) (p : Nat) : Prop where
  ge : s.pos ≤ p
  le : p ≤ s.input.size
  nonl : ∀ i, s.pos ≤ i → i < p → peekAt s.input i ≠ 10

theorem Clean.next {s : State} {p : Nat} (h : Clean s p) (h0 : peekAt s.input p ≠ 0) (h10 : peekAt s.input p ≠ 10) :
    Clean s (p + 1) := by
  refine ⟨Nat.le_succ_of_le h.ge, lt_size_of_peekAt_ne_zero h0, fun i hi1 hi2 => ?_⟩
  by_cases hi : i = p
  · rw [hi]; exact h10
  · exact h.nonl i hi1 (by omega)

theorem Clean.byte {s : State} {p : Nat} (h : Clean s p) (c : UInt8) (hc : (peekAt s.input p == c) = true)
    (h0 : c ≠ 0) (h10 : c ≠ 10) : Clean s (p + 1) :=
  h.next (by rw [byte_beq.mp hc]; exact h0) (by rw [byte_beq.mp hc]; exact h10)

theorem Clean.scan {s : State} {p : Nat} (h : Clean s p) (f : UInt8 → Bool) (f0 : f 0 = false) (f10 : f 10 = false) :
    Clean s (scanWhile f s.input p) := by
  have sc := scanWhile_spec f f0 s.input p h.le
  refine ⟨Nat.le_trans h.ge sc.ge, sc.le, fun i hi1 hi2 heq => ?_⟩
  by_cases hi : i < p
  · exact h.nonl i hi1 hi heq
  · have := sc.all i (by omega) hi2
    rw [heq, f10] at this; cases this

theorem num_leaf {s : State} {start : Nat} (hs : s.pos = start + 1) (t : TType) {P : Nat}
    (ht : t = INT ∨ t = FLOAT) (hc : Clean s P) :
    NumSpec s start (t, slice? s.input (s.pos - 1) P, { s with pos := P }) := by
  have h1 : start + 1 ≤ P := hs ▸ hc.ge
  rw [show s.pos - 1 = start by omega, slice?_eq (by omega) hc.le]
  exact ⟨ht, rfl, h1, hc.le, rfl, hc.nonl⟩

theorem ite_int_float (c : Prop) [Decidable c] : (if c then FLOAT else INT) = INT ∨ (if c then FLOAT else INT) = FLOAT := by
  split <;> simp

/-- `readNumber` is a tree of `if`s with a literal at each leaf: the specification holds of the tree when it
holds of the leaves, each under the tests that lead to it -/
theorem NumSpec.ite {s : State} {start : Nat} {c : Prop} [Decidable c] {a b : TType × Option Bytes × State}
    (ha : c → NumSpec s start a) (hb : ¬c → NumSpec s start b) : NumSpec s start (if c then a else b) := by
  split
  · exact ha ‹_›
  · exact hb ‹_›

theorem readNumber_spec (s : State) (ch : UInt8) (start : Nat) (hs : s.pos = start + 1)
    (hlt : start < s.input.size) : NumSpec s start (readNumber s ch) := by
  have c0 : Clean s s.pos := ⟨Nat.le_refl _, by omega, fun i h1 h2 => by omega⟩
  unfold readNumber
  simp only [State.peekChar]
  refine .ite (fun c1 => num_leaf hs _ (ite_int_float _)
    ((c0.byte 120 (Bool.and_eq_true_iff.mp c1).2 (by decide) (by decide)).scan _ (by decide) (by decide))) fun _ => ?_
  refine .ite (fun c2 => num_leaf hs _ (ite_int_float _)
    ((c0.byte 98 (Bool.and_eq_true_iff.mp c2).2 (by decide) (by decide)).scan _ (by decide) (by decide))) fun _ => ?_
  have k1 := c0.scan isDigitOrUnderscore (by decide) (by decide)
  generalize scanWhile isDigitOrUnderscore s.input s.pos = p1 at k1 ⊢
  refine .ite (fun _ => num_leaf hs _ (ite_int_float _) k1) fun _ => ?_
  -- fractional part
  have k2 : Clean s (if (peekAt s.input p1 == 46) = true then scanWhile isDigitOrUnderscore s.input (p1 + 1) else p1) := by
    split
    · rename_i hd; exact (k1.byte 46 hd (by decide) (by decide)).scan _ (by decide) (by decide)
    · exact k1
  have ht : (if (peekAt s.input p1 == 46) = true then FLOAT else if (ch == 46) = true then FLOAT else INT) = INT
      ∨ (if (peekAt s.input p1 == 46) = true then FLOAT else if (ch == 46) = true then FLOAT else INT) = FLOAT := by
    split
    · exact Or.inr rfl
    · exact ite_int_float _
  generalize (if (peekAt s.input p1 == 46) = true then scanWhile isDigitOrUnderscore s.input (p1 + 1) else p1) = p2 at k2 ⊢
  refine .ite (fun _ => num_leaf hs _ ht k2) fun c4 => ?_
  -- exponent part: `e`/`E`, an optional sign, then digits or back to the `e`
  refine .ite (fun _ => num_leaf hs _ ht k2) fun _ => ?_
  have k3 : Clean s (p2 + 1) :=
    k2.next (fun h0 => c4 (by rw [h0]; decide)) (fun h10 => c4 (by rw [h10]; decide))
  have k4 : Clean s (if (peekAt s.input (p2 + 1) == 43 || peekAt s.input (p2 + 1) == 45) = true then p2 + 1 + 1 else p2 + 1) := by
    split
    · rename_i hsg
      rcases Bool.or_eq_true_iff.mp hsg with h | h
      · exact k3.byte 43 h (by decide) (by decide)
      · exact k3.byte 45 h (by decide) (by decide)
    · exact k3
  generalize (if (peekAt s.input (p2 + 1) == 43 || peekAt s.input (p2 + 1) == 45) = true then p2 + 1 + 1 else p2 + 1) = p4 at k4 ⊢
  exact .ite (fun _ => num_leaf hs _ ht k2) fun _ => num_leaf hs _ (Or.inr rfl) (k4.scan _ (by decide) (by decide))

theorem readNumber_ok (s : State) (ch : UInt8) (start : Nat) (hs : s.pos = start + 1) (hlt : start < s.input.size)
    (h0 : peekAt s.input start ≠ 10) :
    TokOK s.input start (tokOfSlice (internTok (readNumber s ch).1) (readNumber s ch).2.1) (readNumber s ch).2.2.pos
    ∧ (readNumber s ch).2.2 = { s with pos := (readNumber s ch).2.2.pos } := by
  obtain ⟨ht, hl, h1, h2, h3, h4⟩ := readNumber_spec s ch start hs hlt
  rw [hl]
  refine ⟨⟨by omega, h2, ?_, by simp [tokOfSlice, internTok], fun _ => by simp [tokOfSlice, internTok],
    ?_, ?_, ?_, ?_, ?_⟩, h3⟩
  · cases ht with
    | inl h => simp [tokOfSlice, internTok, Tok.WF, h]
    | inr h => simp [tokOfSlice, internTok, Tok.WF, h]
  rotate_left 4
  · intro _ i hi1 hi2
    by_cases hi : i = start
    · rw [hi]; exact h0
    · exact h4 i (by omega) hi2
  all_goals
    intro _ h
    simp only [tokOfSlice, internTok] at h
    cases ht with
    | inl h' => rw [h'] at h; cases h
    | inr h' => rw [h'] at h; cases h

/-- what `nextCore` returns from a state `s1` standing on a non-whitespace byte -/
def CoreSpec (s1 : State) (r : Tok × State) : Prop :=
  r.2 = { s1 with pos := r.2.pos } ∧
  ((r.1 = eolEof s1.lineMode ∧ s1.pos ≤ r.2.pos ∧ peekAt s1.input r.2.pos = 0
      ∧ (r.2.pos = s1.pos ∨ peekAt s1.input s1.pos = 34 ∨ peekAt s1.input s1.pos = 96))
   ∨ TokOK s1.input s1.pos r.1 r.2.pos)

theorem core_c1 {s1 : State} {ch : UInt8} (hch : peekAt s1.input s1.pos = ch)
    (hk : (cTokens.lookup ch).isSome = true) :
    CoreSpec s1 (constantTokenChar ch, { s1 with pos := s1.pos + 1 }) :=
  ⟨rfl, Or.inr (TokOK.c1 hch hk)⟩

theorem core_c2 {s1 : State} {a b : UInt8} (ha : peekAt s1.input s1.pos = a)
    (hb : peekAt s1.input (s1.pos + 1) = b) (hb0 : b ≠ 0) (hk : (c2Tokens.lookup (a, b)).isSome = true) :
    CoreSpec s1 (constantTokenChar2 a b, { s1 with pos := s1.pos + 1 + 1 }) :=
  ⟨rfl, Or.inr (TokOK.c2 ha hb hb0 hk)⟩

/-- the `case '"', '`'` branch of `NextToken` -/
def quoteCase (q : UInt8) (s : State) : Tok × State :=
  if !(readString s q).2.1 then
    ((readString s q).2.2.eolEof, { (readString s q).2.2 with pos := (readString s q).2.2.pos - 1 })
  else (internTok STRING (readString s q).1, (readString s q).2.2)

theorem nextSwitch_quote (q nc : UInt8) (s : State) (hq : q = 34 ∨ q = 96) : nextSwitch q nc s = quoteCase q s := by
  rcases hq with rfl | rfl <;> rfl

theorem core_string (s1 : State) (q : UInt8) (hq : peekAt s1.input s1.pos = q) (hq2 : q = 34 ∨ q = 96) :
    CoreSpec s1 (quoteCase q { s1 with pos := s1.pos + 1 }) := by
  have hq0 : q ≠ 0 := by cases hq2 <;> (rename_i h; rw [h]; decide)
  have sp := readStringLoop_spec q hq0 (q == 34) (s1.input.size + 1 - (s1.pos + 1)) { s1 with pos := s1.pos + 1 }
    (by simp; omega)
  unfold quoteCase readString
  obtain ⟨r, hr⟩ : ∃ r, readStringLoop q (q == 34) (s1.input.size + 1 - (s1.pos + 1)) { s1 with pos := s1.pos + 1 } = r := ⟨_, rfl⟩
  simp only [hr]
  rw [hr] at sp
  have same := sp.same
  have ge := sp.ge
  simp only [] at same ge
  by_cases c : (!r.2.1) = true
  · simp only [c, ↓reduceIte]
    have hf : r.2.1 = false := by simpa using c
    obtain ⟨h1, h2⟩ := sp.okF hf
    refine ⟨by rw [same], Or.inl ⟨by rw [same]; rfl, by simp; omega, by simpa using h2, Or.inr ?_⟩⟩
    rw [hq]; exact hq2
  · simp only [c, Bool.false_eq_true, ↓reduceIte]
    have ht : r.2.1 = true := by simpa using c
    obtain ⟨h1, h2, h3⟩ := sp.okT ht
    simp only [] at h1 h2 h3
    refine ⟨same, Or.inr ?_⟩
    show TokOK s1.input s1.pos (internTok STRING r.1) r.2.2.pos
    exact ⟨by omega, h2, by simp [internTok, Tok.WF], by simp [internTok],
      fun h => by simp [internTok] at h, fun _ _ => ⟨by omega, by rw [hq]; exact hq2, by rw [h3, hq]⟩,
      fun _ h => by simp [internTok] at h, fun _ h => by simp [internTok] at h, fun _ h => by simp [internTok] at h,
      fun h => by simp [internTok] at h⟩

theorem nextSwitch_spec (s1 : State) (ch nc : UInt8) (hch : peekAt s1.input s1.pos = ch)
    (hnc : peekAt s1.input (s1.pos + 1) = nc) (s : State) (hs : s = { s1 with pos := s1.pos + 1 }) :
    CoreSpec s1 (nextSwitch ch nc s) := by
  by_cases hq : ch = 34 ∨ ch = 96
  · subst hs
    rw [nextSwitch_quote ch nc _ hq]
    exact core_string s1 ch hch hq
  unfold nextSwitch
  simp only []
  by_cases c : (ch == 61 || ch == 33 || ch == 58) = true
  · rw [if_pos c]
    simp only [Bool.or_eq_true, byte_beq] at c
    by_cases d : (nc == 61) = true
    · rw [if_pos d]; have d := byte_beq.mp d; subst d; subst hs
      rcases c with (rfl | rfl) | rfl <;> exact core_c2 hch hnc (by decide) (by decide)
    · rw [if_neg d]
      by_cases e : (nc == 62 && ch == 61) = true
      · rw [if_pos e]; simp only [Bool.and_eq_true, byte_beq] at e
        obtain ⟨e1, e2⟩ := e; subst e1; subst e2; subst hs
        exact core_c2 hch hnc (by decide) (by decide)
      · rw [if_neg e]; subst hs
        rcases c with (rfl | rfl) | rfl <;> exact core_c1 hch (by decide)
  rw [if_neg c]; clear c
  by_cases c : (ch == 43 || ch == 45) = true
  · rw [if_pos c]
    simp only [Bool.or_eq_true, byte_beq] at c
    by_cases d : (nc == ch) = true
    · rw [if_pos d]; have d := byte_beq.mp d; subst d; subst hs
      rcases c with rfl | rfl <;> exact core_c2 hch hnc (by decide) (by decide)
    · rw [if_neg d]; subst hs
      rcases c with rfl | rfl <;> exact core_c1 hch (by decide)
  rw [if_neg c]; clear c
  by_cases c : (ch == 37 || ch == 42 || ch == 59 || ch == 44 || ch == 123 || ch == 125 || ch == 40 || ch == 41
      || ch == 91 || ch == 93 || ch == 94 || ch == 126) = true
  · rw [if_pos c]
    simp only [Bool.or_eq_true, byte_beq] at c
    subst hs
    rcases c with ((((((((((rfl | rfl) | rfl) | rfl) | rfl) | rfl) | rfl) | rfl) | rfl) | rfl) | rfl) | rfl <;>
      exact core_c1 hch (by decide)
  rw [if_neg c]; clear c
  by_cases c : (ch == 47) = true
  · rw [if_pos c]; have c := byte_beq.mp c; subst c
    by_cases d : (nc == 47) = true
    · rw [if_pos d]; have d := byte_beq.mp d; subst d; subst hs
      have h := readLineComment_ok { s1 with pos := s1.pos + 1 } s1.pos rfl hch hnc
      exact ⟨h.2, Or.inr h.1⟩
    · rw [if_neg d]
      by_cases e : (nc == 42) = true
      · rw [if_pos e]; have e := byte_beq.mp e; subst e; subst hs
        have h := readBlockComment_ok { s1 with pos := s1.pos + 1 } s1.pos rfl hch hnc
        exact ⟨h.2, Or.inr h.1⟩
      · rw [if_neg e]; subst hs; exact core_c1 hch (by decide)
  rw [if_neg c]; clear c
  by_cases c : (ch == 124 || ch == 38) = true
  · rw [if_pos c]
    simp only [Bool.or_eq_true, byte_beq] at c
    by_cases d : (nc == ch) = true
    · rw [if_pos d]; have d := byte_beq.mp d; subst d; subst hs
      rcases c with rfl | rfl <;> exact core_c2 hch hnc (by decide) (by decide)
    · rw [if_neg d]; subst hs
      rcases c with rfl | rfl <;> exact core_c1 hch (by decide)
  rw [if_neg c]; clear c
  by_cases c : (ch == 60 || ch == 62) = true
  · rw [if_pos c]
    simp only [Bool.or_eq_true, byte_beq] at c
    by_cases d : (nc == ch) = true
    · rw [if_pos d]; have d := byte_beq.mp d; subst d; subst hs
      rcases c with rfl | rfl <;> exact core_c2 hch hnc (by decide) (by decide)
    · rw [if_neg d]
      by_cases e : (nc == 61) = true
      · rw [if_pos e]; have e := byte_beq.mp e; subst e; subst hs
        rcases c with rfl | rfl <;> exact core_c2 hch hnc (by decide) (by decide)
      · rw [if_neg e]; subst hs
        rcases c with rfl | rfl <;> exact core_c1 hch (by decide)
  rw [if_neg c]; clear c
  rw [if_neg (by simpa using hq)]
  by_cases c : (ch == 0) = true
  · rw [if_pos c]; have c := byte_beq.mp c; subst c; subst hs
    exact ⟨rfl, Or.inl ⟨rfl, Nat.le_refl _, hch, Or.inl rfl⟩⟩
  rw [if_neg c]
  have hz : ch ≠ 0 := fun h => c (byte_beq.mpr h)
  clear c
  have hlt : s1.pos < s1.input.size := lt_size_of_peekAt_ne_zero (by rw [hch]; exact hz)
  by_cases c : (ch == 46) = true
  · rw [if_pos c]; have c := byte_beq.mp c; subst c
    by_cases d : (nc == 46) = true
    · rw [if_pos d]; have d := byte_beq.mp d; subst d; subst hs
      exact core_c2 hch hnc (by decide) (by decide)
    · rw [if_neg d]
      by_cases e : (!isDigit nc) = true
      · rw [if_pos e]; subst hs; exact core_c1 hch (by decide)
      · rw [if_neg e]; subst hs
        have h := readNumber_ok { s1 with pos := s1.pos + 1 } 46 s1.pos rfl hlt (by rw [hch]; decide)
        exact ⟨h.2, Or.inr h.1⟩
  rw [if_neg c]; clear c
  by_cases c : isLetter ch = true
  · rw [if_pos c]; subst hs
    have h := readIdentifier_ok { s1 with pos := s1.pos + 1 } s1.pos rfl hlt
      (by rw [hch]; intro h10; rw [h10] at c; revert c; decide)
    exact ⟨h.2, Or.inr h.1⟩
  rw [if_neg c]; clear c
  by_cases c : isDigit ch = true
  · rw [if_pos c]; subst hs
    have h := readNumber_ok { s1 with pos := s1.pos + 1 } ch s1.pos rfl hlt
      (by rw [hch]; intro h10; rw [h10] at c; revert c; decide)
    exact ⟨h.2, Or.inr h.1⟩
  rw [if_neg c]; clear c
  subst hs
  refine ⟨rfl, Or.inr ⟨by simp, by simp; omega, by simp [internTok, Tok.WF], by simp [internTok],
    fun h => by simp [internTok] at h, fun _ h => by simp [internTok] at h,
    fun _ h => by simp [internTok] at h, fun _ h => by simp [internTok] at h,
    fun _ _ => ⟨rfl, by simp [internTok, hch]⟩, fun h => by simp [internTok] at h⟩⟩

theorem nextCore_spec (s1 : State) : CoreSpec s1 (nextCore s1) :=
  nextSwitch_spec s1 _ _ rfl rfl _ rfl

end Grol.Lexer
