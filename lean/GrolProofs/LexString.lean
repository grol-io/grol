import GrolProofs.LexNext
import Grol.LexSuite
/-
C16 lemmas: the literal computed by the model's `readString` is the value computed by the
independent decoder `LexSuite.specString` of the executable statement on the same bytes, and the
two agree on where the string ends / that it does not end.
-/
namespace Grol.Lexer
open Grol.Token Grol.LexSuite

def restL (input : Array UInt8) (pos : Nat) : Bytes := spanL input pos input.size

theorem restL_length (input : Array UInt8) (pos : Nat) : (restL input pos).length = input.size - pos := by
  unfold restL; rw [spanL_length]; omega

theorem restL_nil {input : Array UInt8} {pos : Nat} (h : input.size ≤ pos) : restL input pos = [] := by
  apply List.eq_nil_of_length_eq_zero
  rw [restL_length]; omega

theorem restL_getElem? (input : Array UInt8) (pos i : Nat) : (restL input pos)[i]? = input[pos + i]? := by
  unfold restL
  rw [spanL_getElem?]
  split
  · rfl
  · rename_i h
    rw [Array.getElem?_eq_none (by omega)]

theorem restL_cons {input : Array UInt8} {pos : Nat} (h : pos < input.size) :
    restL input pos = peekAt input pos :: restL input (pos + 1) := by
  apply List.ext_getElem?
  intro i
  rw [restL_getElem?]
  cases i with
  | zero => simp [peekAt, Array.getElem?_eq_getElem h]
  | succ j =>
    rw [List.getElem?_cons_succ, restL_getElem?]
    congr 1; omega

theorem restL_drop (input : Array UInt8) (pos k : Nat) : (restL input pos).drop k = restL input (pos + k) := by
  apply List.ext_getElem?
  intro i
  rw [List.getElem?_drop, restL_getElem?, restL_getElem?]
  congr 1; omega

theorem restL_toArray (l : Bytes) (k : Nat) : restL l.toArray k = l.drop k := by
  apply List.ext_getElem?
  intro i
  rw [restL_getElem?, List.getElem?_drop, List.getElem?_toArray]

theorem restL_getD {input : Array UInt8} {pos i : Nat} (h : pos + i < input.size) :
    (restL input pos)[i]? = some (peekAt input (pos + i)) := by
  rw [restL_getElem?, peekAt, Array.getElem?_eq_getElem h]; rfl

theorem restL_take2 {input : Array UInt8} {pos : Nat} (h : pos + 2 ≤ input.size) :
    (restL input pos).take 2 = [peekAt input pos, peekAt input (pos + 1)] := by
  rw [restL_cons (by omega), restL_cons (by omega)]
  rfl

theorem restL_take4 {input : Array UInt8} {pos : Nat} (h : pos + 4 ≤ input.size) :
    (restL input pos).take 4 =
      [peekAt input pos, peekAt input (pos + 1), peekAt input (pos + 2), peekAt input (pos + 3)] := by
  rw [restL_cons (by omega), restL_cons (by omega), restL_cons (by omega), restL_cons (by omega)]
  rfl

/-- `o` = the decoder's answer on the text at `s.pos`; `r` = what the model's loop returned -/
def Agree (o : Option (Bytes × Nat)) (s : State) (r : Bytes × Bool × State) : Prop :=
  match o with
  | some (v, m) => r = (v, true, { s with pos := s.pos + m })
  | none => r.2.1 = false

theorem agree_prepend {o : Option (Bytes × Nat)} {s : State} {r : Bytes × Bool × State} {pre : Bytes} {d p' : Nat}
    (hp : p' = s.pos + d) (h : Agree o { s with pos := p' } r) : Agree (prepend pre d o) s (consBuf pre r) := by
  subst hp
  cases o with
  | none => exact h
  | some vm =>
    obtain ⟨v, m⟩ := vm
    unfold Agree at h
    simp only [] at h
    subst h
    show (pre ++ v, true, _) = (pre ++ v, true, _)
    have : s.pos + d + m = s.pos + (m + d) := by omega
    simp only [this]

/-- an escape `\\u`, `\\U`, `\\x` with `k` hex digits, the backslash at `s.pos`: cut short by the end of the input,
the model's loop runs past the end and the decoder gives up; otherwise the model wrote the decoder's bytes and
both go on behind the digits -/
theorem agree_hexEsc {k : Nat} {s : State} {r : Bytes × Bool × State} {pre : Bytes} {o : Option (Bytes × Nat)}
    (hpre : k ≤ s.input.size - (s.pos + 1 + 1) →
      pre = if k == 2 then [UInt8.ofNat (hexValue ((restL s.input (s.pos + 1 + 1)).take k))]
        else utf8Spec (hexValue ((restL s.input (s.pos + 1 + 1)).take k)))
    (hpast : s.input.size - (s.pos + 1 + 1) < k → r.2.1 = false)
    (h : Agree o { s with pos := s.pos + 1 + 1 + k } r) :
    Agree (hexEsc k (restL s.input (s.pos + 1 + 1)) o) s (consBuf pre r) := by
  unfold hexEsc
  rw [restL_length]
  by_cases hl : s.input.size - (s.pos + 1 + 1) < k
  · rw [if_pos hl]
    exact hpast hl
  · rw [if_neg hl, ← hpre (by omega)]
    exact agree_prepend (by omega) h

theorem readStringLoop_past_end (q : UInt8) (hq : q ≠ 0) (dq : Bool) (fuel : Nat) (s : State)
    (h : s.input.size ≤ s.pos) : (readStringLoop q dq fuel s).2.1 = false := by
  cases fuel with
  | zero => rfl
  | succ f =>
    unfold readStringLoop
    have h0 : peekAt s.input s.pos = 0 := peekAt_of_ge h
    have e1 : ((0 : UInt8) == 92) = false := by decide
    have e2 : ((0 : UInt8) == q) = false := by simp; exact fun h => hq h.symm
    simp only [readChar_fst, h0, e1, e2, Bool.and_false, Bool.false_eq_true, ↓reduceIte]
    rfl

theorem hexChar_spec : ∀ n, n < 256 →
    hexCharToHex (UInt8.ofNat n) = UInt8.ofNat (hexDigitVal (UInt8.ofNat n)) ∧ hexDigitVal (UInt8.ofNat n) < 16 := by
  decide +kernel

theorem hexChar_eq (c : UInt8) : hexCharToHex c = UInt8.ofNat (hexDigitVal c) ∧ hexDigitVal c < 16 := by
  have := hexChar_spec c.toNat c.toNat_lt
  rwa [UInt8.ofNat_toNat] at this

theorem nibbles : ∀ a, a < 16 → ∀ b, b < 16 →
    (UInt8.ofNat a <<< 4) ||| UInt8.ofNat b = UInt8.ofNat (a * 16 + b) := by
  decide +kernel

/-- the byte of `\xHH` -/
theorem hexByte (c1 c2 : UInt8) :
    (hexCharToHex c1 <<< 4) ||| hexCharToHex c2 = UInt8.ofNat (hexValue [c1, c2])
    ∧ hexValue [c1, c2] < 256 := by
  obtain ⟨e1, l1⟩ := hexChar_eq c1
  obtain ⟨e2, l2⟩ := hexChar_eq c2
  have hv : hexValue [c1, c2] = hexDigitVal c1 * 16 + hexDigitVal c2 := by
    simp [hexValue]
  rw [e1, e2, nibbles _ l1 _ l2, hv]
  exact ⟨rfl, by omega⟩

theorem readHex_fst (s : State) :
    (readHex s).1 = UInt8.ofNat (hexValue [peekAt s.input s.pos, peekAt s.input (s.pos + 1)]) :=
  (hexByte _ _).1

theorem readEscape_x (s : State) : readEscape 120 s = readHex s := readEscape_eq 120 s

theorem readEscape_other (e : UInt8) (s : State) (h : (e == 120) = false) : readEscape e s = (escByte e, s) := by
  rw [readEscape_eq, h]; rfl

/-! ### UTF-8: Go's `utf8.AppendRune` (bit operations, model) = the statement's encoder (arithmetic) -/

theorem contByte_spec : ∀ n, n < 256 →
    (0x80 : UInt8) ||| (UInt8.ofNat n &&& 0x3F) = UInt8.ofNat (0x80 + n % 64) := by decide +kernel

theorem lead2_spec : ∀ n, n < 32 → (0xC0 : UInt8) ||| UInt8.ofNat n = UInt8.ofNat (0xC0 + n) := by decide +kernel
theorem lead3_spec : ∀ n, n < 16 → (0xE0 : UInt8) ||| UInt8.ofNat n = UInt8.ofNat (0xE0 + n) := by decide +kernel
theorem lead4_spec : ∀ n, n < 8 → (0xF0 : UInt8) ||| UInt8.ofNat n = UInt8.ofNat (0xF0 + n) := by decide +kernel

theorem toUInt8_eq (x : UInt32) : x.toUInt8 = UInt8.ofNat (x.toNat % 256) := by
  apply UInt8.toNat_inj.mp
  rw [UInt32.toNat_toUInt8]
  simp

theorem shr_toNat (r : UInt32) (k : Nat) (hk : k < 32) : (r >>> UInt32.ofNat k).toNat = r.toNat / 2 ^ k := by
  rw [UInt32.toNat_shiftRight, Nat.shiftRight_eq_div_pow]
  have : (UInt32.ofNat k).toNat % 32 = k := by
    simp [UInt32.toNat_ofNat']
    omega
  rw [this]

/-- a continuation byte -/
theorem cont_eq (x : UInt32) (m : Nat) (h : x.toNat % 64 = m % 64) :
    (0x80 : UInt8) ||| (x.toUInt8 &&& 0x3F) = UInt8.ofNat (0x80 + m % 64) := by
  rw [toUInt8_eq, contByte_spec _ (Nat.mod_lt _ (by omega))]
  congr 2
  omega

/-- a leading byte's payload: the shifted rune is small enough to be the byte -/
theorem toUInt8_of_lt (x : UInt32) {n : Nat} (hx : x.toNat = n) (hn : n < 256) : x.toUInt8 = UInt8.ofNat n := by
  rw [toUInt8_eq, hx, Nat.mod_eq_of_lt hn]

/-- the model compares the rune as a `UInt32`, the statement its value: once the comparisons are the same, the
two `if` chains have the same branches, and each byte is `lead*_spec` / `cont_eq` -/
theorem appendRune_eq (r : UInt32) : appendRune r = utf8Spec r.toNat := by
  have s6 : (r >>> 6).toNat = r.toNat / 64 := shr_toNat r 6 (by omega)
  have s12 : (r >>> 12).toNat = r.toNat / 4096 := shr_toNat r 12 (by omega)
  have s18 : (r >>> 18).toNat = r.toNat / 262144 := shr_toNat r 18 (by omega)
  have hn := r.toNat_lt
  have c1 : r ≤ 0x7F ↔ r.toNat < 0x80 := by
    rw [UInt32.le_iff_toNat_le]; show r.toNat ≤ 0x7F ↔ _; omega
  have c2 : r ≤ 0x7FF ↔ r.toNat < 0x800 := by
    rw [UInt32.le_iff_toNat_le]; show r.toNat ≤ 0x7FF ↔ _; omega
  have c3 : r > 0x10FFFF ↔ r.toNat > 0x10FFFF := UInt32.lt_iff_toNat_lt
  have c4 : 0xD800 ≤ r ↔ 0xD800 ≤ r.toNat := UInt32.le_iff_toNat_le
  have c5 : r ≤ 0xDFFF ↔ r.toNat ≤ 0xDFFF := UInt32.le_iff_toNat_le
  have c6 : r ≤ 0xFFFF ↔ r.toNat < 0x10000 := by
    rw [UInt32.le_iff_toNat_le]; show r.toNat ≤ 0xFFFF ↔ _; omega
  unfold appendRune utf8Spec
  simp only [c1, c2, c3, c4, c5, c6]
  by_cases h1 : r.toNat < 0x80
  · rw [if_pos h1, if_pos h1, toUInt8_of_lt r rfl (by omega)]
  rw [if_neg h1, if_neg h1]
  by_cases h2 : r.toNat < 0x800
  · rw [if_pos h2, if_pos h2, toUInt8_of_lt _ s6 (by omega), lead2_spec _ (by omega), cont_eq r r.toNat rfl]
  rw [if_neg h2, if_neg h2]
  by_cases h3 : (decide (r.toNat > 0x10FFFF) || (decide (0xD800 ≤ r.toNat) && decide (r.toNat ≤ 0xDFFF))) = true
  · rw [if_pos h3, if_pos h3]
  rw [if_neg h3, if_neg h3]
  have hmax : r.toNat ≤ 0x10FFFF := by
    simp only [Bool.or_eq_true, decide_eq_true_eq, not_or] at h3; omega
  by_cases h4 : r.toNat < 0x10000
  · rw [if_pos h4, if_pos h4, toUInt8_of_lt _ s12 (by omega), lead3_spec _ (by omega),
      cont_eq (r >>> 6) (r.toNat / 64) (by rw [s6]), cont_eq r r.toNat rfl]
  · rw [if_neg h4, if_neg h4, toUInt8_of_lt _ s18 (by omega), lead4_spec _ (by omega),
      cont_eq (r >>> 12) (r.toNat / 4096) (by rw [s12]), cont_eq (r >>> 6) (r.toNat / 64) (by rw [s6]),
      cont_eq r r.toNat rfl]

/-! ### the value of the rune read by `readUnicode16/32` = the value of the hex digits -/

theorem join16 (a b : UInt8) : ((a.toUInt32 <<< 8) ||| b.toUInt32).toNat = a.toNat * 256 + b.toNat := by
  have ha := a.toNat_lt
  have hb := b.toNat_lt
  rw [UInt32.toNat_or, UInt32.toNat_shiftLeft, UInt8.toNat_toUInt32, UInt8.toNat_toUInt32]
  have e8 : (8 : UInt32).toNat % 32 = 8 := by decide
  rw [e8, Nat.shiftLeft_eq, Nat.mod_eq_of_lt (by omega), ← Nat.shiftLeft_eq,
    ← Nat.shiftLeft_add_eq_or_of_lt (by omega), Nat.shiftLeft_eq]

theorem join32 (x y : UInt32) (hx : x.toNat < 65536) (hy : y.toNat < 65536) :
    ((x <<< 16) ||| y).toNat = x.toNat * 65536 + y.toNat := by
  rw [UInt32.toNat_or, UInt32.toNat_shiftLeft]
  have e16 : (16 : UInt32).toNat % 32 = 16 := by decide
  rw [e16, Nat.shiftLeft_eq, Nat.mod_eq_of_lt (by omega), ← Nat.shiftLeft_eq,
    ← Nat.shiftLeft_add_eq_or_of_lt (by omega), Nat.shiftLeft_eq]

theorem hexValue2_lt (a b : UInt8) : hexValue [a, b] < 256 := (hexByte a b).2

theorem readHex_toNat (s : State) :
    (readHex s).1.toNat = hexValue [peekAt s.input s.pos, peekAt s.input (s.pos + 1)] := by
  have l := hexValue2_lt (peekAt s.input s.pos) (peekAt s.input (s.pos + 1))
  rw [readHex_fst, UInt8.toNat_ofNat']
  omega

theorem hexValue4 (a b c d : UInt8) : hexValue [a, b, c, d] = hexValue [a, b] * 256 + hexValue [c, d] := by
  simp only [hexValue, List.foldl]
  omega

theorem hexValue8 (a b c d e f g h : UInt8) :
    hexValue [a, b, c, d, e, f, g, h] = hexValue [a, b, c, d] * 65536 + hexValue [e, f, g, h] := by
  simp only [hexValue, List.foldl]
  omega

theorem readUnicode16_toNat (s : State) :
    (readUnicode16 s).1.toNat = hexValue [peekAt s.input s.pos, peekAt s.input (s.pos + 1),
      peekAt s.input (s.pos + 2), peekAt s.input (s.pos + 3)] := by
  show (((readHex s).1.toUInt32 <<< 8) ||| (readHex { s with pos := s.pos + 2 }).1.toUInt32).toNat = _
  rw [join16, readHex_toNat, readHex_toNat, hexValue4]

theorem readUnicode32_toNat (s : State) :
    (readUnicode32 s).1.toNat = hexValue [peekAt s.input s.pos, peekAt s.input (s.pos + 1),
      peekAt s.input (s.pos + 2), peekAt s.input (s.pos + 3), peekAt s.input (s.pos + 4), peekAt s.input (s.pos + 5),
      peekAt s.input (s.pos + 6), peekAt s.input (s.pos + 7)] := by
  show (((readUnicode16 s).1 <<< 16) ||| (readUnicode16 { s with pos := s.pos + 4 }).1).toNat = _
  have l1 := readUnicode16_toNat s
  have l2 : (readUnicode16 { s with pos := s.pos + 4 }).1.toNat = hexValue [peekAt s.input (s.pos + 4),
      peekAt s.input (s.pos + 5), peekAt s.input (s.pos + 6), peekAt s.input (s.pos + 7)] :=
    readUnicode16_toNat { s with pos := s.pos + 4 }
  have b1 : (readUnicode16 s).1.toNat < 65536 := by
    rw [l1, hexValue4]
    have := hexValue2_lt (peekAt s.input s.pos) (peekAt s.input (s.pos + 1))
    have := hexValue2_lt (peekAt s.input (s.pos + 2)) (peekAt s.input (s.pos + 3))
    omega
  have b2 : (readUnicode16 { s with pos := s.pos + 4 }).1.toNat < 65536 := by
    rw [l2, hexValue4]
    have := hexValue2_lt (peekAt s.input (s.pos + 4)) (peekAt s.input (s.pos + 5))
    have := hexValue2_lt (peekAt s.input (s.pos + 6)) (peekAt s.input (s.pos + 7))
    omega
  rw [join32 _ _ b1 b2, l1, l2, hexValue8]

theorem restL_take8 {input : Array UInt8} {pos : Nat} (h : pos + 8 ≤ input.size) :
    (restL input pos).take 8 =
      [peekAt input pos, peekAt input (pos + 1), peekAt input (pos + 2), peekAt input (pos + 3),
       peekAt input (pos + 4), peekAt input (pos + 5), peekAt input (pos + 6), peekAt input (pos + 7)] := by
  rw [restL_cons (by omega), restL_cons (by omega), restL_cons (by omega), restL_cons (by omega),
    restL_cons (by omega), restL_cons (by omega), restL_cons (by omega), restL_cons (by omega)]
  rfl

/-- the two facts about `\u` / `\U` escapes the comparison needs: Go's UTF-8 encoder on the rune
read by the model = the statement's encoder on the value of the hex digits -/
structure RuneOK : Prop where
  u16 : ∀ s : State, s.pos + 4 ≤ s.input.size →
    appendRune (readUnicode16 s).1 = utf8Spec (hexValue ((restL s.input s.pos).take 4))
  u32 : ∀ s : State, s.pos + 8 ≤ s.input.size →
    appendRune (readUnicode32 s).1 = utf8Spec (hexValue ((restL s.input s.pos).take 8))

theorem specString_nil (dq : Bool) (q : UInt8) (fs : Nat) : specString dq q fs [] = none := by
  cases fs <;> rfl

theorem readStringLoop_agree (q : UInt8) (hq : q ≠ 0) (dq : Bool) (hR : RuneOK) :
    ∀ fuel (s : State) (fs : Nat), s.input.size + 1 ≤ s.pos + fuel → (restL s.input s.pos).length + 1 ≤ fs →
      Agree (specString dq q fs (restL s.input s.pos)) s (readStringLoop q dq fuel s) := by
  intro fuel
  induction fuel with
  | zero =>
    intro s fs h1 h2
    rw [restL_nil (by simp at h1; omega), specString_nil]
    rfl
  | succ f ih =>
    intro s fs h1 h2
    by_cases hlt : s.pos < s.input.size
    · obtain ⟨fs', rfl⟩ : ∃ k, fs = k + 1 := ⟨fs - 1, by omega⟩
      rw [restL_length] at h2
      -- the recursive call, at any later position
      have recur : ∀ p', s.pos < p' →
          Agree (specString dq q fs' (restL s.input p')) { s with pos := p' } (readStringLoop q dq f { s with pos := p' }) :=
        fun p' hp => ih { s with pos := p' } fs' (by simp; omega) (by rw [restL_length]; simp; omega)
      have past : ∀ p', s.input.size ≤ p' → (readStringLoop q dq f { s with pos := p' }).2.1 = false :=
        fun p' hp => readStringLoop_past_end q hq dq f { s with pos := p' } hp
      rw [restL_cons hlt]
      unfold specString readStringLoop
      simp only [readChar_fst, readChar_snd, readUnicode16_snd, readUnicode32_snd]
      by_cases c1 : (dq && peekAt s.input s.pos == 92) = true
      · simp only [c1, ↓reduceIte]
        by_cases hlt2 : s.pos + 1 < s.input.size
        · rw [restL_cons hlt2]
          simp only []
          by_cases c2 : (peekAt s.input (s.pos + 1) == 117) = true
          · simp only [c2, ↓reduceIte]
            rw [restL_drop]
            exact agree_hexEsc (fun h => (hR.u16 { s with pos := s.pos + 1 + 1 } (by show s.pos + 1 + 1 + 4 ≤ s.input.size; omega)).trans (if_neg (by decide)).symm) (fun h => past _ (by omega)) (recur _ (by omega))
          · simp only [c2, Bool.false_eq_true, ↓reduceIte]
            by_cases c3 : (peekAt s.input (s.pos + 1) == 85) = true
            · simp only [c3, ↓reduceIte]
              rw [restL_drop]
              exact agree_hexEsc (fun h => (hR.u32 { s with pos := s.pos + 1 + 1 } (by show s.pos + 1 + 1 + 8 ≤ s.input.size; omega)).trans (if_neg (by decide)).symm) (fun h => past _ (by omega)) (recur _ (by omega))
            · simp only [c3, Bool.false_eq_true, ↓reduceIte]
              by_cases c4 : (peekAt s.input (s.pos + 1) == 120) = true
              · simp only [c4, ↓reduceIte]
                rw [eq_of_beq c4, restL_drop]
                simp only [readEscape_x, readHex_snd]
                refine agree_hexEsc (fun h => ?_) (fun h => past _ (by omega)) (recur _ (by omega))
                rw [if_pos (by decide), restL_take2 (by omega), readHex_fst]
              · have e4 : (peekAt s.input (s.pos + 1) == 120) = false := eq_false_of_ne_true c4
                simp only [e4, Bool.false_eq_true, ↓reduceIte, readEscape_other _ _ e4]
                exact agree_prepend (by omega) (recur _ (by omega))
        · -- the backslash is the last byte of the input
          rw [restL_nil (by omega)]
          simp only []
          have e0 : peekAt s.input (s.pos + 1) = 0 := peekAt_of_ge (by omega)
          have n1 : ((0 : UInt8) == 117) = false := by decide
          have n2 : ((0 : UInt8) == 85) = false := by decide
          simp only [e0, n1, n2, Bool.false_eq_true, ↓reduceIte]
          obtain ⟨p', hp', he⟩ := readEscape_snd 0 { s with pos := s.pos + 1 + 1 }
          rw [he]
          exact past _ (by simp at hp'; omega)
      · simp only [c1, Bool.false_eq_true, ↓reduceIte]
        by_cases c2 : (peekAt s.input s.pos == q) = true
        · simp only [c2, ↓reduceIte]; rfl
        · simp only [c2, Bool.false_eq_true, ↓reduceIte]
          by_cases c3 : (peekAt s.input s.pos == 0) = true
          · simp only [c3, ↓reduceIte]; rfl
          · simp only [c3, Bool.false_eq_true, ↓reduceIte]
            exact agree_prepend rfl (recur _ (by omega))
    · rw [restL_nil (by omega), specString_nil]
      exact readStringLoop_past_end q hq dq _ s (by omega)

/-- the hypotheses of `readStringLoop_agree` hold outright -/
theorem runeOK : RuneOK where
  u16 := fun s h => by
    rw [appendRune_eq, readUnicode16_toNat, restL_take4 h]
  u32 := fun s h => by
    rw [appendRune_eq, readUnicode32_toNat, restL_take8 h]

/-- **string literal = unescape(content)**: `readString`, called on the state just after the
opening quote `q` (`"` or a backquote), against the statement's decoder `specString` run on the
rest of the input with the statement's own fuel: if the decoder says the string has value `v` and
takes `m` bytes (closing quote included), the model returns exactly `(v, ok = true)` and stands
`m` bytes further; if the decoder says the string is not terminated, the model returns
`ok = false` (and `next` returns the end marker). -/
theorem readString_eq_spec (s : State) (q : UInt8) (hq : q = 34 ∨ q = 96) (hs : 1 ≤ s.pos) :
    Agree (specString (q == 34) q (s.input.size + 1) (restL s.input s.pos)) s (readString s q) := by
  have hq0 : q ≠ 0 := by rcases hq with h | h <;> (rw [h]; decide)
  unfold readString
  exact readStringLoop_agree q hq0 (q == 34) runeOK _ s _ (by omega) (by rw [restL_length]; omega)

end Grol.Lexer
