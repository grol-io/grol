import GrolProofs.InvBase
/-
C19 (whole evaluator): the vocabulary of the statements.  The C07 invariant and `Post`
(lean/GrolProofs/EvalInv.lean), strengthened: stored references carry the name they are stored under,
every function value is `del`-free and not named like a constant, and `Post` carries the two-state
relation `Kept` (every directly bound constant is still bound, to an equivalent value).  The definitions
are those of InvBase.lean (namespace `Grol.G`) at the policy `polK` that protects the constant names
(`okNode_polK` … `inv_iff`, `post_iff`).
-/
namespace Grol.K
open Grol.E

def constName : Option String → Bool
  | some n => isConstant n
  | none => false

mutual
/-- the syntax tree contains no `del(…)` and no named function whose name is a constant name -/
def okNode : Node → Bool
  | .pre _ r => okNode r
  | .inf _ l r => okNode l && okNode r
  | .stmts l => okNodes l
  | .ifE c a b => okNode c && okNode a && okNode b
  | .forE c b => okNode c && okNode b
  | .ret v => okNode v
  | .builtin name ps => name != "DEL" && okNodes ps
  | .fn name _ _ _ _ body => !constName name && okNode body
  | .call f args => okNode f && okNodes args
  | .arr els => okNodes els
  | .mapLit ks vs => okNodes ks && okNodes vs
  | .idx _ l i => okNode l && okNode i
  | _ => true
def okNodes : List Node → Bool
  | [] => true
  | x :: xs => okNode x && okNodes xs
end

def okFn (f : FuncVal) : Bool := okNode f.body && !constName f.name

/-! ### well-scoped values: every frame index occurring in a value is below `n`, every function in it is `okFn` -/

mutual
def okObj (n : Nat) : Obj → Bool
  | .array els => okList n els
  | .map _ kvs => okPairs n kvs
  | .func f => decide (f.env < n) && okFn f
  | .ret v _ => okObj n v
  | .ref e _ => decide (e < n)
  | _ => true
def okList (n : Nat) : List Obj → Bool
  | [] => true
  | x :: xs => okObj n x && okList n xs
def okPairs (n : Nat) : List (Obj × Obj) → Bool
  | [] => true
  | (k, v) :: xs => okObj n k && okObj n v && okPairs n xs
end

/-- `i`, `d`: index and depth of the frame the store belongs to -/
def StoreOk (frames : Array Frame) (i d : Nat) (store : List (String × Obj)) : Prop :=
  ∀ k v, (k, v) ∈ store → okObj frames.size v = true ∧
    ∀ e nm, v = Obj.ref e nm → (e < i ∧ ∀ fe, frames[e]? = some fe → fe.depth < d) ∧ nm = k

structure FrameOk (frames : Array Frame) (i : Nat) (f : Frame) : Prop where
  outer : ∀ o, f.outer = some o → o < i ∧ ∀ fo, frames[o]? = some fo → fo.depth < f.depth
  func : ∀ fn, f.function = some fn → fn.env < frames.size ∧ okFn fn = true
  store : StoreOk frames i f.depth f.store

structure Inv (st : St) : Prop where
  cur : st.cur < st.frames.size
  root : st.root < st.frames.size
  frames : ∀ i f, st.frames[i]? = some f → FrameOk st.frames i f
  cache : ∀ c, c ∈ st.cache → okObj st.frames.size c.result = true

/-- every constant directly bound (to a value, not a reference) in a frame of `st` is still
directly bound in the same frame of `st'`, to an equivalent value -/
def Kept (st st' : St) : Prop :=
  ∀ e N v, isConstant N = true → frameVal st e N = some v → ∃ v', frameVal st' e N = some v' ∧ Eqv v v'

def Rel (st st' : St) : Prop := st.frames.size ≤ st'.frames.size ∧ Kept st st'

def runM (x : M α) (st : St) : Except Stop α × St := x.run st |>.run

theorem outcome_eq (x : M α) (st : St) : outcome x st = (runM x st).1 := rfl
theorem stateAfter_eq (x : M α) (st : St) : stateAfter x st = (runM x st).2 := rfl

def Post (x : M α) (st : St) (Q : α → St → Prop) : Prop :=
  match runM x st with
  | (.ok a, st') => Inv st' ∧ Rel st st' ∧ Q a st'
  | (.error (.goPanic _), _) => False
  | (.error _, st') => Inv st' ∧ Rel st st'

theorem runM_throw (e : Stop) (st : St) : runM (throw e : M α) st = (.error e, st) := run_throw e st

/-- the same as `E.NPR` -/
def NPR (r : R α) : Prop := ∀ s, r ≠ .error (.goPanic s)

theorem NPR.ok (a : α) : NPR (.ok a : R α) := E.NPR.ok a

open Grol.G (Policy)

/-- the constant names are protected: stored references carry their name, `del` is not admitted -/
def polK : Policy := ⟨isConstant, true, false, fun _ h => h, fun _ _ => rfl, fun _ _ => rfl⟩

mutual
theorem okNode_polK : ∀ n, okNode n = G.okNode polK n
  | .pre _ r | .ret r => by simp only [okNode, G.okNode, okNode_polK r]
  | .inf _ l r | .forE l r | .idx _ l r => by simp only [okNode, G.okNode, okNode_polK l, okNode_polK r]
  | .ifE c a b => by simp only [okNode, G.okNode, okNode_polK c, okNode_polK a, okNode_polK b]
  | .stmts l | .arr l => by simp only [okNode, G.okNode, okNodes_polK l]
  | .builtin _ ps => by simp only [okNode, G.okNode, okNodes_polK ps, show polK.del = false from rfl, Bool.false_or]
  | .fn name _ _ _ _ body => by cases name <;> simp only [okNode, G.okNode, okNode_polK body] <;> rfl
  | .call f args => by simp only [okNode, G.okNode, okNode_polK f, okNodes_polK args]
  | .mapLit ks vs => by simp only [okNode, G.okNode, okNodes_polK ks, okNodes_polK vs]
  | .ident _ | .int _ | .float _ | .str _ | .bool _ | .post _ _ | .none | .ctl _ | .comment | .macroLit _ _ => by
    simp only [okNode, G.okNode]
theorem okNodes_polK : ∀ l, okNodes l = G.okNodes polK l
  | [] => rfl
  | x :: xs => by simp only [okNodes, G.okNodes, okNode_polK x, okNodes_polK xs]
end

theorem okFn_polK (f : FuncVal) : okFn f = G.okFn polK f := by
  cases h : f.name <;> simp only [okFn, G.okFn, okNode_polK, h] <;> rfl

mutual
theorem okObj_polK (n : Nat) : ∀ o, okObj n o = G.okObj polK n o
  | .array els => by simp only [okObj, G.okObj, okList_polK n els]
  | .map _ kvs => by simp only [okObj, G.okObj, okPairs_polK n kvs]
  | .func f => by simp only [okObj, G.okObj, okFn_polK]
  | .ret v _ => by simp only [okObj, G.okObj, okObj_polK n v]
  | .ref _ _ | .null | .bool _ | .int _ | .float _ | .str _ | .ext _ | .error _ | .quote _ => by
    simp only [okObj, G.okObj]
theorem okList_polK (n : Nat) : ∀ l, okList n l = G.okList polK n l
  | [] => rfl
  | x :: xs => by simp only [okList, G.okList, okObj_polK n x, okList_polK n xs]
theorem okPairs_polK (n : Nat) : ∀ l, okPairs n l = G.okPairs polK n l
  | [] => rfl
  | (k, v) :: xs => by simp only [okPairs, G.okPairs, okObj_polK n k, okObj_polK n v, okPairs_polK n xs]
end

theorem storeOk_iff {frames : Array Frame} {i d : Nat} {store : List (String × Obj)} :
    StoreOk frames i d store ↔ G.StoreOk polK frames i d store := by
  unfold StoreOk G.StoreOk
  simp only [okObj_polK]
  exact ⟨fun h k v hm => ⟨(h k v hm).1, fun e nm hv => ⟨((h k v hm).2 e nm hv).1, fun _ => ((h k v hm).2 e nm hv).2⟩⟩,
    fun h k v hm => ⟨(h k v hm).1, fun e nm hv => ⟨((h k v hm).2 e nm hv).1, ((h k v hm).2 e nm hv).2 rfl⟩⟩⟩

theorem frameOk_iff {frames : Array Frame} {i : Nat} {f : Frame} :
    FrameOk frames i f ↔ G.FrameOk polK frames i f :=
  ⟨fun h => ⟨h.outer, by simpa only [okFn_polK] using h.func, storeOk_iff.1 h.store⟩,
    fun h => ⟨h.outer, by simpa only [okFn_polK] using h.func, storeOk_iff.2 h.store⟩⟩

theorem inv_iff {st : St} : Inv st ↔ G.Inv polK st :=
  ⟨fun h => ⟨h.cur, h.root, fun i f hf => frameOk_iff.1 (h.frames i f hf), by simpa only [okObj_polK] using h.cache⟩,
    fun h => ⟨h.cur, h.root, fun i f hf => frameOk_iff.2 (h.frames i f hf), by simpa only [okObj_polK] using h.cache⟩⟩

/-- `Kept` and `Rel` are `G.Kept polK` and `G.Rel polK` by unfolding -/
theorem post_iff {x : M α} {st : St} {Q : α → St → Prop} : Post x st Q ↔ G.Post polK x st Q := by
  unfold Post G.Post runM E.runM
  generalize (x.run st |>.run) = p
  obtain ⟨e | a, s⟩ := p
  · cases e <;> simp only [inv_iff] <;> rfl
  · simp only [inv_iff]; rfl

/-- the continuation sees the invariant and the growth of the heap (what it needs about values held
in local variables); `Kept` is composed by `bind` itself -/
theorem Post.bind {x : M α} {f : α → M β} {st : St} {Q : α → St → Prop} {R : β → St → Prop}
    (hx : Post x st Q)
    (hf : ∀ a st', Inv st' → st.frames.size ≤ st'.frames.size → Q a st' → Post (f a) st' R) :
    Post (x >>= f) st R :=
  post_iff.2 ((post_iff.1 hx).bind fun a st' hI hle hq => post_iff.1 (hf a st' (inv_iff.2 hI) hle hq))

theorem post_pure_bind {a : α} {f : α → M β} {st : St} {R : β → St → Prop} (h : Post (f a) st R) :
    Post (pure a >>= f) st R := h

theorem Post.get {st : St} {Q : St → St → Prop} (hI : Inv st) (h : Q st st) : Post (get : M St) st Q :=
  post_iff.2 (.get (inv_iff.1 hI) h)

theorem Post.no_panic {x : M α} {st : St} {Q : α → St → Prop} (h : Post x st Q) :
    isGoPanic (outcome x st) = false := (post_iff.1 h).after.2.2.1

end Grol.K
