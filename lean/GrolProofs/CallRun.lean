import GrolProofs.EnvRun
/-
A call, run: `run_applyFunction` says in one equation what `applyFunction` does from a state (the cache
lookup, the binding of the arguments, the body in the callee's scope, the bookkeeping of `finishCall`),
`run_finishCall` what the bookkeeping does, and `run_eval` what `Eval` (through which the body is evaluated)
adds to `evalInternal`.  The facts about calls are read off these; `evalAssignment`, by the form of its
target, is here for the same use.
-/
namespace Grol.E

theorem run_curEnv (st : St) : run curEnv st = (.ok st.cur, st) := rfl

/-- what `Cache.Get` finds -/
def cacheLookup (st : St) (key : String) (args : List Obj) : Option (Obj × Grol.Wire.Bytes) :=
  if !st.cfg.cacheOn then none
  else if args.length > st.cfg.maxArgs then none
  else if !(hashableList st.cfg args) then none
  else match st.cache.find? (fun c => c.key == key && keyEqList c.args args) with
    | some c => some (c.result, c.output)
    | none => none

theorem run_cacheGet (key : String) (args : List Obj) (st : St) :
    run (cacheGet key args) st = (.ok (cacheLookup st key args), st) := by
  unfold cacheGet cacheLookup
  rw [run_bind, run_get]
  dsimp only
  split; · rfl
  split; · rfl
  split; · rfl
  cases List.find? (fun c => c.key == key && keyEqList c.args args) st.cache <;> rfl

theorem cacheLookup_off {st : St} (h : st.cfg.cacheOn = false) (key : String) (args : List Obj) :
    cacheLookup st key args = none := by
  unfold cacheLookup; rw [h]; rfl

/-- `Cache.Set` never fails and touches nothing but the cache -/
theorem run_cacheSet (key : String) (args : List Obj) (res : Obj) (out : Grol.Wire.Bytes) (st : St) :
    ∃ c, run (cacheSet key args res out) st = (.ok (), { st with cache := c }) ∧ (st.cfg.cacheOn = false → c = st.cache) := by
  unfold cacheSet
  rw [run_bind, run_get]
  dsimp only
  cases st.cfg.cacheOn
  · exact ⟨_, rfl, fun _ => rfl⟩
  · repeat' split
    all_goals exact ⟨_, rfl, fun h => by cases h⟩

/-- the state with a captured output replayed into the current writer -/
def replayState (st : St) (output : Grol.Wire.Bytes) : St :=
  if output.isEmpty then st else
    match st.outs with
    | [] => { st with outs := [[output]] }
    | o :: rest => { st with outs := (output :: o) :: rest }

theorem replayState_frames (st : St) (output : Grol.Wire.Bytes) : (replayState st output).frames = st.frames := by
  unfold replayState; repeat' split
  all_goals rfl

theorem replayState_cache (st : St) (output : Grol.Wire.Bytes) : (replayState st output).cache = st.cache := by
  unfold replayState; repeat' split
  all_goals rfl

theorem run_replay (output : Grol.Wire.Bytes) (k : M α) (st : St) :
    run (do
      if !output.isEmpty then writeOut output
      k) st = run k (replayState st output) := by
  unfold replayState
  cases output.isEmpty <;> rfl

/-- the end of a call: the captured output is replayed; then a callee whose counter moved moves the caller's,
and otherwise a result that is neither an error nor holds a function is stored -/
theorem run_finishCall (f : FuncVal) (args : List Obj) (cur before after : Nat) (cc : Bool) (res : Obj)
    (output : Grol.Wire.Bytes) (s : St) :
    run (finishCall f args cur before after cc res output) s =
      if after != before then
        match (replayState s output).frames[cur]? with
        | some fr => (.ok res, { replayState s output with
            frames := (replayState s output).frames.setIfInBounds cur { fr with cantCache := true, getMiss := fr.getMiss + 1 } })
        | none => (.error (.goPanic "nil environment"), replayState s output)
      else if res.isError || holdsFunc res then (.ok res, replayState s output)
      else (.ok res, stateAfter (cacheSet f.key args res output) (replayState s output)) := by
  unfold finishCall
  rw [run_replay]
  generalize replayState s output = s1
  split
  · rw [run_bind, triggerNoCache, run_modifyFrame]
    cases s1.frames[cur]? <;> rfl
  · cases res.isError
    · cases holdsFunc res
      · obtain ⟨c, hc, _⟩ := run_cacheSet f.key args res output s1
        rw [if_neg Bool.false_ne_true, if_neg Bool.false_ne_true, run_bind, stateAfter_eq_run, hc]
        rfl
      · rfl
    · rfl

/-- the bookkeeping never changes the value of a call made from a frame that exists -/
theorem outcome_finishCall {f : FuncVal} {args : List Obj} {cur before after : Nat} {cc : Bool} {res : Obj}
    {output : Grol.Wire.Bytes} {s : St} {cfr : Frame} (hc : s.frames[cur]? = some cfr) :
    outcome (finishCall f args cur before after cc res output) s = .ok res := by
  rw [outcome_eq_run, run_finishCall, replayState_frames, hc]
  split
  · rfl
  · split <;> rfl

/-- what `Eval` makes of the value `evalInternal` returned: a RETURN value ends here, `break`/`continue` have
no loop to end … -/
def unwrapReturn : Obj → Obj
  | .ret v kind => if kind != "RETURN" then err "unexpected control type outside of for loops" else v
  | r => r

/-- … and one level of reference is followed -/
def unwrapResult (r : Obj) : M Obj :=
  match unwrapReturn r with
  | .ref e n => refValue e n
  | r => pure r

theorem run_eval (f : Nat) (node : Node) (st : St) :
    run (eval (f + 1) node) st =
      if st.depth > st.cfg.maxDepth then (.error .depthGuard, st)
      else match run (evalI f node) { st with depth := st.depth + 1 } with
        | (.ok r, s1) => run (unwrapResult r) { s1 with depth := s1.depth - 1 }
        | (.error e, s1) => (.error e, s1) := by
  rw [eval, run_bind, run_get]
  dsimp only
  split
  · rfl
  · rw [run_bind, run_set]
    dsimp only
    rw [run_bind]
    generalize run (evalI f node) { st with depth := st.depth + 1 } = rI
    obtain ⟨_ | r, s1⟩ := rI
    · rfl
    · dsimp only
      rw [run_bind, run_modify]
      -- the `do` block carries the second `match` into the branches of the first
      cases r <;> first | rfl | (unfold unwrapResult unwrapReturn; dsimp only; split <;> rfl)

/-! `evalAssignment` by the form of its target: a name, `x[i]`, `x.f` -/

theorem evalAssignment_ident (f : Nat) (right : Obj) (op name : String) :
    evalAssignment (f + 1) right op (.ident name) =
      if right.isError then pure right
      else (do let e ← curEnv; createOrSet e name right (op == "DEFINE")) := by
  rw [evalAssignment]
  rfl

theorem evalAssignment_index (f : Nat) (right : Obj) (op : String) (l i : Node) :
    evalAssignment (f + 1) right op (.idx "LBRACKET" l i) =
      if right.isError then pure right
      else (do let index ← eval f i; evalIndexAssignment l index right) := by
  rw [evalAssignment]
  rfl

theorem evalAssignment_dot (f : Nat) (right : Obj) (op : String) (l i : Node) :
    evalAssignment (f + 1) right op (.idx "DOT" l i) =
      if right.isError then pure right else evalIndexAssignment l (.str i.literalBytes) right := by
  rw [evalAssignment]
  rfl

def bodyState (s : St) (nenv : Nat) : St := { s with cur := nenv, outs := [] :: s.outs }

/-- a call of a function value: from a frame that holds a local function of the same name the cache is
skipped (and the call then counts as a miss); a hit replays the stored output; otherwise the arguments are
bound in a new frame `nenv`, the body runs there with a writer of its own, and `finishCall` does the rest in
the caller's scope with what the body wrote -/
theorem run_applyFunction (fuel : Nat) (f : FuncVal) (args : List Obj) (st : St) :
    run (applyFunction (fuel + 1) (.func f) args) st =
      match st.frames[st.cur]? with
      | none => (.error (.goPanic "nil environment"), st)
      | some cf =>
        match (if cf.localFunc && sameFunction cf f then none else cacheLookup st f.key args) with
        | some (v, output) => (.ok v, replayState st output)
        | none =>
          match run (extendFunctionEnv f args) st with
          | (.error e, s1) => (.error e, s1)
          | (.ok (.error e), s1) => (.ok e, s1)
          | (.ok (.ok nenv), s1) =>
            match run (eval fuel f.body) (bodyState s1 nenv) with
            | (.error e, s2) => (.error e, s2)
            | (.ok res, s2) =>
              match s2.frames[nenv]? with
              | none => (.error (.goPanic "nil environment"), s2)
              | some fr =>
                run (finishCall f args s1.cur 0 (if cf.localFunc && sameFunction cf f then fr.getMiss + 1 else fr.getMiss)
                    fr.cantCache res (match s2.outs with | o :: _ => chunksBytes o | [] => []))
                  { s2 with cur := s1.cur, outs := s2.outs.tail } := by
  unfold applyFunction
  rw [run_bind, run_curEnv]
  dsimp only
  rw [run_bind, run_getFrame]
  cases st.frames[st.cur]? with
  | none => rfl
  | some cf =>
    dsimp only
    have hget : run (if (cf.localFunc && sameFunction cf f) = true then pure none else cacheGet f.key args) st =
        (.ok (if cf.localFunc && sameFunction cf f then none else cacheLookup st f.key args), st) := by
      split
      · rfl
      · exact run_cacheGet _ _ _
    rw [run_bind, hget]
    generalize (if cf.localFunc && sameFunction cf f then none else cacheLookup st f.key args) = hit
    cases hit with
    | some p => exact run_replay p.2 (pure p.1) st
    | none =>
      dsimp only
      rw [run_bind]
      generalize run (extendFunctionEnv f args) st = rE
      obtain ⟨_ | _ | nenv, s1⟩ := rE
      · rfl
      · rfl
      dsimp only
      rw [run_bind, run_curEnv]
      dsimp only
      rw [run_bind, run_modify]
      dsimp only
      show run (_ >>= _) (bodyState s1 nenv) = _
      rw [run_bind]
      generalize run (eval fuel f.body) (bodyState s1 nenv) = rB
      obtain ⟨_ | res, s2⟩ := rB
      · rfl
      dsimp only
      rw [run_bind, run_getFrame]
      cases s2.frames[nenv]? with
      | none => rfl
      | some fr =>
        dsimp only
        rw [run_bind, run_get]
        dsimp only
        rw [run_bind, run_set]
        cases s2.outs <;> rfl

end Grol.E
