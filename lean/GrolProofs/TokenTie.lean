import GrolProofs.LexStream
/-
Tie between the HAND-WRITTEN constant-token tables of the lexer model (`Grol.Token.cTokens`,
`c2Tokens`, `keywords`, `TType.all`: what `token.Init` builds) and the table REGENERATED from the
code on every run (`Grol.Generated.constLiteral`: `token.ByType(t).Literal()` of the real package for
every value of `token.Type`, written by harness/cmd/harness/extract_precedence.go).

A change of `token/token.go` that adds, drops, renumbers or re-spells a constant token (an operator
character, a two-character operator, a keyword or builtin name) changes the generated table and
breaks one of these theorems at once, without any input having to reach it.  Finite tables:
`decide +kernel` over the whole table is a proof.
-/
namespace Grol.TokenTie
open Grol Grol.Generated Grol.Token Grol.LexStream

/-- the regenerated literal of a model token type, as characters -/
def litChars (t : TType) : Option (List Char) := (constLiteral (genType t)).map (fun s => s.toList)

def chr (b : UInt8) : Char := Char.ofNat b.toNat

/-- the model's enumeration and the generated one have the same length and the same numbering -/
theorem types_numbering :
    TType.all.length = TokType.all.length ∧
    TType.all.all (fun t => (genType t).toNat == t.toNat) = true ∧
    (TType.all.map genType) = TokType.all := by decide +kernel

/-- every `assoc(type, c)` of the model is the code's literal of that type -/
theorem cTokens_generated : cTokens.all (fun p => litChars p.2 == some [chr p.1]) = true := by decide +kernel

/-- every `assocC2(type, "c1c2")` of the model is the code's literal of that type -/
theorem c2Tokens_generated :
    c2Tokens.all (fun p => litChars p.2 == some [chr p.1.1, chr p.1.2]) = true := by decide +kernel

/-- every keyword / builtin name of the model is the code's literal of that type -/
theorem keywords_generated : keywords.all (fun p => litChars p.2 == some (p.1.map chr)) = true := by decide +kernel

/-- the types of the three model tables, in table order -/
def modelConstTypes : List TType := cTokens.map (·.2) ++ c2Tokens.map (·.2) ++ keywords.map (·.2)

/-- conversely: the three model tables cover EXACTLY the types for which the code has a constant literal
(no type twice, and as many as the generated table has entries) -/
theorem tables_cover_generated :
    (TType.all.filter (fun t => (constLiteral (genType t)).isSome)).length = modelConstTypes.length ∧
    modelConstTypes.all (fun t => (constLiteral (genType t)).isSome) = true ∧
    (TType.all.all fun t => decide ((modelConstTypes.filter (· == t)).length ≤ 1)) = true := by decide +kernel

/-- hence a type has a constant literal in the code iff it is in one of the model's tables -/
theorem const_iff_in_tables (t : TType) : (constLiteral (genType t)).isSome = true ↔ t ∈ modelConstTypes :=
  TType.forall_of_all (P := fun t => (constLiteral (genType t)).isSome = true ↔ t ∈ modelConstTypes)
    (by decide +kernel) t

end Grol.TokenTie
