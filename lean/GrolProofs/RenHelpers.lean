import GrolProofs.RenOps
/-
Two-run simulations: the non recursive helpers of lean/Grol/Eval/Eval.lean.  The cache and the new frame in the
C10 simulation; the helpers of a call, for any `Leaves`; the C10 simulation as a `Leaves`.
-/
namespace Grol.R
open Grol.E

theorem runM_curEnv' (st : St) : runM curEnv st = (.ok st.cur, st) := rfl

/-- both runs read their current scope -/
theorem sim_curEnv_bind {σ : Sh} {s t : St} (hR : StR σ s t) {f g : Nat → M α} {Q : α → α → Prop}
    (h : SimAt σ (f (sh σ t.cur)) (g t.cur) s t Q) : SimAt σ (curEnv >>= f) (curEnv >>= g) s t Q := by
  refine SimAt.bind_read (runM_curEnv' s) (runM_curEnv' t) ?_
  rw [hR.cur]; exact h

theorem sim_writeOut {σ : Sh} {s t : St} (hR : StR σ s t) (b : List UInt8) :
    SimAt σ (writeOut b) (writeOut b) s t (fun _ _ => True) := by
  unfold SimAt writeOut
  rw [runM_modify, runM_modify]
  refine ⟨?_, trivial⟩
  rw [hR.outs]
  cases t.outs with
  | nil => exact { hR with outs := rfl }
  | cons o rest => exact { hR with outs := rfl }

theorem sim_noteHazard {σ : Sh} {s t : St} (hR : StR σ s t) (c : Bool) (k n : String) :
    SimAt σ (noteHazard c k n) (noteHazard c k n) s t (fun _ _ => True) := by
  unfold noteHazard
  refine SimAt.ite (fun _ => ?_) (fun _ => SimAt.pure hR trivial)
  unfold SimAt
  rw [runM_modify, runM_modify]
  exact ⟨{ hR with }, trivial⟩

theorem sim_noteHazard_bind {σ : Sh} {s t : St} (hR : StR σ s t) (c : Bool) (k n : String)
    {f g : Unit → M α} {Q : α → α → Prop} (h : ∀ s' t', StR σ s' t' → SimAt σ (f ()) (g ()) s' t' Q) :
    SimAt σ (noteHazard c k n >>= f) (noteHazard c k n >>= g) s t Q :=
  SimAt.bind (sim_noteHazard hR c k n) (fun _ _ s' t' hR' _ => h s' t' hR')

theorem renL_set (σ : Sh) (l : List Obj) (i : Nat) (v : Obj) : renL σ (l.set i v) = (renL σ l).set i (ren σ v) := by
  simp [renL_eq, List.map_set]

theorem ren_newArray (σ : Sh) (l : List Obj) : ren σ (newArray l) = newArray (renL σ l) := by
  simp only [newArray, ren]

/-! ### the cache -/

theorem cacheR_find {σ : Sh} {ps pt : CacheEntry → Bool} :
    ∀ {ls lt : List CacheEntry}, CacheR σ ls lt → (∀ cs ct, EntryR σ cs ct → ps cs = pt ct) →
      match ls.find? ps, lt.find? pt with
      | some cs, some ct => EntryR σ cs ct
      | none, none => True
      | _, _ => False
  | _, _, .nil, _ => trivial
  | _, _, .cons (cs := cs) (ct := ct) he hl, hp => by
    simp only [List.find?_cons]
    rw [hp cs ct he]
    cases pt ct with
    | true => exact he
    | false => exact cacheR_find hl hp

theorem cacheR_filter {σ : Sh} {ps pt : CacheEntry → Bool} :
    ∀ {ls lt : List CacheEntry}, CacheR σ ls lt → (∀ cs ct, EntryR σ cs ct → ps cs = pt ct) →
      CacheR σ (ls.filter ps) (lt.filter pt)
  | _, _, .nil, _ => .nil
  | _, _, .cons (cs := cs) (ct := ct) he hl, hp => by
    simp only [List.filter_cons]
    rw [hp cs ct he]
    cases pt ct with
    | true => exact .cons he (cacheR_filter hl hp)
    | false => exact cacheR_filter hl hp

theorem entry_pred {σ : Sh} (key : String) (args : List Obj) {cs ct : CacheEntry} (h : EntryR σ cs ct) :
    (cs.key == key && keyEqList cs.args (renL σ args)) = (ct.key == key && keyEqList ct.args args) := by
  rw [h.key, h.args, keyEqList_ren_right]

theorem sim_cacheGet {σ : Sh} {s t : St} (hR : StR σ s t) (key : String) (args : List Obj) :
    SimAt σ (cacheGet key (renL σ args)) (cacheGet key args) s t
      (fun a b => a = b.map (fun p => (ren σ p.1, p.2))) := by
  unfold cacheGet
  refine SimAt.bind_read (runM_get s) (runM_get t) ?_
  rw [hR.cfg, renL_length, hashableList_ren]
  refine SimAt.ite (fun _ => SimAt.pure hR rfl) (fun _ => ?_)
  refine SimAt.ite (fun _ => SimAt.pure hR rfl) (fun _ => ?_)
  refine SimAt.ite (fun _ => SimAt.pure hR rfl) (fun _ => ?_)
  have := cacheR_find (ps := fun c => c.key == key && keyEqList c.args (renL σ args))
    (pt := fun c => c.key == key && keyEqList c.args args) hR.cache (fun cs ct h => entry_pred key args h)
  revert this
  cases List.find? (fun c => c.key == key && keyEqList c.args (renL σ args)) s.cache <;>
    cases List.find? (fun c => c.key == key && keyEqList c.args args) t.cache <;> intro h
  · exact SimAt.pure hR rfl
  · exact h.elim
  · exact h.elim
  · refine SimAt.pure hR ?_
    simp only [Option.map, h.result, h.output]

theorem sim_cacheSet {σ : Sh} {s t : St} (hR : StR σ s t) (key : String) (args : List Obj) (res : Obj)
    (output : List UInt8) :
    SimAt σ (cacheSet key (renL σ args) (ren σ res) output) (cacheSet key args res output) s t (fun _ _ => True) := by
  unfold cacheSet
  refine SimAt.bind_read (runM_get s) (runM_get t) ?_
  rw [hR.cfg, renL_length, hashableList_ren]
  refine SimAt.ite (fun _ => SimAt.pure hR trivial) (fun _ => ?_)
  refine SimAt.ite (fun _ => SimAt.pure hR trivial) (fun _ => ?_)
  refine SimAt.ite (fun _ => SimAt.pure hR trivial) (fun _ => ?_)
  dsimp only
  unfold SimAt
  rw [runM_set, runM_set]
  refine ⟨⟨rfl, hR.extNames, hR.depth, hR.steps, hR.outs, ?_, hR.cur, hR.root, hR.size, hR.n0, hR.pos, hR.frames,
    hR.dec⟩, trivial⟩
  refine .cons ⟨rfl, rfl, rfl, fun x => keyEqList_ren_left σ args x⟩ ?_
  exact cacheR_filter hR.cache (fun cs ct h => by simp only [entry_pred key args h])

/-! ### calls -/

theorem sim_newFrame {σ : Sh} {s t : St} (hR : StR σ s t) {nfs nft : Frame}
    (hfr : FrameR σ t.frames.size nfs nft) (hdec : FrameDec t.frames.size nft) :
    SimAt σ (newFrame nfs) (newFrame nft) s t (fun a b => a = sh σ b ∧ σ.n0 ≤ b) := by
  unfold SimAt newFrame
  rw [runM_bind, runM_bind, runM_get, runM_get]
  dsimp only
  rw [runM_bind, runM_bind, runM_set, runM_set]
  dsimp only
  rw [runM_pure, runM_pure]
  have hsz : sh σ t.frames.size = s.frames.size := by rw [sh_of_ge σ hR.n0, hR.size]
  refine ⟨?_, hsz.symm, hR.n0⟩
  refine { hR with size := ?_, n0 := ?_, frames := ?_, dec := ?_ }
  · simp only [Array.size_push]; rw [hR.size]; omega
  · simp only [Array.size_push]; exact Nat.le_succ_of_le hR.n0
  · intro i fi hi
    simp only [Array.getElem?_push] at hi ⊢
    by_cases hit : i = t.frames.size
    · subst hit
      simp only [if_true] at hi
      cases hi
      exact ⟨nfs, by simp [hsz], hfr⟩
    · simp only [hit, if_false] at hi
      obtain ⟨fsi, hfsi, hfri⟩ := hR.frames i fi hi
      refine ⟨fsi, ?_, hfri⟩
      have : sh σ i ≠ s.frames.size := by
        have := lt_of_frame hfsi
        omega
      simp only [this, if_false]
      exact hfsi
  · intro i fi hi
    simp only [Array.getElem?_push] at hi
    by_cases hit : i = t.frames.size
    · subst hit
      simp only [if_true] at hi
      cases hi
      exact hdec
    · simp only [hit, if_false] at hi
      exact hR.dec i fi hi

theorem zip_ren (σ : Sh) (ps : List String) (as : List Obj) :
    ps.zip (renL σ as) = (ps.zip as).map fun pa => (pa.1, ren σ pa.2) := by
  rw [renL_eq]
  induction ps generalizing as with
  | nil => rfl
  | cons p ps ih =>
    cases as with
    | nil => rfl
    | cons a as => simp [List.zip_cons_cons, ih]

theorem renL_getLast? (σ : Sh) (l : List Obj) : (renL σ l).getLast? = l.getLast?.map (ren σ) := by
  rw [renL_eq]; simp

theorem renL_dropLast (σ : Sh) (l : List Obj) : (renL σ l).dropLast = renL σ l.dropLast := by
  rw [renL_eq, renL_eq]; simp

/-- the last argument of a variadic call expanded when it is an array -/
def expandLast (args : List Obj) : List Obj :=
  match args.getLast? with
  | some (.array els) => args.dropLast ++ els
  | _ => args

def cutArgs (p : List String) (A : List Obj) (k : Nat) : List String × List Obj × List Obj :=
  if A.length ≥ k then (p, A.take k, A.drop k) else (p, A, [])

theorem splitArgs_eq (f : FuncVal) (args : List Obj) :
    splitArgs f args =
      if f.variadic then cutArgs (f.params.take (f.params.length - 1)) (expandLast args) (f.params.length - 1)
      else (f.params, args, []) := rfl

theorem expandLast_ren (σ : Sh) (args : List Obj) : expandLast (renL σ args) = renL σ (expandLast args) := by
  unfold expandLast
  rw [renL_getLast?]
  cases args.getLast? with
  | none => rfl
  | some last =>
    cases last with
    | array els => simp only [Option.map, ren]; rw [renL_dropLast, ← renL_append]
    | _ => all_goals rfl

theorem cutArgs_ren (σ : Sh) (p : List String) (A : List Obj) (k : Nat) :
    cutArgs p (renL σ A) k = ((cutArgs p A k).1, renL σ (cutArgs p A k).2.1, renL σ (cutArgs p A k).2.2) := by
  unfold cutArgs
  rw [renL_length]
  split
  · simp only [renL_take, renL_drop]
  · rfl

theorem splitArgs_ren (σ : Sh) (f : FuncVal) (args : List Obj) :
    splitArgs (renFn σ f) (renL σ args) =
      ((splitArgs f args).1, renL σ (splitArgs f args).2.1, renL σ (splitArgs f args).2.2) := by
  rw [splitArgs_eq, splitArgs_eq]
  have h1 : (renFn σ f).variadic = f.variadic := rfl
  have h2 : (renFn σ f).params = f.params := rfl
  rw [h1, h2]
  cases f.variadic with
  | true => simp only [if_true]; rw [expandLast_ren, cutArgs_ren]
  | false => rfl

theorem cleanL_expandLast {P : Qp} {args : List Obj} (h : cleanL P args) : cleanL P (expandLast args) := by
  unfold expandLast
  cases hl : args.getLast? with
  | none => exact h
  | some last =>
    cases last with
    | array els =>
      dsimp only
      refine cleanL_append ?_ ?_
      · rw [cleanL_iff] at *
        exact fun x hx => h x (List.dropLast_subset _ hx)
      · exact clean_arr ((cleanL_iff.1 h) _ (List.mem_of_getLast? hl))
    | _ => all_goals exact h

theorem cleanL_cutArgs {P : Qp} (p : List String) {A : List Obj} (k : Nat) (h : cleanL P A) :
    cleanL P (cutArgs p A k).2.1 ∧ cleanL P (cutArgs p A k).2.2 := by
  unfold cutArgs
  split
  · exact ⟨cleanL_take h k, cleanL_drop h k⟩
  · exact ⟨h, trivial⟩

theorem cleanL_splitArgs {P : Qp} (f : FuncVal) {args : List Obj} (h : cleanL P args) :
    cleanL P (splitArgs f args).2.1 ∧ cleanL P (splitArgs f args).2.2 := by
  rw [splitArgs_eq]
  cases f.variadic with
  | true => simp only [if_true]; exact cleanL_cutArgs _ _ (cleanL_expandLast h)
  | false => exact ⟨h, trivial⟩

/-! ### calls, for any `Leaves` -/

namespace Leaves
variable {P : Qp} (W : Leaves P)

theorem bindParams (nenv : Nat) : ∀ {learnt : Prop} (l : List (String × Obj)), (learnt → P.σ.n0 ≤ nenv) →
    (learnt → ∀ pa ∈ l, clean P pa.2) →
    W.J learnt (bindParams (sh P.σ nenv) (l.map fun pa => (pa.1, ren P.σ pa.2))) (bindParams nenv l) (QOptq P)
  | _, [], _, _ => Calc.J.pure fun _ => ⟨rfl, fun _ h => by cases h⟩
  | learnt, (p, a) :: rest, hn, hc => by
    simp only [List.map_cons]
    unfold Grol.E.bindParams
    refine Calc.J.bind (W.valueOf a fun h => hc h (p, a) List.mem_cons_self) fun v => ?_
    have hrest : W.J (learnt ∧ notRef v = true ∧ clean P v) (do
          let oerr ← createOrSet (sh P.σ nenv) p (ren P.σ v) true
          if oerr.isError = true then pure (some oerr)
            else Grol.E.bindParams (sh P.σ nenv) (List.map (fun pa => (pa.fst, ren P.σ pa.snd)) rest))
        (do
          let oerr ← createOrSet nenv p v true
          if oerr.isError = true then pure (some oerr) else Grol.E.bindParams nenv rest) (QOptq P) := by
      refine Calc.J.bind (W.createIn nenv p v (fun h => hn h.1) fun h => h.2.2) fun oerr => ?_
      rw [ren_isError]
      exact Calc.J.ite (fun _ => Calc.J.pure fun h => ⟨rfl, fun v h' => by cases h'; exact h.2⟩)
        (fun _ => bindParams nenv rest (fun h => hn h.1.1) fun h pa hm => hc h.1.1 pa (List.mem_cons_of_mem _ hm))
    dsimp only
    exact Calc.J.ite (fun _ => (W.triggerNoCache nenv).seq hrest) (fun _ => hrest)

theorem extendFunctionEnv {learnt : Prop} (f : FuncVal) (args : List Obj) (hca : learnt → cleanL P args) :
    W.J learnt (extendFunctionEnv (renFn P.σ f) (renL P.σ args)) (extendFunctionEnv f args)
      (fun a b => a = renX P.σ b ∧ (∀ n, b = .ok n → P.σ.n0 ≤ n) ∧ ∀ e, b = .error e → clean P e) := by
  unfold Grol.E.extendFunctionEnv
  refine W.callFrame f fun nenv => ?_
  have hv : (renFn P.σ f).variadic = f.variadic := rfl
  rw [hv]
  -- everything after the (dereferenced) argument list is learnt
  extract_lets okS jpS okT jpT
  have hok : P.σ.n0 ≤ nenv → (Except.ok (sh P.σ nenv) : Except Obj Nat) = renX P.σ (Except.ok nenv) ∧
      (∀ n, (Except.ok nenv : Except Obj Nat) = .ok n → P.σ.n0 ≤ n) ∧
      ∀ e, (Except.ok nenv : Except Obj Nat) = .error e → clean P e :=
    fun hn0 => ⟨rfl, fun n h => (by cases h; exact hn0), fun e h => (by cases h)⟩
  have hjp : ∀ (A : List Obj) {learnt : Prop}, (learnt → P.σ.n0 ≤ nenv) → (learnt → cleanL P A) →
      W.J learnt (jpS (renL P.σ A)) (jpT A)
        (fun a b => a = renX P.σ b ∧ (∀ n, b = .ok n → P.σ.n0 ≤ n) ∧ ∀ e, b = .error e → clean P e) := by
    intro A learnt hn0 hcA
    unfold jpS jpT okS okT
    rw [splitArgs_ren]
    dsimp only
    rw [renL_length, zip_ren]
    refine Calc.J.ite (fun _ => Calc.J.pure fun _ => ⟨rfl, fun n h => (by cases h), fun e h => (by cases h; trivial)⟩)
      (fun _ => ?_)
    refine Calc.J.bind (W.bindParams nenv _ hn0 fun h pa hpa =>
      (cleanL_iff.1 (cleanL_splitArgs f (hcA h)).1) _ (List.of_mem_zip hpa).2) fun r => ?_
    cases r with
    | some oerr =>
      exact Calc.J.pure fun h => ⟨rfl, fun n h => (by cases h), fun e h' => (by cases h'; exact h.2 oerr rfl)⟩
    | none =>
      simp only [Option.map]
      refine Calc.J.ite (fun _ => ?_) (fun _ => Calc.J.pure fun h => hok (hn0 h.1))
      rw [← ren_newArray]
      exact Calc.J.bind (W.setNoChecksIn nenv ".." _ (fun h => hn0 h.1) fun h => (cleanL_splitArgs f (hcA h.1)).2)
        fun _ => Calc.J.pure fun h => hok (hn0 h.1.1)
  have hargs : (learnt ∧ P.σ.n0 ≤ nenv) → cleanL P args := fun h => hca h.1
  refine Calc.J.ite (fun _ => ?_) (fun _ => Calc.J.pure_bind (hjp args (fun h => h.2) hargs))
  rw [renL_getLast?]
  cases hl : args.getLast? with
  | none =>
    simp only [Option.map]
    exact Calc.J.pure_bind (hjp args (fun h => h.2) hargs)
  | some last =>
    simp only [Option.map]
    refine Calc.J.bind (W.valueOf last fun h => (cleanL_iff.1 (hargs h)) _ (List.mem_of_getLast? hl)) fun v =>
      Calc.J.pure_bind ?_
    have := hjp (args.dropLast ++ [v]) (learnt := (learnt ∧ P.σ.n0 ≤ nenv) ∧ notRef v = true ∧ clean P v)
      (fun h => h.1.2) fun h => cleanL_append
        (cleanL_iff.2 (fun x hx => (cleanL_iff.1 (hargs h.1)) x (List.dropLast_subset _ hx))) ⟨h.2.2, trivial⟩
    rw [renL_append] at this
    simp only [renL] at this
    rw [renL_dropLast]
    exact this

theorem finishCall {learnt : Prop} (f : FuncVal) (args : List Obj) (curState before after : Nat)
    (cantCache : Bool) (res : Obj) (output : List UInt8) (hcr : learnt → clean P res) :
    W.J learnt (finishCall (renFn P.σ f) (renL P.σ args) (sh P.σ curState) before after cantCache (ren P.σ res) output)
      (finishCall f args curState before after cantCache res output) (QOq P) := by
  unfold Grol.E.finishCall
  have hk : (renFn P.σ f).key = f.key := rfl
  rw [hk, ren_isError, holdsFunc_ren]
  have hres : W.J learnt (pure (ren P.σ res) : M Obj) (pure res) (QOq P) := Calc.J.pure fun h => ⟨rfl, hcr h⟩
  extract_lets _ jpS jpT
  have hjp : W.J learnt (jpS ()) (jpT ()) (QOq P) := by
    unfold jpS jpT
    refine Calc.J.ite (fun _ => (W.triggerNoCache curState).seq hres) (fun _ => ?_)
    refine Calc.J.ite (fun _ => hres) (fun _ => Calc.J.ite (fun _ => hres) (fun _ => ?_))
    exact (W.cacheSet f.key args res output).seq hres
  exact Calc.J.ite (fun _ => (W.writeOut output).seq hjp) (fun _ => hjp)

end Leaves

/-! ### calls in the C10 simulation -/

theorem SimAt.clean {σ : Sh} {x y : M Obj} {s t : St} (h : SimAt σ x y s t (QO σ)) :
    SimAt σ x y s t (QOq (Qp.plain σ)) := h.mono fun _ b h => ⟨h, clean_plain σ b⟩

/-- the result of a walk without dirty bindings -/
theorem Calc.J.plain {σ : Sh} {x : M α} {y : M β} {s t : St} {Q : α → β → Prop} {K : β → Prop}
    (h : (simAtCalc σ).J True x y (fun a b => Q a b ∧ K b)) (hR : StR σ s t) : SimAt σ x y s t Q :=
  (h.run hR).mono fun _ _ h => h.1

/-- a leaf of the C10 simulation -/
theorem simAt_leaf {σ : Sh} {learnt : Prop} {x : M α} {y : M β} {Q : α → β → Prop} (tr : Tr y)
    (h : ∀ s t, StR σ s t → SimAt σ x y s t Q) : (simAtCalc σ).J learnt x y Q := ⟨tr, fun _ => h⟩

theorem sim_callFrame {σ : Sh} {learnt : Prop} (f : FuncVal) {k k' : Nat → M α} {Q : α → α → Prop}
    (hk : ∀ nenv, (simAtCalc σ).J (learnt ∧ σ.n0 ≤ nenv) (k (sh σ nenv)) (k' nenv) Q) :
    (simAtCalc σ).J learnt (withCallFrame (renFn σ f) k) (withCallFrame f k') Q := by
  refine ⟨tr_withCallFrame fun nenv => (hk nenv).tr, fun hp s t hR => ?_⟩
  show SimAt σ _ _ s t Q
  unfold withCallFrame
  refine sim_curEnv_bind hR ?_
  refine sim_getFrame_bind hR t.cur ?_
  intro cfs cft hcte _ hcfr
  dsimp only
  have hk' : (renFn σ f).key = f.key := rfl
  have he : (renFn σ f).env = sh σ f.env := rfl
  rw [sameFunction_ren σ hcfr.cacheKey hcfr.function f, hk', he]
  have hpar : (if (sameFunction cft f) = true then sh σ t.cur else sh σ f.env) =
      sh σ (if (sameFunction cft f) = true then t.cur else f.env) := by split <;> rfl
  rw [hpar]
  generalize (if (sameFunction cft f) = true then t.cur else f.env) = parent
  refine sim_getFrame_bind hR parent ?_
  intro pfs pft hpte _ hpfr
  rw [hpfr.depth]
  refine SimAt.bind (sim_newFrame hR ?_ ?_) ?_
  · exact ⟨rfl, rfl, rfl, rfl, rfl, fun _ => ⟨rfl, rfl, rfl⟩, by simp only [hcfr.localFunc]⟩
  · refine ⟨?_, fun k e n h => by cases h⟩
    intro o ho
    cases ho
    exact lt_of_frame hpte
  rintro _ nenv s1 t1 hR1 ⟨rfl, hn0⟩
  exact (hk nenv).sim ⟨hp, hn0⟩ s1 t1 hR1

def simAtLeaves (σ : Sh) : Leaves (Qp.plain σ) where
  toCalc := simAtCalc σ
  deref := simAt_deref σ
  noteHazard := fun c k n => simAt_leaf trStep.noteHazard fun _ _ hR => sim_noteHazard hR c k n
  triggerNoCache := fun e => simAt_leaf trStep.triggerNoCache fun _ _ hR => sim_triggerNoCache hR e
  writeOut := fun b => simAt_leaf trStep.writeOut fun _ _ hR => sim_writeOut hR b
  cacheSet := fun key args res output => simAt_leaf trStep.cacheSet fun _ _ hR => sim_cacheSet hR key args res output
  callFrame := fun f => sim_callFrame f
  createIn := fun e name val _ _ => simAt_leaf trStep.createOrSet fun _ _ hR => (sim_createOrSet hR e name val true).clean
  setNoChecksIn := fun e name val _ _ => simAt_leaf trStep.setNoChecks fun _ _ hR => (sim_setNoChecks hR e name val true).clean

theorem sim_extendFunctionEnv {σ : Sh} {s t : St} (hR : StR σ s t) (f : FuncVal) (args : List Obj) :
    SimAt σ (extendFunctionEnv (renFn σ f) (renL σ args)) (extendFunctionEnv f args) s t
      (fun a b => a = renX σ b ∧ ∀ n, b = .ok n → σ.n0 ≤ n) :=
  (Calc.J.run (C := simAtCalc σ) ((simAtLeaves σ).extendFunctionEnv f args fun _ => cleanL_plain σ args) hR).mono
    fun _ _ h => ⟨h.1, h.2.1⟩

theorem sim_finishCall {σ : Sh} {s t : St} (hR : StR σ s t) (f : FuncVal) (args : List Obj) (curState before after : Nat)
    (cantCache : Bool) (res : Obj) (output : List UInt8) :
    SimAt σ (finishCall (renFn σ f) (renL σ args) (sh σ curState) before after cantCache (ren σ res) output)
      (finishCall f args curState before after cantCache res output) s t (QO σ) :=
  Calc.J.plain (σ := σ)
    ((simAtLeaves σ).finishCall f args curState before after cantCache res output fun _ => clean_plain σ res) hR

end Grol.R
