import GrolProofs.InvBase
/-
The environment operations (lean/Grol/Eval/Env.lean) preserve the invariant, never panic and keep
the protected names (`Kept`).
-/
namespace Grol.K
open Grol.E

/- `storeOf`, `FV` and the `lookupVal` lemmas do not depend on a policy; like `K.Acc` and `K.Eqv` they are
part of the terms the C19 statements are written in, hence the name. -/

def storeOf (s : St) (e : Nat) : List (String × Obj) :=
  match s.frames[e]? with
  | some f => f.store
  | none => []

theorem storeOf_frame {s : St} {e : Nat} {f : Frame} (h : s.frames[e]? = some f) : storeOf s e = f.store := by
  unfold storeOf; rw [h]

theorem frameVal_storeOf (s : St) (e : Nat) (n : String) : frameVal s e n = lookupVal (storeOf s e) n := by
  unfold frameVal storeOf
  cases s.frames[e]? <;> rfl

def FV (st s : St) : Prop := ∀ e n, lookupVal (storeOf s e) n = lookupVal (storeOf st e) n

theorem FV.refl (st : St) : FV st st := fun _ _ => rfl
theorem FV.trans {a b c : St} (h1 : FV a b) (h2 : FV b c) : FV a c := fun e n => (h2 e n).trans (h1 e n)
theorem FV.frameVal {st s : St} (h : FV st s) (e : Nat) (n : String) : frameVal s e n = frameVal st e n := by
  rw [frameVal_storeOf, frameVal_storeOf]; exact h e n

/-- one frame replaced by a frame whose store reads the same -/
theorem FV.of_frame {st s : St} {e : Nat} {f g : Frame} (hf : st.frames[e]? = some f) (hg : s.frames[e]? = some g)
    (hoth : ∀ e', e' ≠ e → s.frames[e']? = st.frames[e']?) (h : ∀ n, lookupVal g.store n = lookupVal f.store n) :
    FV st s := by
  intro e' n
  by_cases hee : e' = e
  · subst hee; rw [storeOf_frame hg, storeOf_frame hf]; exact h n
  · unfold storeOf; rw [hoth e' hee]

theorem lookupVal_notRef {s : List (String × Obj)} {n : String} {v : Obj} (h : lookupStore s n = some v)
    (hnr : notRef v = true) : lookupVal s n = some v := by
  unfold lookupVal; rw [h]
  cases v <;> first | rfl | (simp [notRef] at hnr)

theorem lookupVal_some {s : List (String × Obj)} {n : String} {u : Obj} (h : lookupVal s n = some u) :
    lookupStore s n = some u ∧ notRef u = true := by
  unfold lookupVal at h
  split at h
  · cases h
  · next hnr =>
    refine ⟨h, ?_⟩
    cases u with
    | ref e nm => exact (hnr e nm h).elim
    | _ => rfl

end Grol.K

namespace Grol.G
open Grol.E Grol.K

variable {P : Policy}

theorem StoreOk.nil {frames : Array Frame} {i d : Nat} : StoreOk P frames i d [] := by
  intro k v h; cases h

theorem StoreOk.setStore {frames : Array Frame} {i d : Nat} {store : List (String × Obj)}
    (hs : StoreOk P frames i d store) (name : String) {v : Obj} (hv : okObj P frames.size v = true)
    (hr : ∀ e nm, v = Obj.ref e nm → (e < i ∧ ∀ fe, frames[e]? = some fe → fe.depth < d) ∧ (P.named = true → nm = name)) :
    StoreOk P frames i d (setStore store name v) := by
  intro k w h
  rcases mem_setStore_new h with h | ⟨h, hk⟩
  · exact hs k w h
  · subst h; subst hk; exact ⟨hv, hr⟩

theorem StoreOk.delStore {frames : Array Frame} {i d : Nat} {store : List (String × Obj)}
    (hs : StoreOk P frames i d store) (name : String) : StoreOk P frames i d (delStore store name) :=
  fun k w h => hs k w (mem_delStore h)

theorem Inv.frameOk {st : St} (hI : Inv P st) {i : Nat} {f : Frame} (h : st.frames[i]? = some f) :
    FrameOk P st.frames i f := hI.frames i f h

/-! A change of the frame array that loses no index and keeps the depth found at every index keeps
`StoreOk` and `FrameOk`: these speak of the other frames only through their number and their depths. -/
section
variable {frames fr : Array Frame} (hsz : frames.size ≤ fr.size)
  (hdep : ∀ (j : Nat) (g0 g : Frame), frames[j]? = some g0 → fr[j]? = some g → g.depth = g0.depth)
include hsz hdep

theorem depth_lt_of_change {j d : Nat} (hj : j < frames.size) (h : ∀ g0, frames[j]? = some g0 → g0.depth < d)
    (g : Frame) (hg : fr[j]? = some g) : g.depth < d := by
  have h0 : frames[j]? = some frames[j] := Array.getElem?_eq_getElem hj
  rw [hdep j _ g h0 hg]
  exact h _ h0

theorem StoreOk.change {i d : Nat} {store : List (String × Obj)} (hi : i ≤ frames.size)
    (h : StoreOk P frames i d store) : StoreOk P fr i d store := by
  intro k v hm
  obtain ⟨h1, h2⟩ := h k v hm
  refine ⟨okObj_mono hsz _ h1, fun e nm hv => ?_⟩
  obtain ⟨⟨h3, h4⟩, h5⟩ := h2 e nm hv
  exact ⟨⟨h3, depth_lt_of_change hsz hdep (Nat.lt_of_lt_of_le h3 hi) h4⟩, h5⟩

theorem FrameOk.change {i : Nat} {f : Frame} (hi : i ≤ frames.size) (h : FrameOk P frames i f) :
    FrameOk P fr i f := by
  refine ⟨fun o ho => ?_, fun fn hfn => ?_, h.store.change hsz hdep hi⟩
  · obtain ⟨h1, h2⟩ := h.outer o ho
    exact ⟨h1, depth_lt_of_change hsz hdep (Nat.lt_of_lt_of_le h1 hi) h2⟩
  · exact ⟨Nat.lt_of_lt_of_le (h.func fn hfn).1 hsz, (h.func fn hfn).2⟩

end

theorem Inv.change {st : St} (hI : Inv P st) {fr : Array Frame} (hsz : st.frames.size ≤ fr.size)
    (hdep : ∀ (j : Nat) (g0 g : Frame), st.frames[j]? = some g0 → fr[j]? = some g → g.depth = g0.depth)
    (hfr : ∀ i g, fr[i]? = some g → i ≤ st.frames.size ∧ FrameOk P st.frames i g) :
    Inv P { st with frames := fr } :=
  ⟨Nat.lt_of_lt_of_le hI.cur hsz, Nat.lt_of_lt_of_le hI.root hsz,
    fun i g hg => (hfr i g hg).2.change hsz hdep (hfr i g hg).1,
    fun c hc => okObj_mono hsz _ (hI.cache c hc)⟩

theorem Inv.setFrame {st : St} (hI : Inv P st) {e : Nat} {f f' : Frame} (he : st.frames[e]? = some f)
    (hd : f'.depth = f.depth) (ho : f'.outer = f.outer) (hf : f'.function = f.function)
    (hs : StoreOk P st.frames e f.depth f'.store) :
    Inv P { st with frames := st.frames.setIfInBounds e f' } := by
  refine hI.change (Nat.le_of_eq (by simp)) ?_ ?_
  · intro j g0 g h0 hg
    rw [Array.getElem?_setIfInBounds] at hg
    split at hg
    · next hej =>
      subst hej
      rw [if_pos (lt_of_frame he)] at hg; rw [he] at h0
      cases hg; cases h0; exact hd
    · rw [h0] at hg; cases hg; rfl
  · intro i g hg
    rw [Array.getElem?_setIfInBounds] at hg
    split at hg
    · next hei =>
      subst hei; rw [if_pos (lt_of_frame he)] at hg; cases hg
      have hok := hI.frameOk he
      exact ⟨Nat.le_of_lt (lt_of_frame he),
        by rw [ho, hd]; exact hok.outer, by rw [hf]; exact hok.func, by rw [hd]; exact hs⟩
    · exact ⟨Nat.le_of_lt (lt_of_frame hg), hI.frameOk hg⟩

theorem Inv.push {st : St} (hI : Inv P st) {nf : Frame}
    (ho : ∀ o, nf.outer = some o → o < st.frames.size ∧ ∀ fo, st.frames[o]? = some fo → fo.depth < nf.depth)
    (hf : ∀ fn, nf.function = some fn → fn.env < st.frames.size ∧ okFn P fn = true)
    (hs : nf.store = []) :
    Inv P { st with frames := st.frames.push nf } := by
  refine hI.change (by simp) ?_ ?_
  · intro j g0 g h0 hg
    rw [Array.getElem?_push] at hg
    split at hg
    · next hj => exact absurd (lt_of_frame h0) (by omega)
    · rw [h0] at hg; cases hg; rfl
  · intro i g hg
    rw [Array.getElem?_push] at hg
    split at hg
    · next hi => subst hi; cases hg; exact ⟨Nat.le_refl _, ho, hf, by rw [hs]; exact StoreOk.nil⟩
    · exact ⟨Nat.le_of_lt (lt_of_frame hg), hI.frameOk hg⟩

def KeptStore (P : Policy) (s s' : List (String × Obj)) : Prop :=
  ∀ N v, P.prot N = true → lookupVal s N = some v → ∃ v', lookupVal s' N = some v' ∧ Eqv v v'

theorem KeptStore.refl (s : List (String × Obj)) : KeptStore P s s := fun _ v _ h => ⟨v, h, Eqv.refl v⟩

theorem KeptStore.of_eq {s s' : List (String × Obj)} (h : ∀ N, lookupVal s' N = lookupVal s N) : KeptStore P s s' :=
  fun N v _ hv => ⟨v, by rw [h]; exact hv, Eqv.refl v⟩

theorem Kept.setFrame {st : St} {e : Nat} {f f' : Frame} (he : st.frames[e]? = some f)
    (hk : KeptStore P f.store f'.store) : Kept P st { st with frames := st.frames.setIfInBounds e f' } := by
  have hlt := lt_of_frame he
  intro e' N v hc hv
  unfold frameVal at hv ⊢
  simp only [Array.getElem?_setIfInBounds]
  by_cases hee : e = e'
  · subst hee
    rw [he] at hv
    simp only [hlt, if_true]
    exact hk N v hc hv
  · simp only [hee, if_false]
    exact ⟨v, hv, Eqv.refl v⟩

theorem Kept.push {st : St} (nf : Frame) : Kept P st { st with frames := st.frames.push nf } := by
  intro e N v hc hv
  refine ⟨v, ?_, Eqv.refl v⟩
  unfold frameVal at hv ⊢
  cases hfe : st.frames[e]? with
  | none => rw [hfe] at hv; cases hv
  | some f =>
    rw [hfe] at hv
    have hlt := lt_of_frame hfe
    simp only [Array.getElem?_push, Nat.ne_of_lt hlt, if_false, hfe]
    exact hv

theorem Post.bind_read {x : M α} {f : α → M β} {st : St} {R : β → St → Prop} {a : α}
    (hx : runM x st = (.ok a, st)) (hf : Post P (f a) st R) : Post P (x >>= f) st R := by
  unfold Post at hf ⊢
  rw [runM_bind, hx]
  exact hf

theorem post_getFrame {st : St} {e : Nat} {Q : Frame → St → Prop} (hI : Inv P st) (he : e < st.frames.size)
    (h : ∀ f, st.frames[e]? = some f → Q f st) : Post P (getFrame e) st Q := by
  obtain ⟨f, hf⟩ := frame_exists he
  unfold Post
  rw [runM_getFrame hf]
  exact ⟨hI, Rel.refl _, h f hf⟩

theorem refValue_run {st : St} (hI : Inv P st) {env : Nat} {f : Frame} (he : st.frames[env]? = some f)
    (name : String) :
    ∃ v, runM (refValue env name) st = (.ok v, st) ∧ okObj P st.frames.size v = true ∧
      ∀ e' n', v = Obj.ref e' n' → e' < env ∧ ∀ fe, st.frames[e']? = some fe → fe.depth < f.depth := by
  have hok := (hI.frameOk he).store
  unfold refValue
  rw [runM_bind, runM_getFrame he]
  simp only
  split
  · next e n hl =>
    obtain ⟨k, hk⟩ := lookupStore_mem hl
    obtain ⟨h1, h2⟩ := hok k _ hk
    obtain ⟨⟨h3, h4⟩, _⟩ := h2 e n rfl
    have : (e == env && n == name) = false := by
      have : (e == env) = false := by simp; omega
      simp [this]
    simp only [this]
    refine ⟨.ref e n, rfl, h1, ?_⟩
    intro e' n' hv; cases hv; exact ⟨h3, h4⟩
  · next v hnr hl =>
    obtain ⟨k, hk⟩ := lookupStore_mem hl
    obtain ⟨h1, h2⟩ := hok k _ hk
    exact ⟨v, rfl, h1, fun e' n' h => (h2 e' n' h).1⟩
  · exact ⟨.null, rfl, rfl, fun _ _ h => by cases h⟩

theorem post_refValue {st : St} (hI : Inv P st) {env : Nat} (he : env < st.frames.size) (name : String) :
    Post P (refValue env name) st (fun v s => s = st ∧ okObj P st.frames.size v = true) := by
  obtain ⟨f, hf⟩ := frame_exists he
  obtain ⟨v, hr, hv, _⟩ := refValue_run hI hf name
  unfold Post; rw [hr]; exact ⟨hI, Rel.refl _, rfl, hv⟩

theorem post_valueOf_go {st : St} (hI : Inv P st) : ∀ (n : Nat) (o : Obj), okObj P st.frames.size o = true →
    Post P (valueOf.go n o) st (fun v s => s = st ∧ okObj P st.frames.size v = true ∧ notRef v = true) := by
  intro n
  induction n with
  | zero =>
    intro o ho
    unfold valueOf.go
    split
    · next h => cases h
    · exact Post.stop hI (fun s h => by cases h)
    · next o' _ _ hnr h0 =>
      have : notRef o' = true := by
        cases o' with
        | ref e nm => exact (h0 e nm rfl rfl).elim
        | _ => rfl
      exact Post.pure hI ⟨rfl, ho, this⟩
  | succ n ih =>
    intro o ho
    unfold valueOf.go
    split
    · next n' e name hn =>
      cases hn
      have he : e < st.frames.size := by simpa [okObj] using ho
      obtain ⟨f, hf⟩ := frame_exists he
      obtain ⟨v, hr, hv, hvr⟩ := refValue_run hI hf name
      refine Post.bind_read hr ?_
      dsimp only
      split
      · next e' nm' =>
        obtain ⟨h1, h2⟩ := hvr e' nm' rfl
        obtain ⟨fe, hfe⟩ := frame_exists (Nat.lt_trans h1 he)
        have h3 := h2 fe hfe
        refine Post.bind_read (runM_getFrame hfe) ?_
        refine Post.bind_read (runM_getFrame hf) ?_
        have : ¬ (fe.depth ≥ f.depth) := by omega
        simp only [this, if_false]
        exact ih _ hv
      · exact ih v hv
    · next h => cases h
    · next o' _ _ hnr h0 =>
      have : notRef o' = true := by
        cases o' with
        | ref e nm => exact (hnr _ e nm rfl rfl).elim
        | _ => rfl
      exact Post.pure hI ⟨rfl, ho, this⟩

theorem post_valueOf {st : St} (hI : Inv P st) {o : Obj} (ho : okObj P st.frames.size o = true) :
    Post P (valueOf o) st (fun v s => s = st ∧ okObj P st.frames.size v = true ∧ notRef v = true) := by
  unfold valueOf
  refine Post.bind_read (runM_get st) ?_
  exact post_valueOf_go hI _ o ho


abbrev OkO (P : Policy) : Obj → St → Prop := fun v s => okObj P s.frames.size v = true
abbrev OkOpt (P : Policy) : Option Obj → St → Prop := fun r s => ∀ v, r = some v → okObj P s.frames.size v = true

theorem okOpt_none {s : St} : OkOpt P none s := fun _ h => by cases h

theorem Post.and_run {x : M α} {st : St} {Q : α → St → Prop} (h : Post P x st Q) :
    Post P x st (fun a s => Q a s ∧ runM x st = (.ok a, s)) := by
  unfold Post at h ⊢
  split at h
  next a st' h1 => exact ⟨h.1, h.2.1, h.2.2, h1⟩
  next h1 => exact h.elim
  next e st' hne h1 => exact h

theorem post_modifyFrame' {st : St} {e : Nat} {g : Frame → Frame} {Q : Unit → St → Prop} (hI : Inv P st)
    {f : Frame} (hf : st.frames[e]? = some f)
    (hg : (g f).depth = f.depth ∧ (g f).outer = f.outer ∧
      (g f).function = f.function ∧ StoreOk P st.frames e f.depth (g f).store)
    (hk : KeptStore P f.store (g f).store)
    (hQ : ∀ s, Inv P s → s.frames.size = st.frames.size → s.cur = st.cur → s.frames[e]? = some (g f) →
      (∀ e', e' ≠ e → s.frames[e']? = st.frames[e']?) → Q () s) :
    Post P (modifyFrame e g) st Q := by
  obtain ⟨h1, h2, h3, h4⟩ := hg
  have hlt := lt_of_frame hf
  unfold modifyFrame
  refine Post.bind_read (runM_getFrame hf) ?_
  unfold setFrame
  have hI' := hI.setFrame hf h1 h2 h3 h4
  refine Post.modify hI' (by simp) (Kept.setFrame hf hk) (hQ _ hI' (by simp) rfl ?_ ?_)
  · simp [Array.getElem?_setIfInBounds, hlt]
  · intro e' he'
    simp [Array.getElem?_setIfInBounds, Ne.symm he']

theorem post_modifyFrame {st : St} {e : Nat} {g : Frame → Frame} {Q : Unit → St → Prop} (hI : Inv P st)
    (he : e < st.frames.size)
    (hg : ∀ f, st.frames[e]? = some f → (g f).depth = f.depth ∧ (g f).outer = f.outer ∧
      (g f).function = f.function ∧ StoreOk P st.frames e f.depth (g f).store)
    (hk : ∀ f, st.frames[e]? = some f → KeptStore P f.store (g f).store)
    (hQ : ∀ s, Inv P s → s.frames.size = st.frames.size → s.cur = st.cur → Q () s) :
    Post P (modifyFrame e g) st Q := by
  obtain ⟨f, hf⟩ := frame_exists he
  exact post_modifyFrame' hI hf (hg f hf) (hk f hf) (fun s hIs h1 h2 _ _ => hQ s hIs h1 h2)

theorem post_bump {st : St} (hI : Inv P st) {e : Nat} (he : e < st.frames.size) {g : Frame → Frame}
    (hg : ∀ f, (g f).depth = f.depth ∧ (g f).outer = f.outer ∧ (g f).function = f.function ∧ (g f).store = f.store)
    {Q : Unit → St → Prop}
    (hQ : ∀ s, Inv P s → s.frames.size = st.frames.size → s.cur = st.cur → (∀ e', storeOf s e' = storeOf st e') → Q () s) :
    Post P (modifyFrame e g) st Q := by
  obtain ⟨f, hf⟩ := frame_exists he
  obtain ⟨h1, h2, h3, h4⟩ := hg f
  refine post_modifyFrame' hI hf ⟨h1, h2, h3, by rw [h4]; exact (hI.frameOk hf).store⟩
    (by rw [h4]; exact KeptStore.refl _) ?_
  intro s hIs hsz hcur hfe hoth
  refine hQ s hIs hsz hcur ?_
  intro e'
  by_cases hee : e' = e
  · subst hee; rw [storeOf_frame hfe, storeOf_frame hf, h4]
  · unfold storeOf; rw [hoth e' hee]

theorem post_triggerNoCache {st : St} (hI : Inv P st) {e : Nat} (he : e < st.frames.size) :
    Post P (triggerNoCache e) st (fun _ s => s.frames.size = st.frames.size ∧ s.cur = st.cur) := by
  unfold triggerNoCache
  refine post_bump hI he ?_ (fun s _ h1 h2 _ => ⟨h1, h2⟩)
  intro f; exact ⟨rfl, rfl, rfl, rfl⟩

theorem Inv.clearCache {st : St} (hI : Inv P st) : Inv P { st with cache := [] } :=
  ⟨hI.cur, hI.root, hI.frames, by intro c hc; simp at hc⟩

/-- `functionChanged` touches a miss counter and the cache, never a store -/
theorem post_functionChanged {st : St} (hI : Inv P st) {w : Nat} (hw : w < st.frames.size) (old : Option Obj) :
    Post P (functionChanged w old) st (fun _ s => s.frames.size = st.frames.size ∧ ∀ e', storeOf s e' = storeOf st e') := by
  unfold functionChanged
  split
  · split
    · refine Post.bind (Q := fun _ s => s.frames.size = st.frames.size ∧ ∀ e', storeOf s e' = storeOf st e')
        (post_bump hI hw ?_ (fun s _ h1 _ h3 => ⟨h1, h3⟩)) ?_
      · intro f; exact ⟨rfl, rfl, rfl, rfl⟩
      rintro _ s hIs _ ⟨h1, h2⟩
      exact Post.modify hIs.clearCache (Nat.le_refl _) (Kept.of_frames rfl) ⟨h1, h2⟩
    · exact Post.pure hI ⟨rfl, fun _ => rfl⟩
  · exact Post.pure hI ⟨rfl, fun _ => rfl⟩

def RefQ (P : Policy) (st : St) (orig : Nat) (name : String) : Option Obj → St → Prop := fun r s =>
  OkOpt P r s ∧ s.frames.size = st.frames.size ∧ s.cur = st.cur ∧ FV st s ∧
  (∀ v, r = some v → (∃ re rn, v = Obj.ref re rn ∧ (P.named = true → rn = name)) ∧
    lookupStore (storeOf s orig) name = some v) ∧
  (r = none → s = st)

theorem refQ_none (st : St) (orig : Nat) (name : String) : RefQ P st orig name none st :=
  ⟨okOpt_none, rfl, rfl, FV.refl _, fun _ h => (by cases h), fun _ => rfl⟩

/-- `RefQ` speaks of the later state through its size, its current frame and its stores -/
theorem RefQ.of_same {st s s' : St} {orig : Nat} {name : String} {r : Obj} (h : RefQ P st orig name (some r) s)
    (hsz : s'.frames.size = s.frames.size) (hcur : s'.cur = s.cur) (hst : ∀ e', storeOf s' e' = storeOf s e') :
    RefQ P st orig name (some r) s' := by
  obtain ⟨h1, h2, h3, h4, h5, _⟩ := h
  refine ⟨fun v hv => by rw [hsz]; exact h1 v hv, by omega, by rw [hcur, h3],
    fun e' n => by rw [hst e']; exact h4 e' n, fun v hv => ?_, fun h => by cases h⟩
  rw [hst orig]; exact h5 v hv

theorem refTo_cases (o : Nat) (name : String) (obj : Obj) :
    (∃ e' n', obj = .ref e' n' ∧ refTo o name obj = obj) ∨ refTo o name obj = .ref o name := by
  unfold refTo
  split
  · exact .inl ⟨_, _, rfl, rfl⟩
  · exact .inr rfl

theorem post_makeRef_go {st : St} (hI : Inv P st) {orig : Nat} {forig : Frame}
    (ho : st.frames[orig]? = some forig) (name : String) (hn : lookupStore forig.store name = none) :
    ∀ (fuel e : Nat) (fe : Frame), st.frames[e]? = some fe → e ≤ orig → fe.depth ≤ forig.depth →
    Post P (makeRef.go orig name fuel e) st (RefQ P st orig name) := by
  have horig := lt_of_frame ho
  intro fuel
  induction fuel with
  | zero =>
    intro e fe _ _ _
    unfold makeRef.go
    exact Post.pure hI (refQ_none _ _ _)
  | succ fuel ih =>
    intro e fe hfe hle hd
    unfold makeRef.go
    refine Post.bind_read (runM_getFrame hfe) ?_
    split
    · exact Post.pure hI (refQ_none _ _ _)
    · next o hout =>
      obtain ⟨h1, h2⟩ := (hI.frameOk hfe).outer o hout
      have hosz : o < st.frames.size := Nat.lt_trans h1 (lt_of_frame hfe)
      obtain ⟨fo, hfo⟩ := frame_exists hosz
      have hdo := h2 fo hfo
      refine Post.bind_read (runM_getFrame hfo) ?_
      split
      · exact ih o fo hfo (by omega) (by omega)
      · next obj hl =>
        have hk := mem_of_lookupStore hl
        obtain ⟨hv1, hv2⟩ := (hI.frameOk hfo).store _ _ hk
        extract_lets r done count
        have hr : okObj P st.frames.size r = true ∧
            (∀ e' n', r = Obj.ref e' n' →
              (e' < orig ∧ ∀ fe', st.frames[e']? = some fe' → fe'.depth < forig.depth) ∧
                (P.named = true → n' = name)) ∧
            ∃ re rn, r = Obj.ref re rn := by
          unfold r
          rcases refTo_cases o name obj with ⟨e', n', rfl, h⟩ | h <;> rw [h]
          · obtain ⟨⟨h3, h4⟩, h5⟩ := hv2 e' n' rfl
            refine ⟨hv1, ?_, ⟨e', n', rfl⟩⟩
            intro e'' n'' h; cases h
            exact ⟨⟨by omega, fun fe' hfe' => by have := h4 fe' hfe'; omega⟩, h5⟩
          · refine ⟨decide_eq_true hosz, ?_, ⟨o, name, rfl⟩⟩
            intro e'' n'' h; cases h
            refine ⟨⟨by omega, fun fe' hfe' => ?_⟩, fun _ => rfl⟩
            rw [hfo] at hfe'; cases hfe'; omega
        clear_value r
        obtain ⟨hr1, hr2, ⟨re, rn, hre⟩⟩ := hr
        have hsame : ∀ N, lookupVal (setStore forig.store name r) N = lookupVal forig.store N := by
          intro N; subst hre
          exact lookupVal_setStore_ref _ _ _ _ _ (by unfold lookupVal; rw [hn])
        refine Post.bind (Q := fun _ s => s.frames.size = st.frames.size ∧ s.cur = st.cur ∧ FV st s ∧
            lookupStore (storeOf s orig) name = some r) ?_ ?_
        · refine post_modifyFrame' hI ho ⟨rfl, rfl, rfl, (hI.frameOk ho).store.setStore name hr1 hr2⟩
            (KeptStore.of_eq hsame) ?_
          intro s _ hsz hcur hfe' hoth
          refine ⟨hsz, hcur, FV.of_frame ho hfe' hoth hsame, ?_⟩
          rw [storeOf_frame hfe']; exact lookupStore_setStore_eq _ _ _
        · intro _ s hIs _ hs
          have hres : RefQ P st orig name (some r) s := by
            refine ⟨?_, hs.1, hs.2.1, hs.2.2.1, ?_, fun h => by cases h⟩
            · intro v hv; cases hv; rw [hs.1]; exact hr1
            · intro v hv; cases hv; exact ⟨⟨re, rn, hre, (hr2 re rn hre).2⟩, hs.2.2.2⟩
          have hjp : ∀ refDepth : Nat, Post P (count refDepth) s (RefQ P st orig name) := by
            intro refDepth
            unfold count
            split
            · refine Post.bind (post_bump hIs (by omega) ?_ (fun s' _ h1 h2 h3 => hres.of_same h1 h2 h3))
                (fun _ s' hIs' _ h => Post.pure hIs' h)
              intro f; exact ⟨rfl, rfl, rfl, rfl⟩
            · exact Post.pure hIs hres
          split
          · next e' nm' =>
            have he' : e' < s.frames.size := by
              have := hr1; simp only [okObj, decide_eq_true_eq] at this; omega
            obtain ⟨fe', hfe'⟩ := frame_exists he'
            refine Post.bind_read (runM_getFrame hfe') ?_
            exact hjp _
          · exact hjp _

theorem post_makeRef {st : St} (hI : Inv P st) {orig : Nat} (ho : orig < st.frames.size) (name : String)
    (hn : lookupStore (storeOf st orig) name = none) :
    Post P (makeRef orig name) st (RefQ P st orig name) := by
  obtain ⟨f, hf⟩ := frame_exists ho
  rw [storeOf_frame hf] at hn
  unfold makeRef
  refine Post.bind_read (runM_get st) ?_
  exact post_makeRef_go hI hf name hn _ orig f hf (Nat.le_refl _) (Nat.le_refl _)

theorem makeRef_outer_none {st : St} {e : Nat} {f : Frame} (hf : st.frames[e]? = some f) (ho : f.outer = none)
    (name : String) : runM (makeRef e name) st = (.ok none, st) := by
  have hlt := lt_of_frame hf
  unfold makeRef
  rw [runM_bind, runM_get]
  dsimp only
  obtain ⟨k, hk⟩ : ∃ k, st.frames.size = k + 1 := ⟨st.frames.size - 1, by omega⟩
  rw [hk]
  unfold makeRef.go
  rw [runM_bind, runM_getFrame hf]
  dsimp only
  rw [ho]
  rfl


/-- a name reached through a reference stored under an unprotected name is not protected -/
theorem Policy.unprot_ref {rn name : String} (h : P.named = true → rn = name) (hc : P.prot name = false) :
    P.prot rn = false := by
  cases hp : P.prot rn with
  | false => rfl
  | true => rw [h (P.prot_named _ hp), hc] at hp; cases hp

theorem Policy.unprot_of_not_const {n : String} (h : isConstant n = false) : P.prot n = false := by
  cases hp : P.prot n with
  | false => rfl
  | true => rw [P.prot_const n hp] at h; cases h

def GetQ (P : Policy) (st : St) (e : Nat) (name : String) : Option Obj → St → Prop := fun r s =>
  OkOpt P r s ∧ s.frames.size = st.frames.size ∧ FV st s ∧
  (P.prot name = true →
    (∀ v, r = some v → lookupStore (storeOf s e) name = some v ∧ ∀ re rn, v = Obj.ref re rn → rn = name) ∧
    (r = none → lookupStore (storeOf s e) name = none ∧ runM (makeRef e name) s = (.ok none, s)))

theorem getQ_of_refQ {st s0 s : St} {e : Nat} {name : String} {r : Option Obj}
    (h0 : s0.frames.size = st.frames.size) (hfv : FV st s0) (hn : lookupStore (storeOf s0 e) name = none)
    (h : RefQ P s0 e name r s)
    (hrun : runM (makeRef e name) s0 = (.ok r, s)) : GetQ P st e name r s := by
  obtain ⟨h1, h2, _, h4, h5, h6⟩ := h
  refine ⟨h1, by omega, hfv.trans h4, fun hp => ⟨?_, ?_⟩⟩
  · intro v hv
    obtain ⟨⟨re, rn, hre, hrn⟩, hl⟩ := h5 v hv
    refine ⟨hl, ?_⟩
    intro re' rn' h; rw [hre] at h; cases h; exact hrn (P.prot_named _ hp)
  · intro hr
    have := h6 hr
    subst this
    subst hr
    exact ⟨hn, hrun⟩

/-- the frame's own function is found under `self` and under its own name: neither is a protected name -/
theorem FrameOk.own_unprot {frames : Array Frame} {i : Nat} {f : Frame} (hok : FrameOk P frames i f) {name : String}
    (h : (name == "self" || f.function.any (·.name == some name)) = true) : P.prot name = false := by
  rcases Bool.or_eq_true _ _ |>.mp h with hs | hn
  · rw [eq_of_beq hs]; exact P.unprot_of_not_const (by decide)
  · cases hf : f.function with
    | none => rw [hf] at hn; cases hn
    | some fn =>
      rw [hf] at hn
      have h1 := (hok.func fn hf).2
      have h2 : fn.name = some name := eq_of_beq hn
      simp only [okFn, Bool.and_eq_true, Bool.not_eq_true', h2, constName] at h1
      exact h1.2

theorem FrameOk.own_ok {frames : Array Frame} {i : Nat} {f : Frame} (hok : FrameOk P frames i f) {v : Obj}
    (h : f.function.map Obj.func = some v) : okObj P frames.size v = true := by
  cases hf : f.function with
  | none => rw [hf] at h; cases h
  | some fn =>
    rw [hf] at h; cases h
    simp only [okObj, Bool.and_eq_true, decide_eq_true_eq]; exact hok.func fn hf

/-- a name the frame does not bind is looked for up the scope chain, if there is one -/
theorem post_getOuter {st s : St} (hIs : Inv P s) {e : Nat} {g : Frame} (hg : s.frames[e]? = some g) (name : String)
    (hn : lookupStore g.store name = none) (hsz : s.frames.size = st.frames.size) (hfv : FV st s) :
    Post P (match g.outer with | none => pure none | some _ => makeRef e name) s (GetQ P st e name) := by
  rw [← storeOf_frame hg] at hn
  split
  · next hout =>
    exact Post.pure hIs ⟨okOpt_none, hsz, hfv,
      fun _ => ⟨fun v h => (by cases h), fun _ => ⟨hn, makeRef_outer_none hg hout name⟩⟩⟩
  · refine (post_makeRef hIs (lt_of_frame hg) name hn).and_run.mono ?_
    intro r s' _ _ h
    exact getQ_of_refQ hsz hfv hn h.1 h.2

theorem post_envGetStored {st : St} (hI : Inv P st) {e : Nat} {f : Frame} (hf : st.frames[e]? = some f)
    (name : String) : Post P (envGetStored e name f) st (GetQ P st e name) := by
  have he := lt_of_frame hf
  have hfok := hI.frameOk hf
  have hst : storeOf st e = f.store := storeOf_frame hf
  have hsome : ∀ (s : St) (v : Obj), Inv P s → s.frames.size = st.frames.size → (∀ e', storeOf s e' = storeOf st e') →
      lookupStore f.store name = some v → GetQ P st e name (some v) s := by
    intro s v hIs hsz hsame hl
    have hk := mem_of_lookupStore hl
    obtain ⟨hv1, hv2⟩ := hfok.store _ _ hk
    refine ⟨fun w hw => by cases hw; rw [hsz]; exact hv1, hsz, fun e' n => by rw [hsame e'], fun hp => ⟨?_, fun h => by cases h⟩⟩
    intro w hw; cases hw
    refine ⟨by rw [hsame e, hst]; exact hl, ?_⟩
    intro re rn h; exact (hv2 re rn h).2 (P.prot_named _ hp)
  unfold envGetStored
  split
  · next re rn hl =>
    have hk := mem_of_lookupStore hl
    obtain ⟨hv1, hv2⟩ := hfok.store _ _ hk
    obtain ⟨⟨h3, _⟩, _⟩ := hv2 re rn rfl
    have hre : re < st.frames.size := Nat.lt_trans h3 he
    obtain ⟨fre, hfre⟩ := frame_exists hre
    have hlv : lookupVal f.store name = none := by unfold lookupVal; rw [hl]
    refine Post.bind_read (refAlive_run hfre rn) ?_
    split
    · -- stale reference: forget it and look again
      refine Post.bind (Q := fun _ s => s.frames.size = st.frames.size ∧ FV st s ∧
          s.frames[e]? = some { f with store := delStore f.store name }) ?_ ?_
      · refine post_modifyFrame' hI hf ⟨rfl, rfl, rfl, hfok.store.delStore name⟩
          (KeptStore.of_eq (fun N => lookupVal_delStore_ref _ _ _ hlv)) ?_
        intro s _ hsz _ hfe hoth
        exact ⟨hsz, FV.of_frame hf hfe hoth (fun N => lookupVal_delStore_ref _ _ _ hlv), hfe⟩
      · intro _ s hIs _ hs
        exact post_getOuter hIs hs.2.2 name (lookupStore_delStore_self _ _) hs.1 hs.2.1
    · obtain ⟨tgt, hr, _, _⟩ := refValue_run hI hfre rn
      refine Post.bind_read hr ?_
      refine Post.bind_read (runM_getFrame hfre) ?_
      refine Post.ite (fun _ => ?_) (fun _ => ?_)
      · refine Post.bind (Q := fun _ s => s.frames.size = st.frames.size ∧ ∀ e', storeOf s e' = storeOf st e') ?_ ?_
        · refine post_bump hI he ?_ (fun s _ h1 _ h3 => ⟨h1, h3⟩)
          intro f; exact ⟨rfl, rfl, rfl, rfl⟩
        · intro _ s hIs _ hs
          exact Post.pure hIs (hsome s _ hIs hs.1 hs.2 hl)
      · exact Post.pure hI (hsome st _ hI rfl (fun _ => rfl) hl)
  · next obj _ hl => exact Post.pure hI (hsome st _ hI rfl (fun _ => rfl) hl)
  · next hl => exact post_getOuter hI hf name hl rfl (FV.refl _)

theorem post_envGet {st : St} (hI : Inv P st) {e : Nat} (he : e < st.frames.size) (name : String) :
    Post P (envGet e name) st (GetQ P st e name) := by
  obtain ⟨f, hf⟩ := frame_exists he
  have hfok := hI.frameOk hf
  unfold Post
  rw [show runM (envGet e name) st = _ from run_envGet e name st, hf]
  dsimp only
  cases hi : name == "info"
  · rw [if_neg Bool.false_ne_true]
    cases hown : (name == "self" || f.function.any (·.name == some name))
    · rw [if_neg Bool.false_ne_true]
      exact post_envGetStored hI hf name
    · refine ⟨hI, Rel.refl _, fun v hv => hfok.own_ok hv, rfl, FV.refl _, fun h => ?_⟩
      rw [hfok.own_unprot hown] at h; cases h
  · exact ⟨hI, Rel.refl _⟩


def WOk (P : Policy) (st : St) (e : Nat) (name : String) (w : Obj) : Prop :=
  P.prot name = true → ∀ u, lookupVal (storeOf st e) name = some u → Eqv u w

/-- a value that is no reference is its own value, whatever the fuel -/
theorem valueOf_go_notRef {o : Obj} (h : notRef o = true) (n : Nat) : valueOf.go n o = pure o := by
  unfold valueOf.go
  split
  · simp [notRef] at h
  · simp [notRef] at h
  · rfl

theorem valueOf_notRef {o : Obj} (h : notRef o = true) (st : St) : runM (valueOf o) st = (.ok o, st) := by
  unfold valueOf
  rw [runM_bind, runM_get]
  dsimp only
  rw [valueOf_go_notRef h]
  rfl

theorem valueOf_ref_bound {st : St} {re : Nat} {name : String} {u : Obj}
    (h : lookupVal (storeOf st re) name = some u) : runM (valueOf (.ref re name)) st = (.ok u, st) := by
  obtain ⟨hl, hnr⟩ := lookupVal_some h
  cases hfe : st.frames[re]? with
  | none => unfold storeOf at hl; rw [hfe] at hl; simp [lookupStore] at hl
  | some fre =>
    rw [storeOf_frame hfe] at hl
    have hrv : runM (refValue re name) st = (.ok u, st) := by
      unfold refValue
      rw [runM_bind, runM_getFrame hfe]
      dsimp only
      rw [hl]
      cases u <;> first | rfl | (simp [notRef] at hnr)
    unfold valueOf
    rw [runM_bind, runM_get]
    dsimp only
    unfold valueOf.go
    rw [runM_bind, hrv]
    dsimp only
    have h2 : runM (valueOf.go st.frames.size u) st = (.ok u, st) := by rw [valueOf_go_notRef hnr]; rfl
    cases u <;> first | exact h2 | (simp [notRef] at hnr)

theorem post_store {st : St} (hI : Inv P st) {e : Nat} (he : e < st.frames.size) {g : Frame → Frame}
    {name : String} {v : Obj} (hv : okObj P st.frames.size v = true) (hnr : notRef v = true)
    (hw : WOk P st e name v)
    (hg : ∀ f, (g f).depth = f.depth ∧ (g f).outer = f.outer ∧ (g f).function = f.function ∧
      (g f).store = setStore f.store name v) :
    Post P (modifyFrame e g) st (fun _ _ => True) := by
  obtain ⟨f, hf⟩ := frame_exists he
  obtain ⟨h1, h2, h3, h4⟩ := hg f
  refine post_modifyFrame' hI hf ⟨h1, h2, h3, ?_⟩ ?_ (fun _ _ _ _ _ _ => trivial)
  · rw [h4]
    exact (hI.frameOk hf).store.setStore name hv (notRef_clause hnr)
  · rw [h4]
    intro N u hc hu
    by_cases hN : N = name
    · subst hN
      refine ⟨v, lookupVal_notRef (lookupStore_setStore_eq _ _ _) hnr, ?_⟩
      exact hw hc u (by rw [storeOf_frame hf]; exact hu)
    · refine ⟨u, ?_, Eqv.refl u⟩
      unfold lookupVal at hu ⊢
      rw [lookupStore_setStore_ne _ _ _ _ hN]; exact hu

theorem post_envCreate {st : St} (hI : Inv P st) {e : Nat} (he : e < st.frames.size) (name : String) {val : Obj}
    (hval : okObj P st.frames.size val = true)
    (hw : ∀ w, runM (valueOf val) st = (.ok w, st) → WOk P st e name w) : Post P (envCreate e name val) st (OkO P) := by
  unfold envCreate
  refine Post.bind (post_valueOf hI hval).and_run ?_
  rintro v s hIs _ ⟨⟨rfl, hv, hnr⟩, hrun⟩
  refine Post.bind_read (runM_rootBindsFunc _ _) ?_
  refine Post.bind (Q := fun _ _ => True) ?_ ?_
  · refine post_store (name := name) hI he hv hnr (hw v hrun) ?_
    intro f; exact ⟨rfl, rfl, rfl, rfl⟩
  · intro _ s' hIs' hle _
    exact Post.pure hIs' (okObj_mono hle _ hv)

theorem WOk.of_same {st s : St} (h : ∀ e', storeOf s e' = storeOf st e') {e : Nat} {name : String} {w : Obj}
    (hw : WOk P st e name w) : WOk P s e name w := fun hc u hu => hw hc u (by rw [← h e]; exact hu)

/-- the tail of every write: tell the caches, then store `v` under `name` in frame `e` -/
theorem post_storeAt {st : St} (hI : Inv P st) {writer e : Nat} (hwr : writer < st.frames.size)
    (he : e < st.frames.size) (name : String) {v ret : Obj} (hv : okObj P st.frames.size v = true)
    (hnr : notRef v = true) (hw : WOk P st e name v) (hret : okObj P st.frames.size ret = true)
    {g : Bool → Frame → Frame}
    (hg : ∀ rb f, (g rb f).depth = f.depth ∧ (g rb f).outer = f.outer ∧ (g rb f).function = f.function ∧
      (g rb f).store = setStore f.store name v) :
    Post P (do
      let fr ← getFrame e
      functionChanged writer (lookupStore fr.store name)
      let rb ← rootBindsFunc name
      modifyFrame e (g rb)
      pure ret) st (OkO P) := by
  obtain ⟨f, hf⟩ := frame_exists he
  refine Post.bind_read (runM_getFrame hf) ?_
  refine Post.bind (post_functionChanged hI hwr _) ?_
  rintro _ s hIs hle ⟨hsz, hsame⟩
  refine Post.bind_read (runM_rootBindsFunc _ _) ?_
  refine Post.bind (Q := fun _ _ => True) ?_ ?_
  · exact post_store (name := name) hIs (by omega) (by rw [hsz]; exact hv) hnr (hw.of_same hsame) (hg _)
  · intro _ s' hIs' hle' _
    exact Post.pure hIs' (okObj_mono (by omega) _ hret)

theorem post_envStoreAt {st : St} (hI : Inv P st) {writer e : Nat} (hwr : writer < st.frames.size)
    (he : e < st.frames.size) (name : String) {v : Obj} (hv : okObj P st.frames.size v = true)
    (hnr : notRef v = true) (hw : WOk P st e name v) : Post P (envStoreAt writer e name v) st (OkO P) := by
  unfold envStoreAt
  exact post_storeAt hI hwr he name hv hnr hw hv (fun _ _ => ⟨rfl, rfl, rfl, rfl⟩)

theorem post_envUpdate {st : St} (hI : Inv P st) {e : Nat} (he : e < st.frames.size) (name : String) {found val : Obj}
    (hfound : okObj P st.frames.size found = true)
    (hval : okObj P st.frames.size val = true)
    (hw1 : ∀ re rn w, found = Obj.ref re rn → runM (valueOf val) st = (.ok w, st) → WOk P st re rn w)
    (hw2 : notRef found = true → ∀ w, runM (valueOf val) st = (.ok w, st) → WOk P st e name w) :
    Post P (envUpdate e name found val) st (OkO P) := by
  unfold envUpdate
  have hrest : ∀ v, okObj P st.frames.size v = true → notRef v = true → runM (valueOf val) st = (.ok v, st) →
      Post P (envStoreAt e (updTarget e name found).1 (updTarget e name found).2 v) st (OkO P) := by
    intro v hv hnr hrun
    have this : (updTarget e name found).1 < st.frames.size ∧
        WOk P st (updTarget e name found).1 (updTarget e name found).2 v := by
      cases found with
      | ref re rn =>
        refine ⟨by simp only [okObj, decide_eq_true_eq] at hfound; exact hfound, hw1 re rn v rfl hrun⟩
      | _ => exact ⟨he, hw2 rfl v hrun⟩
    exact post_envStoreAt hI he this.1 _ hv hnr this.2
  split
  · refine Post.bind (post_valueOf hI hval).and_run ?_
    rintro v s hIs _ ⟨⟨rfl, hv, hnr⟩, hrun⟩
    exact hrest v hv hnr hrun
  · next hnr =>
    refine Post.bind (Q := fun v s => s = st ∧ v = val) (Post.pure hI ⟨rfl, rfl⟩) ?_
    rintro v s hIs _ ⟨rfl, rfl⟩
    have hnr' : notRef v = true := by
      cases v with
      | ref e' n' => exact (hnr e' n' rfl).elim
      | _ => rfl
    exact hrest v hval hnr' (valueOf_notRef hnr' _)

/-- what the caller of `setNoChecks e name val` must have checked when `name` is protected -/
def SetOk (P : Policy) (st : St) (e : Nat) (name : String) (val : Obj) : Prop :=
  P.prot name = true →
    (lookupStore (storeOf st e) name = none → runM (makeRef e name) st = (.ok none, st)) ∧
    ∀ w, runM (valueOf val) st = (.ok w, st) →
      (∀ u, lookupVal (storeOf st e) name = some u → Eqv u w) ∧
      (∀ re u, lookupStore (storeOf st e) name = some (Obj.ref re name) →
        lookupVal (storeOf st re) name = some u → Eqv u w)

theorem SetOk.of_unprot {st : St} {e : Nat} {name : String} {val : Obj} (h : P.prot name = false) :
    SetOk P st e name val := fun hc => by rw [h] at hc; exact Bool.noConfusion hc

theorem post_setNoChecks {st : St} (hI : Inv P st) {e : Nat} (he : e < st.frames.size) (name : String) {val : Obj}
    (hval : okObj P st.frames.size val = true) (create : Bool) (hw : SetOk P st e name val) :
    Post P (setNoChecks e name val create) st (OkO P) := by
  obtain ⟨f, hf⟩ := frame_exists he
  have hst : storeOf st e = f.store := storeOf_frame hf
  have hw0 : ∀ w, runM (valueOf val) st = (.ok w, st) → WOk P st e name w :=
    fun w hrun hc => ((hw hc).2 w hrun).1
  unfold setNoChecks
  split
  · exact post_envCreate hI he name hval hw0
  refine Post.bind_read (runM_getFrame hf) ?_
  split
  · next r hl =>
    have hk := mem_of_lookupStore hl
    obtain ⟨hr1, hr2⟩ := (hI.frameOk hf).store _ _ hk
    refine post_envUpdate hI he name hr1 hval ?_ (fun _ => hw0)
    intro re rn w hrr hrun hc u hu
    subst hrr
    have hrn : rn = name := (hr2 re rn rfl).2 (P.prot_named _ hc)
    subst hrn
    exact ((hw hc).2 w hrun).2 re u (by rw [hst]; exact hl) hu
  · next hl =>
    have hn : lookupStore (storeOf st e) name = none := by rw [hst]; exact hl
    cases hc : P.prot name with
    | true =>
      -- a protected name: nothing is visible (otherwise the checking setter would have seen it)
      have hmk : runM (makeRef e name) st = (.ok none, st) := (hw hc).1 hn
      refine Post.bind_read hmk ?_
      exact post_envCreate hI he name hval hw0
    | false =>
      refine Post.bind (post_makeRef hI he name hn) ?_
      rintro r s hIs hle ⟨hr, hsz, _, _, hrq, _⟩
      have hval' : okObj P s.frames.size val = true := okObj_mono hle _ hval
      split
      · rename_i re rn _
        have hrn : P.prot rn = false := by
          obtain ⟨⟨re', rn', hre', h2⟩, _⟩ := hrq _ rfl
          cases hre'
          exact P.unprot_ref h2 hc
        have hre : re < s.frames.size := by simpa [okObj] using hr _ rfl
        refine Post.bind (post_valueOf hIs hval') ?_
        rintro v s' hIs' _ ⟨rfl, hv, hnr⟩
        exact post_storeAt hIs (by omega) hre rn hv hnr (fun h => by rw [hrn] at h; exact Bool.noConfusion h) hval'
          (fun _ _ => ⟨rfl, rfl, rfl, rfl⟩)
      · exact post_envCreate hIs (by omega) name hval' (fun w _ h => by rw [hc] at h; exact Bool.noConfusion h)

/-- `createOrSet`: the checking setter.  For a constant name (the only names a policy may protect) the
check against what `envGet` found is exactly what `setNoChecks` needs (`SetOk`) -/
theorem post_createOrSet {st : St} (hI : Inv P st) {e : Nat} (he : e < st.frames.size) (name : String) {val : Obj}
    (hval : okObj P st.frames.size val = true) (create : Bool) : Post P (createOrSet e name val create) st (OkO P) := by
  unfold createOrSet
  extract_lets rest check
  have hrest : ∀ s : St, Inv P s → st.frames.size ≤ s.frames.size → SetOk P s e name val → Post P (rest ()) s (OkO P) := by
    intro s hIs hle hw
    refine Post.bind_read (runM_get s) ?_
    split
    · exact Post.pure hIs rfl
    · exact post_setNoChecks hIs (by omega) name (okObj_mono hle _ hval) create hw
  split
  · next hc =>
    refine Post.bind (post_envGet hI he name) ?_
    rintro r s hIs hle ⟨hr, _, _, hq⟩
    split
    · next old =>
      have hold : okObj P s.frames.size old = true := hr old rfl
      have hfin : ∀ (same : Bool), (same = true → SetOk P s e name val) → Post P (check same) s (OkO P) := by
        intro same hsame
        unfold check
        split
        · exact Post.pure hIs rfl
        · next hns =>
          refine hrest s hIs hle (hsame ?_)
          cases same with
          | false => exact absurd rfl hns
          | true => rfl
      split
      · refine Post.bind (Q := fun same s' => s' = s ∧ same = false) (Post.pure hIs ⟨rfl, rfl⟩) ?_
        rintro same s' hIs' _ ⟨rfl, rfl⟩
        exact hfin false (fun h => by cases h)
      · refine Post.bind (post_valueOf hIs hold).and_run ?_
        rintro o s hIs _ ⟨⟨rfl, _, _⟩, hro⟩
        refine Post.bind (post_valueOf hIs (okObj_mono hle _ hval)).and_run ?_
        rintro v s hIs _ ⟨⟨rfl, _, _⟩, hrv⟩
        refine Post.bind (Q := fun c s'' => s'' = s ∧ cmp o v = .ok c)
          (Post.liftR hIs (cmp_npr o v) (fun c hcv => ⟨rfl, hcv⟩)) ?_
        rintro c s hIs _ ⟨rfl, hcv⟩
        refine Post.bind (Q := fun same s3 => s3 = s ∧ same = (c == 0 && sameTypes o v))
          (Post.pure hIs ⟨rfl, rfl⟩) ?_
        rintro same s hIs _ ⟨rfl, hsame⟩
        refine hfin same ?_
        intro hs hp
        obtain ⟨hlk, _⟩ := (hq hp).1 old rfl
        rw [hs] at hsame
        have hacc : Acc o v := by
          have h1 : (c == 0) = true ∧ sameTypes o v = true := by
            simpa [Bool.and_eq_true] using hsame.symm
          have hc0 : c = 0 := by simpa using h1.1
          subst hc0
          exact ⟨hcv, h1.2⟩
        refine ⟨fun hn => (by rw [hlk] at hn; cases hn), ?_⟩
        intro w hrw
        have hwv : w = v := run_inj hrw hrv
        subst hwv
        refine ⟨?_, ?_⟩
        · intro u hu
          obtain ⟨hl, hnr⟩ := lookupVal_some hu
          rw [hlk] at hl; cases hl
          have : o = old := run_inj hro (valueOf_notRef hnr s)
          subst this
          exact Eqv.step hacc
        · intro re u hl hu
          rw [hlk] at hl; cases hl
          have : o = u := run_inj hro (valueOf_ref_bound hu)
          subst this
          exact Eqv.step hacc
    · refine hrest s hIs hle ?_
      intro hp
      obtain ⟨hn, hmk⟩ := (hq hp).2 rfl
      refine ⟨fun _ => hmk, ?_⟩
      intro w _
      refine ⟨?_, ?_⟩
      · intro u hu
        have := (lookupVal_some hu).1
        rw [hn] at this; cases this
      · intro re u hl _
        rw [hn] at hl; cases hl
  · next hc =>
    exact hrest st hI (Nat.le_refl _) (SetOk.of_unprot (P.unprot_of_not_const (by simpa using hc)))

theorem post_envSet {st : St} (hI : Inv P st) {e : Nat} (he : e < st.frames.size) (name : String) {val : Obj}
    (hval : okObj P st.frames.size val = true) : Post P (envSet e name val) st (OkO P) :=
  post_createOrSet hI he name hval false

theorem post_envGet_ok {st : St} (hI : Inv P st) {e : Nat} (he : e < st.frames.size) (name : String) :
    Post P (envGet e name) st (OkOpt P) :=
  (post_envGet hI he name).mono (fun _ _ _ _ h => h.1)

/-! ### `del`: only under a policy that admits it, where nothing is protected -/

theorem post_setFrame {st : St} (hI : Inv P st) (hd : P.del = true) {e : Nat} {f f' : Frame}
    (he : st.frames[e]? = some f) (hdp : f'.depth = f.depth) (ho : f'.outer = f.outer)
    (hf : f'.function = f.function) (hs : StoreOk P st.frames e f.depth f'.store) :
    Post P (setFrame e f') st (fun _ s => s.frames.size = st.frames.size) := by
  unfold setFrame
  exact Post.modify (hI.setFrame he hdp ho hf hs) (by simp) (Kept.of_del hd _ _) (by simp)

theorem post_envDelete_go (hd : P.del = true) (name : String) :
    ∀ (fuel : Nat) (st : St), Inv P st → ∀ e, e < st.frames.size → Post P (envDelete.go name fuel e) st (OkO P) := by
  intro fuel
  induction fuel with
  | zero =>
    intro st hI e _
    unfold envDelete.go
    exact Post.pure hI rfl
  | succ fuel ih =>
    intro st hI e he
    obtain ⟨f, hf⟩ := frame_exists he
    have hfok := hI.frameOk hf
    unfold envDelete.go
    refine Post.bind_read (runM_getFrame hf) ?_
    dsimp only
    generalize hf2 : (if (f.depth == 0) = true then { f with numSet := f.numSet + 1 } else f) = f2
    have h2 : f2.depth = f.depth ∧ f2.outer = f.outer ∧ f2.function = f.function ∧ f2.store = f.store := by
      subst hf2; split <;> exact ⟨rfl, rfl, rfl, rfl⟩
    obtain ⟨h2d, h2o, h2f, h2s⟩ := h2
    split
    · refine Post.bind (Q := fun _ s => s.frames.size = st.frames.size) ?_ ?_
      · refine (post_setFrame hI hd hf (by exact h2d) (by exact h2o) (by exact h2f) ?_)
        show StoreOk P st.frames e f.depth (delStore f2.store name)
        rw [h2s]; exact hfok.store.delStore name
      · intro _ s hIs _ hsz
        refine Post.bind (post_functionChanged hIs (by omega) _) ?_
        intro _ s' hIs' _ _
        exact Post.pure hIs' rfl
    · refine Post.bind (post_setFrame hI hd hf h2d h2o h2f (by rw [h2s]; exact hfok.store)) ?_
      intro _ s hIs _ hsz
      split
      · next o ho =>
        rw [h2o] at ho
        have := (hfok.outer o ho).1
        exact ih s hIs o (by omega)
      · exact Post.pure hIs rfl

theorem post_envDelete {st : St} (hI : Inv P st) (hd : P.del = true) {e : Nat} (he : e < st.frames.size)
    (name : String) : Post P (envDelete e name) st (OkO P) := by
  unfold envDelete
  refine Post.bind_read (runM_get st) ?_
  exact post_envDelete_go hd name _ st hI e he

end Grol.G
