import GrolProofs.MapSpec
/-
The two Go representations refine the reference finite map: on a sorted list both `SmallMap.get`
(linear scan) and `BigMap.get` (`slices.BinarySearchFunc`) return `specGet` (value if present, and
the lower bound index), and updating / inserting / deleting at that index is `Spec.insert` /
`Spec.erase`.
-/
namespace Grol.Map
open Grol.Ord

variable {κ ν : Type}

section
variable (c : κ → κ → Int) (hc : ∀ a, PW c a)
include hc

omit hc in
theorem lb_le (key : κ) (l : List (κ × ν)) : lb c key l ≤ l.length := by
  induction l with
  | nil => simp [lb]
  | cons p rest ih => obtain ⟨k, v⟩ := p; simp only [lb]; split <;> simp <;> omega

omit hc in
theorem lb_below (key : κ) (l : List (κ × ν)) : ∀ h, h < lb c key l → ∃ p, l[h]? = some p ∧ c p.1 key = -1 := by
  induction l with
  | nil => intro h hh; simp [lb] at hh
  | cons p rest ih =>
    obtain ⟨k, v⟩ := p
    intro h hh
    simp only [lb] at hh
    split at hh
    · cases h with
      | zero => exact ⟨(k, v), by simp, by assumption⟩
      | succ h' =>
        obtain ⟨p, hp1, hp2⟩ := ih h' (by omega)
        exact ⟨p, by simpa using hp1, hp2⟩
    · omega

/-- from the lower bound on no key is below `key` (needs sortedness) -/
theorem lb_above (key : κ) (l : List (κ × ν)) (hs : Sorted c l) :
    ∀ h p, lb c key l ≤ h → l[h]? = some p → ¬ c p.1 key < 0 := by
  induction l with
  | nil => intro h p _ hp; simp at hp
  | cons q rest ih =>
    obtain ⟨k, v⟩ := q
    have hq := List.pairwise_cons.1 hs
    intro h p hh hp
    simp only [lb] at hh
    split at hh
    · cases h with
      | zero => omega
      | succ h' => exact ih hq.2 h' p (by omega) (by simpa using hp)
    · rename_i hk
      have sk := (hc k).sign key
      cases h with
      | zero =>
        simp at hp; subst hp; simp; omega
      | succ h' =>
        have hmem : p ∈ rest := by
          simp at hp
          exact List.mem_of_getElem? hp
        have h1 : c k p.1 = -1 := hq.1 p hmem
        intro hlt
        have sp := (hc p.1).sign key
        have := (hc k).lt p.1 key h1 (by omega)
        omega

/-- `SmallMap.get` = `specGet` (shifted by the start index) -/
theorem smallGet_eq (key : κ) (l : List (κ × ν)) : ∀ i0,
    smallGet c key l i0 = ((specGet c key l).1, i0 + (specGet c key l).2) := by
  induction l with
  | nil => intro i0; simp [smallGet, specGet, lb]
  | cons p rest ih =>
    obtain ⟨k, v⟩ := p
    intro i0
    have sk := (hc k).sign key
    simp only [smallGet]
    by_cases h1 : c k key = 1
    · rw [if_pos h1]
      simp [specGet, lb, h1]
    · rw [if_neg h1]
      by_cases h0 : c k key = 0
      · rw [if_pos h0]
        simp [specGet, lb, h0]
      · rw [if_neg h0, ih (i0 + 1)]
        have hlt : c k key = -1 := by omega
        simp only [specGet, lb, hlt, if_true, List.getElem?_cons_succ]
        congr 1
        omega

/-- the loop of `slices.BinarySearchFunc` returns the lower bound -/
theorem bsearch_eq (key : κ) (l : List (κ × ν)) (hs : Sorted c l) :
    ∀ fuel i j, i ≤ lb c key l → lb c key l ≤ j → j ≤ l.length → j - i < fuel →
      bsearch c key l fuel i j = lb c key l := by
  intro fuel
  induction fuel with
  | zero => intro i j _ _ _ h; omega
  | succ fuel ih =>
    intro i j hi hj hlen hf
    simp only [bsearch]
    by_cases hij : i < j
    · rw [if_pos hij]
      have hh : (i + j) / 2 < l.length := by omega
      have hget : l[(i + j) / 2]? = some l[(i + j) / 2] := List.getElem?_eq_getElem hh
      generalize l[(i + j) / 2] = p at hget
      obtain ⟨k, v⟩ := p
      rw [hget]
      simp only []
      by_cases hlt : c k key < 0
      · rw [if_pos hlt]
        have : (i + j) / 2 < lb c key l := by
          apply Classical.byContradiction
          intro hn
          exact lb_above c hc key l hs _ _ (by omega) hget hlt
        exact ih _ _ (by omega) hj hlen (by omega)
      · rw [if_neg hlt]
        have : lb c key l ≤ (i + j) / 2 := by
          apply Classical.byContradiction
          intro hn
          obtain ⟨p, hp1, hp2⟩ := lb_below c key l ((i + j) / 2) (by omega)
          rw [hget] at hp1
          injection hp1 with hp1
          subst hp1
          simp at hp2
          omega
        exact ih _ _ hi this (by omega) (by omega)
    · rw [if_neg hij]; omega

/-- `BigMap.get` = `specGet` -/
theorem bigGet_eq (key : κ) (l : List (κ × ν)) (hs : Sorted c l) : bigGet c key l = specGet c key l := by
  unfold bigGet specGet
  rw [bsearch_eq c hc key l hs (l.length + 1) 0 l.length (by omega) (lb_le c key l) (by omega) (by omega)]
  simp only []
  cases l[lb c key l]? with
  | none => rfl
  | some p =>
    obtain ⟨k, v⟩ := p
    simp only []
    split <;> rfl

/-! ### the index `specGet` returns is where the reference map inserts / erases -/

theorem specGet_spec (key : κ) (l : List (κ × ν)) (hs : Sorted c l) :
    (specGet c key l).1 = Spec.lookup c key l
    ∧ (∀ v, (specGet c key l).1 ≠ none → setVal l (specGet c key l).2 v = Spec.insert c key v l)
    ∧ ((specGet c key l).1 ≠ none → l.eraseIdx (specGet c key l).2 = Spec.erase c key l)
    ∧ (∀ v, (specGet c key l).1 = none → insertAt l (specGet c key l).2 (key, v) = Spec.insert c key v l)
    ∧ ((specGet c key l).1 = none → Spec.erase c key l = l) := by
  induction l with
  | nil => simp [specGet, lb, Spec.lookup, Spec.insert, Spec.erase, insertAt]
  | cons p rest ih =>
    obtain ⟨k, v0⟩ := p
    have hq := List.pairwise_cons.1 hs
    have sk := (hc k).sign key
    rcases sk with h | h | h
    · -- below: continue in the rest
      have e : specGet c key ((k, v0) :: rest) = ((specGet c key rest).1, (specGet c key rest).2 + 1) := by
        simp [specGet, lb, h]
      obtain ⟨i1, i2, i3, i4, i5⟩ := ih hq.2
      rw [e]
      refine ⟨?_, ?_, ?_, ?_, ?_⟩
      · simp [Spec.lookup, h, i1]
      · intro v hv
        simp [setVal, Spec.insert, h, i2 v hv]
      · intro hv
        simp [Spec.erase, h, i3 hv]
      · intro v hv
        have := i4 v hv
        simp only [insertAt] at this
        simp [insertAt, Spec.insert, h, this]
      · intro hv
        simp [Spec.erase, h, i5 hv]
    · -- found
      have e : specGet c key ((k, v0) :: rest) = (some v0, 0) := by simp [specGet, lb, h]
      rw [e]
      simp [Spec.lookup, Spec.insert, Spec.erase, setVal, h]
    · -- above: not present
      have e : specGet c key ((k, v0) :: rest) = (none, 0) := by simp [specGet, lb, h]
      have hab := above_of_sorted c hc key k v0 rest hs h
      rw [e]
      refine ⟨?_, ?_, ?_, ?_, ?_⟩
      · simp [Spec.lookup, h, lookup_none_of_above c key rest hab]
      · simp
      · simp
      · intro v _
        simp [insertAt, Spec.insert, h]
      · intro _
        apply erase_id_of_above c key
        intro q hq'
        simp at hq'
        rcases hq' with rfl | hq'
        · exact h
        · exact hab q hq'

end

end Grol.Map
