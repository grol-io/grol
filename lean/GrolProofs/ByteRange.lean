import Grol.Trie
/- The byte loop `for i := t.min; i <= t.max; i++` as a list. -/
namespace Grol.Trie

/-- `List.range` is increasing and `UInt8.ofNat` keeps the order below 256 -/
theorem allBytesList_pairwise : ((List.range 256).map UInt8.ofNat).Pairwise (· < ·) := by
  rw [List.pairwise_map]
  refine List.Pairwise.imp_of_mem ?_ List.pairwise_lt_range
  intro a b ha hb h
  rw [List.mem_range] at ha hb
  rwa [UInt8.lt_iff_toNat_lt, UInt8.toNat_ofNat_of_lt' ha, UInt8.toNat_ofNat_of_lt' hb]

theorem mem_allBytesList (i : UInt8) : i ∈ (List.range 256).map UInt8.ofNat := by
  simp only [List.mem_map, List.mem_range]
  exact ⟨i.toNat, i.toNat_lt, by simp⟩

theorem mem_byteRange (mn mx i : UInt8) : i ∈ byteRange mn mx ↔ mn ≤ i ∧ i ≤ mx := by
  unfold byteRange
  rw [List.mem_filter]
  simp [mem_allBytesList, -List.mem_map]

theorem byteRange_pairwise (mn mx : UInt8) : (byteRange mn mx).Pairwise (· < ·) :=
  List.Pairwise.filter _ allBytesList_pairwise

end Grol.Trie
