import Grol.Memory
/- Arithmetic lemmas for C09: `BitVec 64` operations of the guard versus unbounded integers. -/
namespace Grol.Memory

theorem toInt_cases (x : I64) :
    (x.toInt = (x.toNat : Int) ∧ x.toNat < 2 ^ 63) ∨ (x.toInt = (x.toNat : Int) - 2 ^ 64 ∧ 2 ^ 63 ≤ x.toNat) := by
  have h := BitVec.toInt_eq_toNat_cond x
  have hlt := x.isLt
  split at h
  · left; exact ⟨h, by omega⟩
  · right; exact ⟨by rw [h]; norm_cast, by omega⟩

theorem toNat_of_nonneg (x : I64) (h : 0 ≤ x.toInt) : x.toInt = (x.toNat : Int) ∧ x.toNat < 2 ^ 63 := by
  rcases toInt_cases x with h' | h'
  · exact h'
  · have := x.isLt; omega

/-- multiplying by ObjectSize without wrap-around -/
theorem toInt_mul16 (n : I64) (h0 : 0 ≤ n.toInt) (h1 : n.toInt ≤ maxInt64 / 16) :
    (n * 16#64).toInt = n.toInt * 16 := by
  obtain ⟨hn, hlt⟩ := toNat_of_nonneg n h0
  have hm : (n * 16#64).toNat = (n.toNat * 16) % 2 ^ 64 := by simp [BitVec.toNat_mul]
  have hb : n.toNat * 16 < 2 ^ 63 := by
    have : (n.toNat : Int) ≤ 576460752303423487 := by rw [← hn]; simpa [maxInt64] using h1
    omega
  rcases toInt_cases (n * 16#64) with h' | h'
  · rw [h'.1, hm, hn]; omega
  · rw [hm] at h'; omega

end Grol.Memory

namespace Grol.Memory

/-- the budget test on unbounded integers: `count` objects of 16 bytes -/
def FitsOne (free : Int) (count : Int) : Prop := count ≤ 256 ∨ (0 ≤ free ∧ count * 16 < free)

/-- … for one of the two readings of the free memory (before / after the forced GC) -/
def Fits (free1 free2 : Int) (count : Int) : Prop := FitsOne free1 count ∨ FitsOne free2 count

theorem sizeOk_sound (free : Int) (n : I64) (h : sizeOk free n = true) : FitsOne free n.toInt := by
  unfold sizeOk at h
  by_cases h1 : n.toInt ≤ 256
  · exact Or.inl h1
  · rw [if_neg h1] at h
    by_cases h2 : n.toInt > maxInt64 / 16
    · rw [if_pos h2] at h; cases h
    · rw [if_neg h2] at h
      simp only [Bool.and_eq_true, decide_eq_true_eq] at h
      rw [toInt_mul16 n (by omega) (by omega)] at h
      exact Or.inr h

theorem mustBeOk_sound (free1 free2 : Int) (n : I64) (h : mustBeOk free1 free2 n = true) :
    Fits free1 free2 n.toInt := by
  unfold mustBeOk at h
  rw [Bool.or_eq_true] at h
  rcases h with h | h
  · exact Or.inl (sizeOk_sound _ _ h)
  · exact Or.inr (sizeOk_sound _ _ h)

/-- the last step of every guarded size computation: a result means the guard passed -/
theorem guard_ok (free1 free2 : Int) (n : I64) (k' k : Nat)
    (h : (if mustBeOk free1 free2 n = true then Out.ok k' else .guard) = .ok k) :
    k' = k ∧ Fits free1 free2 n.toInt := by
  by_cases hg : mustBeOk free1 free2 n = true
  · rw [if_pos hg] at h
    exact ⟨Out.ok.inj h, mustBeOk_sound _ _ _ hg⟩
  · rw [if_neg hg] at h; cases h

theorem mulLen_spec (a b n : I64) (h : mulLen a b = some n) :
    0 ≤ a.toInt ∧ 0 ≤ b.toInt ∧ 0 ≤ n.toInt ∧ n.toInt = a.toInt * b.toInt ∧ (n.toNat : Int) = a.toInt * b.toInt := by
  unfold mulLen at h
  by_cases h1 : a.toInt < 0 ∨ b.toInt < 0
  · rw [if_pos h1] at h; cases h
  · rw [if_neg h1] at h
    simp only at h
    by_cases h2 : a.toNat * b.toNat / 2 ^ 64 ≠ 0 ∨ a.toNat * b.toNat % 2 ^ 64 > 2 ^ 63 - 1
    · rw [if_pos h2] at h; cases h
    · rw [if_neg h2] at h
      injection h with h
      obtain ⟨ha, _⟩ := toNat_of_nonneg a (by omega)
      obtain ⟨hb, _⟩ := toNat_of_nonneg b (by omega)
      generalize hp : a.toNat * b.toNat = p at h h2
      have hp63 : p < 2 ^ 63 := by omega
      have hnat : n.toNat = p := by
        rw [← h, BitVec.toNat_ofNat]; omega
      have hab : a.toInt * b.toInt = (p : Int) := by
        rw [ha, hb, ← hp]; norm_cast
      have hn : n.toInt = (n.toNat : Int) := by
        rcases toInt_cases n with h' | h'
        · exact h'.1
        · omega
      refine ⟨by omega, by omega, by omega, ?_, ?_⟩
      · rw [hn, hnat, hab]
      · rw [hnat, hab]

theorem toNat_ofNat_of_lt (k : Nat) (h : k < 2 ^ 64) : (BitVec.ofNat 64 k).toNat = k := by
  rw [BitVec.toNat_ofNat]; omega

theorem toInt_ofNat_of_lt (k : Nat) (h : k < 2 ^ 63) : (BitVec.ofNat 64 k).toInt = (k : Int) := by
  have hn := toNat_ofNat_of_lt k (by omega)
  rcases toInt_cases (BitVec.ofNat 64 k) with h' | h'
  · rw [h'.1, hn]
  · omega

end Grol.Memory

namespace Grol.Memory

/-- Go's `n / 16` on a non-negative int -/
theorem toInt_sdiv16 (n : I64) (h0 : 0 ≤ n.toInt) : (n.sdiv 16#64).toInt = n.toInt / 16 := by
  rw [BitVec.toInt_sdiv]
  have h16 : (16#64 : I64).toInt = 16 := by decide
  rw [h16, Int.tdiv_eq_ediv_of_nonneg h0]
  have hlt : n.toInt < 2 ^ 63 := by have := @BitVec.toInt_lt 64 n; simpa using this
  apply Int.bmod_eq_of_le_mul_two <;> omega

end Grol.Memory
