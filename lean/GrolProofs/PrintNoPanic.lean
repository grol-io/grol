import Grol.Printer
import Grol.Parser
import GrolProofs.TokTypeAll
/-
C08, printer half: printing a tree with no missing children never panics, in any mode
(any compact / allParens flags, any starting state), provided every operator token stored in a
postfix / infix / index node has an entry in `ast.Precedences` (`precOK`; the parser only stores
tokens for which the generated tables guarantee it: `infix_tokens_have_precedence` etc. below).
-/
namespace Grol.Printer
open Grol.Generated

mutual
/-- every token on which `needParen` is called has a precedence -/
def precOK : Node → Bool
  | .ident _ | .intLit _ | .floatLit _ | .strLit _ | .boolean _ | .control _ | .comment .. => true
  | .post t _ => (lookupPrec t.type).isSome
  | .ret _ v => precOKO v
  | .pre _ r => precOKO r
  | .infix t l r => (lookupPrec t.type).isSome && precOKO l && precOKO r
  | .forE _ c b => precOKO c && precOKS b
  | .ifE _ c a b => precOKO c && precOKS a && precOKS b
  | .builtin _ ps => precOKL ps
  | .func _ _ ps b _ _ => precOKL ps && precOKS b
  | .call _ f as => precOKO f && precOKL as
  | .array _ es => precOKL es
  | .index t l i => (lookupPrec t.type).isSome && precOKO l && precOKO i
  | .mapLit _ kvs => precOKL kvs
  | .macroLit _ ps b => precOKL ps && precOKS b
def precOKO : Option Node → Bool
  | none => true
  | some n => precOK n
def precOKL : List (Option Node) → Bool
  | [] => true
  | x :: xs => precOKO x && precOKL xs
def precOKS : Option (List (Option Node)) → Bool
  | none => true
  | some l => precOKL l
end

theorem needParen_ok (ps : PrintState) (t : Tk) (h : (lookupPrec t.type).isSome = true) (e : PrintPanic) :
    needParen ps t ≠ .error e := by
  unfold needParen
  cases hl : lookupPrec t.type with
  | none => simp [hl] at h
  | some p => simp

end Grol.Printer

namespace Grol.Printer
open Grol.Generated

macro "okne" : tactic => `(tactic| (intro h; cases h))

theorem elseKind_nilFirst {l : NList} (h : elseKind l = .nilFirst) : noNilL l = false := by
  unfold elseKind at h
  split at h
  · simp [noNilL, noNilO]
  · split at h <;> cases h
  · cases h

theorem noNilL_filter (p : Option Node → Bool) : ∀ l : NList, noNilL l = true → noNilL (l.filter p) = true
  | [], _ => by simp [noNilL]
  | x :: xs, h => by
    simp only [noNilL, Bool.and_eq_true] at h
    unfold List.filter
    split
    · simp only [noNilL, Bool.and_eq_true]; exact ⟨h.1, noNilL_filter p xs h.2⟩
    · exact noNilL_filter p xs h.2

theorem noNilL_elseStmts (c : Bool) (l : NList) (h : noNilL l = true) : noNilL (elseStmts c l) = true := by
  unfold elseStmts; split
  · exact noNilL_filter _ l h
  · exact h

theorem block_ok {tbl : Nat → Bool} {l : List (Option Node)}
    (loop : ∀ ps i e, printStmtLoop tbl l ps i ≠ .error e) (ps : PrintState) (e : PrintPanic) :
    printBlock tbl l ps ≠ .error e := by
  unfold printBlock
  dsimp only
  split
  · next e' heq => exact fun _ => absurd heq (loop _ _ _)
  · okne

mutual

theorem printNode_ok (tbl : Nat → Bool) : ∀ (n : Node), n.noNil = true → precOK n = true →
    ∀ ps e, printNode tbl n ps ≠ .error e
  | .ident _, _, _, _, _ => by unfold printNode; okne
  | .intLit _, _, _, _, _ => by unfold printNode; okne
  | .floatLit _, _, _, _, _ => by unfold printNode; okne
  | .boolean _, _, _, _, _ => by unfold printNode; okne
  | .control _, _, _, _, _ => by unfold printNode; okne
  | .comment _ _ _, _, _, _, _ => by unfold printNode; okne
  | .strLit _, _, _, _, _ => by unfold printNode; okne
  | .ret _ none, _, _, _, _ => by unfold printNode; okne
  | .ret _ (some v), hn, hp, ps, e => by
    unfold printNode
    exact printNode_ok tbl v (by simpa [Node.noNil] using hn) (by simpa [precOK, precOKO] using hp) _ _
  | .pre _ r, hn, hp, ps, e => by
    unfold printNode
    dsimp only
    split
    · next e' heq => exact fun _ => absurd heq (printO_ok tbl r (by simpa [Node.noNil] using hn) (by simpa [precOK] using hp) _ _)
    · okne
  | .post t _, _, hp, ps, e => by
    unfold printNode
    split
    · next e' heq => exact fun _ => absurd heq (needParen_ok _ _ (by simpa [precOK] using hp) _)
    · okne
  | .infix t l none, hn, hp, ps, e => by
    simp only [Node.noNil, Bool.and_eq_true] at hn
    simp only [precOK, Bool.and_eq_true] at hp
    unfold printNode
    split
    · next e' heq => exact fun _ => absurd heq (needParen_ok _ _ hp.1.1 _)
    · dsimp only
      split
      · next e' heq => exact fun _ => absurd heq (printO_ok tbl l hn.1 hp.1.2 _ _)
      · okne
  | .infix t l (some r), hn, hp, ps, e => by
    simp only [Node.noNil, Bool.and_eq_true] at hn
    simp only [precOK, precOKO, Bool.and_eq_true] at hp
    unfold printNode
    split
    · next e' heq => exact fun _ => absurd heq (needParen_ok _ _ hp.1.1 _)
    · dsimp only
      split
      · next e' heq => exact fun _ => absurd heq (printO_ok tbl l hn.1 hp.1.2 _ _)
      · split
        · next e' heq => exact fun _ => absurd heq (printNode_ok tbl r hn.2 hp.2 _ _)
        · okne
  | .forE _ c b, hn, hp, ps, e => by
    simp only [Node.noNil, Bool.and_eq_true] at hn
    simp only [precOK, Bool.and_eq_true] at hp
    unfold printNode
    split
    · next e' heq => exact fun _ => absurd heq (printO_ok tbl c hn.1 hp.1 _ _)
    · exact printStmts_ok tbl b hn.2 hp.2 _ _
  | .ifE _ c a none, hn, hp, ps, e => by
    simp only [Node.noNil, Bool.and_eq_true] at hn
    simp only [precOK, Bool.and_eq_true] at hp
    unfold printNode
    split
    · next e' heq => exact fun _ => absurd heq (printO_ok tbl c hn.1.1 hp.1.1 _ _)
    · split
      · next e' heq => exact fun _ => absurd heq (printStmts_ok tbl a hn.1.2 hp.1.2 _ _)
      · okne
  | .ifE _ c a (some l), hn, hp, ps, e => by
    simp only [Node.noNil, Bool.and_eq_true] at hn
    simp only [precOK, precOKS, Bool.and_eq_true] at hp
    unfold printNode
    split
    · next e' heq => exact fun _ => absurd heq (printO_ok tbl c hn.1.1 hp.1.1 _ _)
    · split
      · next e' heq => exact fun _ => absurd heq (printStmts_ok tbl a hn.1.2 hp.1.2 _ _)
      · dsimp only
        split
        · next hk => have := elseKind_nilFirst hk; rw [noNilL_elseStmts _ l hn.2] at this; cases this
        · exact printHead_ok tbl _ l hn.2 hp.2 _ _
        · exact block_ok (printStmtLoop_ok tbl l hn.2 hp.2) _ _
  | .builtin _ params, hn, hp, ps, e => by
    unfold printNode
    split
    · next e' heq => exact fun _ => absurd heq (printList_ok tbl params (by simpa [Node.noNil] using hn) (by simpa [precOK] using hp) _ _ _)
    · okne
  | .func _ name params body _ isLambda, hn, hp, ps, e => by
    simp only [Node.noNil, Bool.and_eq_true] at hn
    simp only [precOK, Bool.and_eq_true] at hp
    unfold printNode
    split
    · dsimp only
      split
      · next e' heq => exact fun _ => absurd heq (printList_ok tbl params hn.1 hp.1 _ _ _)
      · split
        · next e' heq => exact fun _ => absurd heq (printStmts_ok tbl body hn.2 hp.2 _ _)
        · okne
    · dsimp only
      split
      · next e' heq => exact fun _ => absurd heq (printList_ok tbl params hn.1 hp.1 _ _ _)
      · exact printStmts_ok tbl body hn.2 hp.2 _ _
  | .call _ f args, hn, hp, ps, e => by
    simp only [Node.noNil, Bool.and_eq_true] at hn
    simp only [precOK, Bool.and_eq_true] at hp
    unfold printNode
    dsimp only
    split
    · next e' heq => exact fun _ => absurd heq (printO_ok tbl f hn.1 hp.1 _ _)
    · split
      · next e' heq => exact fun _ => absurd heq (printList_ok tbl args hn.2 hp.2 _ _ _)
      · okne
  | .array _ es, hn, hp, ps, e => by
    unfold printNode
    split
    · next e' heq => exact fun _ => absurd heq (printList_ok tbl es (by simpa [Node.noNil] using hn) (by simpa [precOK] using hp) _ _ _)
    · okne
  | .index t l i, hn, hp, ps, e => by
    simp only [Node.noNil, Bool.and_eq_true] at hn
    simp only [precOK, Bool.and_eq_true] at hp
    unfold printNode
    split
    · next e' heq => exact fun _ => absurd heq (needParen_ok _ _ hp.1.1 _)
    · dsimp only
      split
      · next e' heq => exact fun _ => absurd heq (printO_ok tbl l hn.1 hp.1.2 _ _)
      · split
        · next e' heq => exact fun _ => absurd heq (printO_ok tbl i hn.2 hp.2 _ _)
        · okne
  | .mapLit _ kvs, hn, hp, ps, e => by
    unfold printNode
    dsimp only
    split
    · next e' heq => exact fun _ => absurd heq (printPairs_ok tbl kvs (by simpa [Node.noNil] using hn) (by simpa [precOK] using hp) _ _ _)
    · okne
  | .macroLit _ params body, hn, hp, ps, e => by
    simp only [Node.noNil, Bool.and_eq_true] at hn
    simp only [precOK, Bool.and_eq_true] at hp
    unfold printNode
    split
    · next e' heq => exact fun _ => absurd heq (printList_ok tbl params hn.1 hp.1 _ _ _)
    · exact printStmts_ok tbl body hn.2 hp.2 _ _

theorem printO_ok (tbl : Nat → Bool) : ∀ (o : Option Node), noNilO o = true → precOKO o = true →
    ∀ ps e, printO tbl o ps ≠ .error e
  | none, hn, _, _, _ => by simp [noNilO] at hn
  | some n, hn, hp, ps, e => by
    unfold printO
    exact printNode_ok tbl n (by simpa [noNilO] using hn) (by simpa [precOKO] using hp) ps e

theorem printHead_ok (tbl : Nat → Bool) (sk : Bool) : ∀ (l : List (Option Node)), noNilL l = true → precOKL l = true →
    ∀ ps e, printHead tbl sk l ps ≠ .error e
  | [], _, _, _, _ => by unfold printHead; okne
  | x :: xs, hn, hp, ps, e => by
    simp only [noNilL, Bool.and_eq_true] at hn
    simp only [precOKL, Bool.and_eq_true] at hp
    unfold printHead
    split
    · exact printHead_ok tbl sk xs hn.2 hp.2 _ _
    · exact printO_ok tbl x hn.1 hp.1 _ _

theorem printList_ok (tbl : Nat → Bool) : ∀ (l : List (Option Node)), noNilL l = true → precOKL l = true →
    ∀ ps i e, printList tbl l ps i ≠ .error e
  | [], _, _, _, _, _ => by unfold printList; okne
  | x :: xs, hn, hp, ps, i, e => by
    simp only [noNilL, Bool.and_eq_true] at hn
    simp only [precOKL, Bool.and_eq_true] at hp
    unfold printList
    dsimp only
    split
    · next e' heq => exact fun _ => absurd heq (printO_ok tbl x hn.1 hp.1 _ _)
    · exact printList_ok tbl xs hn.2 hp.2 _ _ _

theorem printPairs_ok (tbl : Nat → Bool) : ∀ (l : List (Option Node)), noNilL l = true → precOKL l = true →
    ∀ ps i e, printPairs tbl l ps i ≠ .error e
  | [], _, _, _, _, _ => by unfold printPairs; okne
  | [_], _, _, _, _, _ => by unfold printPairs; okne
  | k :: v :: rest, hn, hp, ps, i, e => by
    simp only [noNilL, Bool.and_eq_true] at hn
    simp only [precOKL, Bool.and_eq_true] at hp
    unfold printPairs
    dsimp only
    split
    · next e' heq => exact fun _ => absurd heq (printO_ok tbl k hn.1 hp.1 _ _)
    · split
      · next e' heq => exact fun _ => absurd heq (printO_ok tbl v hn.2.1 hp.2.1 _ _)
      · exact printPairs_ok tbl rest hn.2.2 hp.2.2 _ _ _

theorem printStmts_ok (tbl : Nat → Bool) : ∀ (s : Option (List (Option Node))), noNilS s = true → precOKS s = true →
    ∀ ps e, printStmts tbl s ps ≠ .error e
  | none, hn, _, _, _ => by simp [noNilS] at hn
  | some l, hn, hp, ps, e => by
    unfold printStmts
    exact block_ok (printStmtLoop_ok tbl l (by simpa [noNilS] using hn) (by simpa [precOKS] using hp)) _ _

theorem printStmtLoop_ok (tbl : Nat → Bool) : ∀ (l : List (Option Node)), noNilL l = true → precOKL l = true →
    ∀ ps i e, printStmtLoop tbl l ps i ≠ .error e
  | [], _, _, _, _, _ => by unfold printStmtLoop; okne
  | x :: xs, hn, hp, ps, i, e => by
    simp only [noNilL, Bool.and_eq_true] at hn
    simp only [precOKL, Bool.and_eq_true] at hp
    unfold printStmtLoop
    split
    · exact printStmtLoop_ok tbl xs hn.2 hp.2 _ _ _
    · dsimp only
      split
      · next e' heq => exact fun _ => absurd heq (printO_ok tbl x hn.1 hp.1 _ _)
      · exact printStmtLoop_ok tbl xs hn.2 hp.2 _ _ _

end

theorem printBlock_ok (tbl : Nat → Bool) : ∀ (l : List (Option Node)), noNilL l = true → precOKL l = true →
    ∀ ps e, printBlock tbl l ps ≠ .error e :=
  fun l hn hp => block_ok (printStmtLoop_ok tbl l hn hp)

end Grol.Printer

namespace Grol.Printer
open Grol.Generated Grol.Parser

/-- **C08 (printer)**: a program without missing children, whose operator tokens have a precedence (`hp`), prints
without panic in every mode. -/
theorem printProgram_no_panic (tbl : Nat → Bool) (prog : NList) (compact allParens : Bool)
    (hn : noNilL prog = true) (hp : precOKL prog = true) (e : PrintPanic) :
    printProgram tbl prog compact allParens ≠ .error e := by
  unfold printProgram
  split
  · next e' heq => exact fun _ => absurd heq (printStmts_ok tbl (some prog) (by simpa [noNilS] using hn) (by simpa [precOKS] using hp) _ _)
  · okne

/-! Facts about the generated tables (re-checked against the source on every run): every token the
parser can store in an infix, index or postfix node has a precedence, so `needParen` cannot panic. -/

theorem infix_tokens_have_precedence :
    ∀ t : TokType, Parser.lookup infixRegs t = some .parseInfixExpression → (lookupPrec t).isSome = true :=
  TokType.forall_of_all (by decide +kernel)

theorem index_tokens_have_precedence :
    ∀ t : TokType, Parser.lookup infixRegs t = some .parseIndexExpression → (lookupPrec t).isSome = true :=
  TokType.forall_of_all (by decide +kernel)

theorem postfix_tokens_have_precedence :
    ∀ t : TokType, (Parser.lookup postfixRegs t).isSome = true → (lookupPrec t).isSome = true :=
  TokType.forall_of_all (by decide +kernel)

/-- every token `peekError` is called with is a constant token (`token.ByType` is not nil) -/
theorem expected_tokens_are_constant :
    ∀ t ∈ [TokType.LPAREN, .RPAREN, .LBRACE, .RBRACE, .RBRACKET, .COMMA, .COLON, .LAMBDA], (constLiteral t).isSome = true := by
  decide

end Grol.Printer
