import GrolProofs.RenHelpers
/-
Two-run simulations: the tree walker (lean/Grol/Eval/Eval.lean), walked once for any `Walk`.  Two functions of
the mutual block are not walked here, because the two simulations treat them differently: `applyFunction`
(the cache; the change of the quiet frame) and `evalDelete` (not in a quiet run).  `Walk.Spec.succ` takes them
as hypotheses.
-/
namespace Grol.R
open Grol.E Calc

def renEx (σ : Sh) : Except Obj (List Obj) → Except Obj (List Obj)
  | .ok l => .ok (renL σ l)
  | .error e => .error (ren σ e)

def QEx (P : Qp) : Except Obj (List Obj) → Except Obj (List Obj) → Prop := fun a b =>
  a = renEx P.σ b ∧ (∀ l, b = .ok l → cleanL P l) ∧ ∀ e, b = .error e → clean P e

/-- a fact the walk has learnt: one of the conjuncts of `learnt` -/
macro "known" : tactic => `(tactic| ((try simp only [and_imp]); intros; first | assumption | trivial))

macro "qopt" : tactic => `(tactic| exact ⟨rfl, fun w h => by cases h <;> first | assumption | trivial⟩)

namespace Walk
variable {P : Qp} (W : Walk P) {learnt : Prop}

/-! ### the leaves -/

/-- both runs read their current scope: a frame the simulation may touch -/
theorem curEnv_bind {f g : Nat → M α} {Q : α → α → Prop}
    (h : ∀ e, W.J (learnt ∧ W.Cur e) (f (sh P.σ e)) (g e) Q) : W.J learnt (curEnv >>= f) (curEnv >>= g) Q :=
  ⟨tr_bind trStep.curEnv fun e => (h e).tr, fun hp s t hR =>
    W.read (runM_curEnv' s) (runM_curEnv' t) (W.cur hR ▸ (h t.cur).sim ⟨hp, W.curOk hR⟩ s t hR)⟩

theorem envSet' (e : Nat) (name : String) (val : Obj) (he : learnt → W.Cur e) (hcv : learnt → clean P val)
    {a : Obj} (ha : a = ren P.σ val := by rfl) :
    W.J learnt (Grol.E.envSet (sh P.σ e) name a) (Grol.E.envSet e name val) (QOq P) := ha ▸ W.envSet e name val he hcv

theorem evalInfixOp (op : String) (left right : Obj) (hcl : learnt → clean P left) (hcr : learnt → clean P right) :
    W.J learnt (evalInfixOp op (ren P.σ left) (ren P.σ right)) (evalInfixOp op left right) (QOq P) :=
  ⟨trStep.evalInfixOp, fun h _ _ hR => W.toCalc.evalInfixOp W.deref hR op left right (hcl h) (hcr h)⟩

theorem equalsM (a b : Obj) (hca : learnt → clean P a) (hcb : learnt → clean P b) :
    W.J learnt (equalsM (ren P.σ a) (ren P.σ b)) (equalsM a b) (fun x y => x = y) :=
  ⟨trStep.equalsM, fun h _ _ hR => W.toCalc.equalsM W.deref hR a b (hca h) (hcb h)⟩

theorem objFirst (o : Obj) (hco : learnt → clean P o) : W.J learnt (objFirst (ren P.σ o)) (objFirst o) (QOq P) :=
  ⟨trStep.objFirst, fun h _ _ hR => W.toCalc.objFirst hR o (hco h)⟩

theorem objRest (o : Obj) (hco : learnt → clean P o) : W.J learnt (objRest (ren P.σ o)) (objRest o) (QOq P) :=
  ⟨trStep.objRest, fun h _ _ hR => W.toCalc.objRest hR o (hco h)⟩

theorem indexIdx (left index : Obj) (hcl : learnt → clean P left) :
    W.J learnt (indexIdx (ren P.σ left) (ren P.σ index)) (indexIdx left index) (QOq P) :=
  ⟨trStep.indexIdx, fun h _ _ hR => W.toCalc.indexIdx hR left index (hcl h)⟩

/-! ### the helpers that work on the current frame -/

theorem evalIdentifier (name : String) : W.J learnt (evalIdentifier name) (evalIdentifier name) (QOq P) := by
  unfold Grol.E.evalIdentifier
  refine J.get_bind fun s t => J.rw_left (fun h => by rw [W.extNames h.2, W.cur h.2]) ?_
  refine J.ite (fun _ => .const _) (fun _ => ?_)
  refine J.bind (W.envGet t.cur name fun h => W.curOk h.2) fun r => ?_
  cases r with
  | none => exact .const _
  | some v => exact J.pure fun h => ⟨rfl, h.2 v rfl⟩

theorem evalPrefixIncrDecr (op : String) (node : Node) :
    W.J learnt (evalPrefixIncrDecr op node) (evalPrefixIncrDecr op node) (QOq P) := by
  unfold Grol.E.evalPrefixIncrDecr
  split
  · next id =>
    refine W.curEnv_bind fun e => J.bind (W.envGet e id fun h => h.2) fun r => ?_
    cases r with
    | none => exact .const _
    | some val =>
      simp only [Option.map]
      refine J.bind (W.valueOf val fun h => h.2 val rfl) fun v => ?_
      rw [incrValue_ren]
      cases hi : incrValue v (if (op == "DECR") = true then -1 else 1) with
      | none => exact .const _
      | some nv => exact W.envSet e id nv (by known) fun _ => clean_incrValue v _ nv hi
  · exact .const _

theorem evalPostfix (op : String) (id : String) : W.J learnt (evalPostfix op id) (evalPostfix op id) (QOq P) := by
  unfold Grol.E.evalPostfix
  refine W.curEnv_bind fun e => J.bind (W.envGet e id fun h => h.2) fun r => ?_
  cases r with
  | none => exact .const _
  | some val =>
    simp only [Option.map]
    refine J.bind (W.valueOf val fun h => h.2 val rfl) fun v => ?_
    try dsimp only
    split
    · exact .const _
    · next toAdd _ =>
      rw [incrValue_ren]
      cases hi : incrValue v toAdd with
      | none => exact .const _
      | some nv =>
        simp only [Option.map]
        refine J.bind (W.envSet e id nv (by known) fun _ => clean_incrValue v _ nv hi) fun oerr => ?_
        exact J.errOr oerr v (by known) (by known)

theorem evalIndexAssignment (which : Node) (index value : Obj)
    (hci : learnt → clean P index) (hcv : learnt → clean P value) :
    W.J learnt (evalIndexAssignment which (ren P.σ index) (ren P.σ value)) (evalIndexAssignment which index value)
      (QOq P) := by
  unfold Grol.E.evalIndexAssignment
  refine J.bind (W.valueOf index hci) fun index => ?_
  refine J.bind (W.valueOf value fun h => hcv h.1) fun value => ?_
  split
  · next id =>
    refine W.curEnv_bind fun e => J.bind (W.envGet e id fun h => h.2) fun r => ?_
    cases r with
    | none => exact .const _
    | some val =>
      simp only [Option.map]
      refine J.bind (W.valueOf val fun h => h.2 val rfl) fun v => ?_
      cases v with
      | array els =>
        simp only [ren, int64Value_ren, renL_length]
        cases int64Value index with
        | none => exact .const _
        | some idx =>
          dsimp only
          refine J.ite (fun _ => .const _) (fun _ => ?_)
          refine J.getCfg_bind fun s t hc _ => ?_
          rw [hc]
          refine (W.noteHazard _ _ _).seq ?_
          refine J.bind (W.envSet' e id
            (newArray (els.set (if idx < 0 then (els.length : Int) + idx.toInt else idx.toInt).toNat value)) (by known)
            (fun h => cleanL_set (clean_arr h.2.2) _ h.1.1.1.2.2) (by simp only [newArray, ren, renL_set])) fun oerr => ?_
          exact J.errOr oerr value (by known) (by known)
      | map big kvs =>
        simp only [ren]
        refine J.getCfg_bind fun s t hc _ => ?_
        rw [hc, mapSet_ren]
        refine J.bind (φ := fun p => (p.1, renP P.σ p.2)) (K := fun p => cleanP P p.2)
          (J.liftR fun h b hb => ⟨rfl, mapSet_clean (clean_mp h.2.2) h.1.1.1.1.2.2 h.1.1.1.2.2 hb⟩) fun p => ?_
        obtain ⟨big', kvs'⟩ := p
        dsimp only
        refine (W.noteHazard _ _ _).seq ?_
        refine J.bind (W.envSet' e id (.map big' kvs') (by known) (fun h => h.2) (by simp only [ren])) fun oerr => ?_
        exact J.errOr oerr value (by known) (by known)
      | _ => all_goals exact .const _
  · exact .const _

theorem deleteMapEntry (left : Node) (index : Obj) :
    W.J learnt (deleteMapEntry left (ren P.σ index)) (deleteMapEntry left index) (QOq P) := by
  unfold Grol.E.deleteMapEntry
  split
  · next id =>
    refine W.curEnv_bind fun e => J.bind (W.envGet e id fun h => h.2) fun r => ?_
    cases r with
    | none => exact .const _
    | some obj0 =>
      simp only [Option.map]
      refine J.bind (W.valueOf obj0 fun h => h.2 obj0 rfl) fun obj => ?_
      cases obj with
      | map big kvs =>
        simp only [ren]
        rw [mapDelete_ren]
        refine J.bind (φ := Option.map (renP P.σ)) (K := fun b => ∀ l, b = some l → cleanP P l)
          (J.liftR fun h b hb => ⟨rfl, fun l hl => mapDelete_clean (clean_mp h.2.2) (by rw [hb, hl])⟩) fun r2 => ?_
        cases r2 with
        | none => exact .const _
        | some kvs' =>
          simp only [Option.map]
          refine (W.noteHazard _ _ _).seq ?_
          refine J.bind (W.envSet' e id (.map big kvs') (by known) (fun h => h.2 kvs' rfl) (by simp only [ren]))
            fun oerr => ?_
          exact J.errOr oerr (.bool true) (by known) (by known)
      | _ => all_goals exact .const _
  · exact .const _

theorem derefList : ∀ {learnt : Prop} (l : List Obj), (learnt → cleanL P l) →
    W.J learnt (Grol.E.derefList (renL P.σ l)) (Grol.E.derefList l) (fun a b => a = renL P.σ b ∧ cleanL P b)
  | _, [], _ => J.pure fun _ => ⟨rfl, trivial⟩
  | _, x :: xs, hc => by
    simp only [renL]
    unfold Grol.E.derefList
    refine J.bind (W.valueOf x fun h => (hc h).1) fun v => ?_
    refine J.bind (derefList xs fun h => (hc h.1).2) fun vs => ?_
    exact J.pure fun h => ⟨rfl, h.1.2.2, h.2⟩

/-- the last step of `Eval`: one reference level is resolved -/
theorem deref1 (r : Obj) (hc : learnt → clean P r) :
    W.J learnt (match ren P.σ r with | .ref e n => Grol.E.refValue e n | r => pure r)
      (match r with | .ref e n => Grol.E.refValue e n | r => pure r) (QOq P) := by
  cases r with
  | ref e n => exact W.refValue e n hc
  | _ => all_goals exact J.pure fun h => ⟨rfl, hc h⟩

/-- the end of `Eval`: return values are unwrapped, then one reference level is resolved -/
theorem evalTail (result : Obj) (hc : learnt → clean P result) :
    W.J learnt
      (match ren P.σ result with
      | .ret v kind =>
        if (kind != "RETURN") = true then do
          let result ← pure (err "unexpected control type outside of for loops")
          match result with
            | .ref e n => Grol.E.refValue e n
            | r => pure r
        else do
          let result ← pure v
          match result with
            | .ref e n => Grol.E.refValue e n
            | r => pure r
      | r => do
        let result ← pure r
        match result with
          | .ref e n => Grol.E.refValue e n
          | r => pure r)
      (match result with
      | .ret v kind =>
        if (kind != "RETURN") = true then do
          let result ← pure (err "unexpected control type outside of for loops")
          match result with
            | .ref e n => Grol.E.refValue e n
            | r => pure r
        else do
          let result ← pure v
          match result with
            | .ref e n => Grol.E.refValue e n
            | r => pure r
      | r => do
        let result ← pure r
        match result with
          | .ref e n => Grol.E.refValue e n
          | r => pure r) (QOq P) := by
  cases result with
  | ret v kind =>
    simp only [ren]
    exact J.ite (fun _ => J.pure_bind (W.deref1 (err "unexpected control type outside of for loops") fun _ => trivial))
      (fun _ => J.pure_bind (W.deref1 v hc))
  | ref e n => exact J.pure_bind (W.deref1 (.ref e n) hc)
  | _ => all_goals exact J.pure_bind (J.pure fun h => ⟨rfl, hc h⟩)

theorem someOf {x y : M Obj} (h : W.J learnt x y (QOq P)) :
    W.J learnt (x >>= fun a => pure (some a)) (y >>= fun a => pure (some a)) (QOptq P) :=
  h.bind fun _ => J.pure fun h => ⟨rfl, fun v hv => by cases hv; exact h.2⟩

/-- the slicing part of `evalIndexRangeExpression` -/
theorem rangeBody (left : Obj) (l r : Int) (hcl : learnt → clean P left) :
    W.J learnt
      (match ren P.σ left with
      | .str x => pure (.str ((x.drop l.toNat).take (r - l).toNat))
      | .array els => pure (newArray ((els.drop l.toNat).take (r - l).toNat))
      | .map big kvs => do
        let __do_lift ← get
        pure (.map (big && decide ((r - l).toNat > __do_lift.cfg.maxSmallMap)) ((kvs.drop l.toNat).take (r - l).toNat))
      | .null => pure .null
      | _ => pure (err "range index operator not supported"))
      (match left with
      | .str x => pure (.str ((x.drop l.toNat).take (r - l).toNat))
      | .array els => pure (newArray ((els.drop l.toNat).take (r - l).toNat))
      | .map big kvs => do
        let __do_lift ← get
        pure (.map (big && decide ((r - l).toNat > __do_lift.cfg.maxSmallMap)) ((kvs.drop l.toNat).take (r - l).toNat))
      | .null => pure .null
      | _ => pure (err "range index operator not supported")) (QOq P) := by
  cases left with
  | array els =>
    refine J.pure fun h => ⟨?_, cleanL_take (cleanL_drop (clean_arr (hcl h)) _) _⟩
    simp only [newArray, ren, renL_take, renL_drop]
  | map big kvs =>
    simp only [ren]
    refine J.getCfg_bind fun s t hc _ => ?_
    rw [hc]
    refine J.pure fun h => ⟨?_, cleanP_take (cleanP_drop (clean_mp (hcl h)) _) _⟩
    simp only [ren, renP_take, renP_drop]
  | _ => all_goals exact .const _

/-! ### the mutual block -/

/-- the statement proved for every function of the mutual block, at a given fuel: on renamed clean arguments the
two runs simulate, with the renamed result, which is clean -/
structure Spec (fuel : Nat) : Prop where
  eval : ∀ {learnt : Prop} node, W.J learnt (eval fuel node) (eval fuel node) (QOq P)
  evalI : ∀ {learnt : Prop} node, W.J learnt (evalI fuel node) (evalI fuel node) (QOq P)
  evalStatements : ∀ {learnt : Prop} l res, (learnt → clean P res) →
    W.J learnt (evalStatements fuel l (ren P.σ res)) (evalStatements fuel l res) (QOq P)
  evalExpressions : ∀ {learnt : Prop} l acc, (learnt → cleanL P acc) →
    W.J learnt (evalExpressions fuel l (renL P.σ acc)) (evalExpressions fuel l acc) (QEx P)
  evalAssignment : ∀ {learnt : Prop} right op left, (learnt → clean P right) →
    W.J learnt (evalAssignment fuel (ren P.σ right) op left) (evalAssignment fuel right op left) (QOq P)
  evalIf : ∀ {learnt : Prop} c cons alt, W.J learnt (evalIf fuel c cons alt) (evalIf fuel c cons alt) (QOq P)
  evalFor : ∀ {learnt : Prop} c body, W.J learnt (evalFor fuel c body) (evalFor fuel c body) (QOq P)
  evalForLoop : ∀ {learnt : Prop} c body last, (learnt → clean P last) →
    W.J learnt (evalForLoop fuel c body (ren P.σ last)) (evalForLoop fuel c body last) (QOq P)
  evalForSpecialForms : ∀ {learnt : Prop} c body,
    W.J learnt (evalForSpecialForms fuel c body) (evalForSpecialForms fuel c body) (QOptq P)
  evalForInteger : ∀ {learnt : Prop} body i endV name last, (learnt → clean P last) →
    W.J learnt (evalForInteger fuel body i endV name (ren P.σ last)) (evalForInteger fuel body i endV name last) (QOq P)
  evalForList : ∀ {learnt : Prop} body list name last, (learnt → clean P list) → (learnt → clean P last) →
    W.J learnt (evalForList fuel body (ren P.σ list) name (ren P.σ last)) (evalForList fuel body list name last) (QOq P)
  evalBuiltin : ∀ {learnt : Prop} tk ps, W.J learnt (evalBuiltin fuel tk ps) (evalBuiltin fuel tk ps) (QOq P)
  evalPrint : ∀ {learnt : Prop} tk ps first buf,
    W.J learnt (evalPrint fuel tk ps first buf) (evalPrint fuel tk ps first buf) (QOq P)
  evalDelete : ∀ {learnt : Prop} node, W.J learnt (evalDelete fuel node) (evalDelete fuel node) (QOq P)
  evalIndexExpression : ∀ {learnt : Prop} left tok i, (learnt → clean P left) →
    W.J learnt (evalIndexExpression fuel (ren P.σ left) tok i) (evalIndexExpression fuel left tok i) (QOq P)
  evalIndexRange : ∀ {learnt : Prop} left li ri, (learnt → clean P left) →
    W.J learnt (evalIndexRange fuel (ren P.σ left) li ri) (evalIndexRange fuel left li ri) (QOq P)
  evalMapLiteral : ∀ {learnt : Prop} ks vs big acc, (learnt → cleanP P acc) →
    W.J learnt (evalMapLiteral fuel ks vs big (renP P.σ acc)) (evalMapLiteral fuel ks vs big acc) (QOq P)
  applyExtension : ∀ {learnt : Prop} name args,
    W.J learnt (applyExtension fuel name (renL P.σ args)) (applyExtension fuel name args) (QOq P)
  applyFunction : ∀ {learnt : Prop} fn args, (learnt → cleanL P args) →
    W.J learnt (applyFunction fuel (ren P.σ fn) (renL P.σ args)) (applyFunction fuel fn args) (QOq P)

/-- without fuel every function of the block stops -/
theorem Spec.zero : W.Spec 0 := by
  constructor <;> intros <;> exact J.stop

variable {W} {fuel : Nat} (ih : W.Spec fuel)
include ih

theorem eval_step (node : Node) : W.J learnt (eval (fuel + 1) node) (eval (fuel + 1) node) (QOq P) := by
  refine .of ((allTr (fuel + 1)).eval node) fun s t hR => ?_
  unfold Grol.E.eval
  refine W.read (runM_get s) (runM_get t) ?_
  dsimp only
  rw [W.depth hR, W.cfg hR]
  refine W.cond (fun _ => J.stop_bind.run hR) (fun _ => W.put rfl ?_)
  refine J.run (J.bind (ih.evalI node) fun result => ?_) (W.cfg hR ▸ W.withDepth hR (t.depth + 1))
  exact J.modify_bind (fun _ => rfl) (fun s1 t1 hR1 => by rw [W.depth hR1]; exact W.withDepth hR1 _)
    (W.evalTail result fun h => h.2)

theorem evalI_step (node : Node) : W.J learnt (evalI (fuel + 1) node) (evalI (fuel + 1) node) (QOq P) := by
  refine .of ((allTr (fuel + 1)).evalI node) fun s t hR => ?_
  unfold Grol.E.evalI
  refine W.read (runM_get s) (runM_get t) ?_
  extract_lets jp
  have hjp : W.J True (jp ()) (jp ()) (QOq P) := by
    unfold jp
    split
    · exact ih.evalStatements _ .null fun _ => trivial
    · exact ih.evalIf _ _ _
    · exact ih.evalFor _ _
    · exact W.evalIdentifier _
    · -- prefix
      refine J.ite (fun _ => W.evalPrefixIncrDecr _ _) (fun _ => ?_)
      refine J.bind (ih.eval _) fun r => ?_
      rw [ren_isError, evalPrefixOp_ren]
      exact J.ite (fun _ => J.pure fun h => ⟨rfl, h.2⟩) (fun _ => J.pure fun h => ⟨rfl, clean_evalPrefixOp _ h.2⟩)
    · exact W.evalPostfix _ _
    · -- infix
      next op l r =>
      refine J.ite (fun _ => ?_) (fun _ => ?_)
      · exact J.bind (ih.eval _) fun right => ih.evalAssignment _ _ _ fun h => h.2
      · refine J.bind (ih.eval _) fun left => ?_
        rw [ren_isError]
        refine J.ite (fun _ => J.pure fun h => ⟨rfl, h.2⟩) (fun _ => ?_)
        -- the join points of the tail are shared: each is walked once
        extract_lets a1 a2 a3 a4 a5 a6
        have h1 : ∀ u, W.J (True ∧ clean P left) (a1 u) (a4 u) (QOq P) := by
          intro u
          unfold a1 a4
          refine J.bind (ih.eval _) fun right => ?_
          rw [ren_isError]
          refine J.ite (fun _ => J.pure fun h => ⟨rfl, h.2⟩) (fun _ => ?_)
          dsimp only
          cases left with
          | array els =>
            simp only [ren, renL_length]
            refine J.getCfg_bind fun s t hc _ => ?_
            rw [hc]
            refine (W.noteHazard _ _ _).seq ?_
            have := W.evalInfixOp (learnt := (True ∧ clean P (.array els)) ∧ clean P right) op (.array els) right
              (fun h => h.1.2) (fun h => h.2)
            simp only [ren] at this
            exact this
          | _ => all_goals exact W.evalInfixOp op _ right (fun h => h.1.2) (fun h => h.2)
        have h2 : ∀ u, W.J (True ∧ clean P left) (a2 u) (a5 u) (QOq P) := by
          intro u
          unfold a2 a5
          refine J.ite (fun _ => ?_) (fun _ => h1 ())
          cases left with
          | str x =>
            simp only [ren]
            exact J.ite (fun _ => J.stop_bind) (fun _ => h1 ())
          | _ => all_goals exact h1 ()
        have h3 : ∀ u, W.J (True ∧ clean P left) (a3 u) (a6 u) (QOq P) := by
          intro u
          unfold a3 a6
          refine J.ite (fun _ => ?_) (fun _ => h2 ())
          cases left with
          | bool b => cases b <;> first | exact .const _ | exact h2 ()
          | _ => all_goals exact h2 ()
        refine J.ite (fun _ => ?_) (fun _ => h3 ())
        cases left with
        | bool b => cases b <;> first | exact .const _ | exact h3 ()
        | _ => all_goals exact h3 ()
    · exact .const _
    · exact .const _
    · exact .const _
    · exact .const _
    · exact .const _
    · -- return
      split
      · exact .const _
      · exact J.bind (ih.evalI _) fun v => J.pure fun h => ⟨rfl, h.2⟩
    · exact ih.evalBuiltin _ _
    · -- function literal
      next name params variadic lambda key body =>
      refine W.curEnv_bind fun e => ?_
      dsimp only
      cases name with
      | some n =>
        dsimp only
        refine J.bind (W.envSet' e n _ (fun h => h.2) fun _ => by trivial) fun oerr => ?_
        rw [ren_isError]
        exact J.ite (fun _ => J.pure fun h => ⟨rfl, h.2⟩) (fun _ => J.pure fun _ => ⟨rfl, trivial⟩)
      | none => exact J.pure fun _ => ⟨rfl, trivial⟩
    · -- call
      refine J.bind (ih.eval _) fun f => ?_
      rw [ren_isError]
      refine J.ite (fun _ => J.pure fun h => ⟨rfl, h.2⟩) (fun _ => ?_)
      refine J.bind (ih.evalExpressions _ [] fun _ => trivial) fun r => ?_
      cases r with
      | error e => exact J.pure fun h => ⟨rfl, h.2.2 e rfl⟩
      | ok argv =>
        simp only [renEx]
        cases f with
        | ext name => exact ih.applyExtension _ _
        | _ => all_goals exact ih.applyFunction _ _ fun h => h.2.1 argv rfl
    · -- array literal
      refine J.bind (ih.evalExpressions _ [] fun _ => trivial) fun r => ?_
      cases r with
      | error e => exact J.pure fun h => ⟨rfl, h.2.2 e rfl⟩
      | ok v =>
        simp only [renEx]
        exact J.bind (W.derefList v fun h => h.2.1 v rfl) fun vs => J.pure fun h => ⟨rfl, h.2⟩
    · -- map literal
      refine J.getCfg_bind fun s t hc _ => ?_
      rw [hc]
      exact ih.evalMapLiteral _ _ _ [] fun _ => trivial
    · -- index
      extract_lets jp1
      have h1 : ∀ u, W.J True (jp1 u) (jp1 u) (QOq P) := by
        intro u
        unfold jp1
        exact J.bind (ih.eval _) fun left => ih.evalIndexExpression _ _ _ fun h => h.2
      refine J.ite (fun _ => ?_) (fun _ => h1 ())
      refine J.getCfg_bind fun s t _ hx => ?_
      rw [hx]
      exact J.ite (fun _ => J.stop_bind) (fun _ => h1 ())
    · exact .const _
    · exact .const _
    · exact J.stop
  rw [W.cfg hR, W.steps hR]
  have hR' : W.R { s with steps := t.steps + 1, cfg := t.cfg } { t with steps := t.steps + 1 } :=
    W.cfg hR ▸ W.withSteps hR (t.steps + 1)
  refine W.put rfl ?_
  split
  · exact W.cond (fun _ => W.val hR' ⟨rfl, trivial⟩) (fun _ => hjp.run hR')
  · exact hjp.run hR'

theorem evalStatements_step (l : List Node) (res : Obj) (hc : learnt → clean P res) :
    W.J learnt (evalStatements (fuel + 1) l (ren P.σ res)) (evalStatements (fuel + 1) l res) (QOq P) := by
  cases l with
  | nil =>
    unfold Grol.E.evalStatements
    exact J.pure fun h => ⟨rfl, hc h⟩
  | cons stmt rest =>
    unfold Grol.E.evalStatements
    try dsimp only
    split
    · exact ih.evalStatements _ _ hc
    · refine J.bind (ih.evalI _) fun r => ?_
      cases r with
      | ret v k => exact J.pure fun h => ⟨rfl, h.2⟩
      | error m => exact J.pure fun h => ⟨rfl, h.2⟩
      | _ => all_goals exact ih.evalStatements _ _ fun h => h.2

theorem evalExpressions_step (l : List Node) (acc : List Obj) (hc : learnt → cleanL P acc) :
    W.J learnt (evalExpressions (fuel + 1) l (renL P.σ acc)) (evalExpressions (fuel + 1) l acc) (QEx P) := by
  cases l with
  | nil =>
    unfold Grol.E.evalExpressions
    refine J.pure fun h => ⟨?_, fun l h' => ?_, fun e h' => (by cases h')⟩
    · simp only [renEx, renL_eq, List.map_reverse]
    · cases h'
      have := hc h
      rw [cleanL_iff] at *
      exact fun x hx => this x (List.mem_reverse.1 hx)
  | cons e rest =>
    unfold Grol.E.evalExpressions
    refine J.bind (ih.evalI _) fun v => ?_
    rw [ren_isError]
    refine J.ite (fun _ => J.pure fun h => ⟨rfl, fun l h' => (by cases h'), fun e h' => (by cases h'; exact h.2)⟩)
      (fun _ => ?_)
    have := ih.evalExpressions (learnt := learnt ∧ clean P v) rest (v :: acc) fun h => ⟨h.2, hc h.1⟩
    simp only [renL] at this
    exact this

theorem evalAssignment_step (right : Obj) (op : String) (left : Node) (hcr : learnt → clean P right) :
    W.J learnt (evalAssignment (fuel + 1) (ren P.σ right) op left) (evalAssignment (fuel + 1) right op left) (QOq P) := by
  have herr : ∀ m, W.J learnt (pure (Obj.error m) : M Obj) (pure (Obj.error m)) (QOq P) :=
    fun _ => .const _
  unfold Grol.E.evalAssignment
  rw [ren_isError]
  refine J.ite (fun _ => J.pure fun h => ⟨rfl, hcr h⟩) (fun _ => ?_)
  split
  · split
    · exact W.evalIndexAssignment _ (.str _) right (fun _ => trivial) hcr
    · exact herr _
  · split
    · refine J.bind (ih.eval _) fun index => ?_
      exact W.evalIndexAssignment _ index right (fun h => h.2) fun h => hcr h.1
    · exact herr _
  · split
    · exact W.curEnv_bind fun e => W.createOrSet e _ right _ (fun h => h.2) fun h => hcr h.1
    · exact herr _
  · exact herr _

theorem evalIf_step (c cons alt : Node) :
    W.J learnt (evalIf (fuel + 1) c cons alt) (evalIf (fuel + 1) c cons alt) (QOq P) := by
  unfold Grol.E.evalIf
  refine J.bind (ih.evalI _) fun cv => ?_
  refine J.bind (W.valueOf cv fun h => h.2) fun condition => ?_
  cases condition with
  | bool b =>
    cases b with
    | true => exact ih.evalI _
    | false =>
      simp only [ren]
      split
      · exact .const _
      · exact ih.evalI _
  | _ => all_goals exact .const _

theorem evalFor_step (c body : Node) : W.J learnt (evalFor (fuel + 1) c body) (evalFor (fuel + 1) c body) (QOq P) := by
  unfold Grol.E.evalFor
  refine J.bind (ih.evalForSpecialForms _ _) fun r => ?_
  cases r with
  | some v => exact J.pure fun h => ⟨rfl, h.2 v rfl⟩
  | none => exact ih.evalForLoop _ _ .null fun _ => trivial

theorem evalForLoop_step (c body : Node) (last : Obj) (hcl : learnt → clean P last) :
    W.J learnt (evalForLoop (fuel + 1) c body (ren P.σ last)) (evalForLoop (fuel + 1) c body last) (QOq P) := by
  unfold Grol.E.evalForLoop
  refine J.bind (ih.evalI _) fun cv => ?_
  refine J.bind (W.valueOf cv fun h => h.2) fun condition => ?_
  cases condition with
  | bool b =>
    cases b with
    | true =>
      simp only [ren]
      refine J.bind (ih.evalI _) fun r => ?_
      cases r with
      | error m => exact .const _
      | ret v kind =>
        simp only [ren]
        refine J.ite (fun _ => J.pure fun h => ⟨rfl, hcl h.1.1.1⟩) (fun _ => ?_)
        exact J.ite (fun _ => ih.evalForLoop _ _ _ fun h => hcl h.1.1.1) (fun _ => J.pure fun h => ⟨rfl, h.2⟩)
      | _ => all_goals exact ih.evalForLoop _ _ _ fun h => h.2
    | false => exact J.pure fun h => ⟨rfl, hcl h.1.1⟩
  | null => exact J.pure fun h => ⟨rfl, hcl h.1.1⟩
  | error m => exact J.pure fun h => ⟨rfl, h.2.2⟩
  | int n => exact ih.evalForInteger _ _ _ _ .null fun _ => trivial
  | _ => all_goals exact .const _

theorem evalForSpecialForms_step (c body : Node) :
    W.J learnt (evalForSpecialForms (fuel + 1) c body) (evalForSpecialForms (fuel + 1) c body) (QOptq P) := by
  have forInt : ∀ {learnt : Prop} i e name, W.J learnt (evalForInteger fuel body i e name (ren P.σ .null))
      (evalForInteger fuel body i e name .null) (QOq P) :=
    fun _ _ _ => ih.evalForInteger _ _ _ _ .null fun _ => trivial
  have forList : ∀ {learnt : Prop} (l : Obj) name, (learnt → clean P l) →
      W.J learnt (evalForList fuel body (ren P.σ l) name (ren P.σ .null)) (evalForList fuel body l name .null) (QOq P) :=
    fun _ _ hl => ih.evalForList _ _ _ .null hl fun _ => trivial
  unfold Grol.E.evalForSpecialForms
  split
  · next op l r =>
    refine J.ite (fun _ => (J.pure fun _ => by qopt)) (fun _ => ?_)
    split
    · next name =>
      split
      · next rl rr =>
        refine J.bind (ih.evalI _) fun start0 => ?_
        refine J.bind (W.valueOf start0 fun h => h.2) fun start => ?_
        rw [int64Value_ren]
        cases int64Value start with
        | none => exact J.pure fun _ => by qopt
        | some sv =>
          dsimp only
          refine J.bind (ih.evalI _) fun end0 => ?_
          refine J.bind (W.valueOf end0 fun h => h.2) fun endV => ?_
          rw [int64Value_ren]
          cases int64Value endV with
          | none => exact J.pure fun _ => by qopt
          | some ev => exact W.someOf (forInt _ _ _)
      · refine J.bind (ih.evalI _) fun v0 => ?_
        refine J.bind (W.valueOf v0 fun h => h.2) fun v => ?_
        cases v with
        | int n => exact W.someOf (forInt _ _ _)
        | error m => exact J.pure fun _ => by qopt
        | array els => exact W.someOf (forList (.array els) _ fun h => h.2.2)
        | map b kvs => exact W.someOf (forList (.map b kvs) _ fun h => h.2.2)
        | str x => exact W.someOf (forList (.str x) _ fun _ => trivial)
        | _ => all_goals exact J.pure fun _ => by qopt
    · exact J.pure fun _ => by qopt
  · exact J.pure fun _ => by qopt

theorem evalForInteger_step (body : Node) (i endV : Int) (name : String) (last : Obj) (hcl : learnt → clean P last) :
    W.J learnt (evalForInteger (fuel + 1) body i endV name (ren P.σ last))
      (evalForInteger (fuel + 1) body i endV name last) (QOq P) := by
  unfold Grol.E.evalForInteger
  refine J.ite (fun _ => .const _) (fun _ => ?_)
  refine J.ite (fun _ => J.pure fun h => ⟨rfl, hcl h⟩) (fun _ => ?_)
  extract_lets jpS jpT
  have hjp : ∀ {learnt : Prop} u, (learnt → clean P last) → W.J learnt (jpS u) (jpT u) (QOq P) := by
    intro learnt u hcl
    unfold jpS jpT
    refine J.bind (ih.evalI _) fun r => ?_
    cases r with
    | error m => exact .const _
    | ret v kind =>
      simp only [ren]
      refine J.ite (fun _ => J.pure fun h => ⟨rfl, hcl h.1⟩) (fun _ => ?_)
      refine J.ite (fun _ => ih.evalForInteger _ _ _ _ _ fun h => hcl h.1) (fun _ => ?_)
      exact J.ite (fun _ => J.pure fun h => ⟨rfl, h.2⟩) (fun _ => .const _)
    | _ => all_goals exact ih.evalForInteger _ _ _ _ _ fun h => h.2
  refine J.ite (fun _ => ?_) (fun _ => hjp () hcl)
  refine W.curEnv_bind fun e => J.bind (W.envSet' e name _ (fun h => h.2) fun _ => by trivial) fun oerr => ?_
  rw [ren_isError]
  exact J.ite (fun _ => J.pure fun h => ⟨rfl, h.2⟩) (fun _ => hjp () fun h => hcl h.1.1)

theorem evalForList_step (body : Node) (list : Obj) (name : String) (last : Obj)
    (hcli : learnt → clean P list) (hcl : learnt → clean P last) :
    W.J learnt (evalForList (fuel + 1) body (ren P.σ list) name (ren P.σ last))
      (evalForList (fuel + 1) body list name last) (QOq P) := by
  unfold Grol.E.evalForList
  rw [objLen_ren]
  refine J.ite (fun _ => J.pure fun h => ⟨rfl, hcl h⟩) (fun _ => ?_)
  refine J.bind (W.objFirst list hcli) fun v => ?_
  refine J.bind (W.objRest list fun h => hcli h.1) fun rest => ?_
  refine W.curEnv_bind fun e => J.bind (W.envSet e name v (fun h => h.2) fun h => h.1.1.2) fun oerr => ?_
  rw [ren_isError]
  refine J.ite (fun _ => J.pure fun h => ⟨rfl, h.2⟩) (fun _ => ?_)
  refine J.bind (ih.evalI _) fun r => ?_
  cases r with
  | error m => exact .const _
  | ret v' kind =>
    simp only [ren]
    refine J.ite (fun _ => J.pure fun h => ⟨rfl, hcl h.1.1.1.1.1⟩) (fun _ => ?_)
    refine J.ite (fun _ => ih.evalForList _ _ _ _ (fun h => h.1.1.1.2) fun h => hcl h.1.1.1.1.1) (fun _ => ?_)
    exact J.ite (fun _ => J.pure fun h => ⟨rfl, h.2⟩) (fun _ => .const _)
  | _ => all_goals exact ih.evalForList _ _ _ _ (fun h => h.1.1.1.2) fun h => h.2

theorem evalBuiltin_step (tk : String) (ps : List Node) :
    W.J learnt (evalBuiltin (fuel + 1) tk ps) (evalBuiltin (fuel + 1) tk ps) (QOq P) := by
  unfold Grol.E.evalBuiltin
  split
  next minV varArg _ =>
  refine J.ite (fun _ => .const _) (fun _ => ?_)
  extract_lets jp2 jp1
  have h2 : W.J learnt (jp2 ()) (jp2 ()) (QOq P) := by
    unfold jp2
    refine J.bind (ih.evalI _) fun val0 => ?_
    refine J.bind (W.valueOf val0 fun h => h.2) fun val => ?_
    rw [ren_isError]
    refine J.ite (fun _ => J.pure fun h => ⟨rfl, h.2.2⟩) (fun _ => ?_)
    split
    · cases val with
      | error m =>
        simp only [ren]
        refine W.curEnv_bind fun e => (W.triggerNoCache e).seq ?_
        exact J.pure fun _ => ⟨rfl, ⟨trivial, trivial, trivial, trivial, trivial⟩⟩
      | _ => all_goals exact J.pure fun h => ⟨rfl, trivial, trivial, trivial, h.2.2, trivial⟩
    · exact J.bind (W.valueOf val fun h => h.2.2) fun v => W.objFirst v fun h => h.2.2
    · exact J.bind (W.valueOf val fun h => h.2.2) fun v => W.objRest v fun h => h.2.2
    · refine J.bind (W.valueOf val fun h => h.2.2) fun v => ?_
      dsimp only
      rw [objLen_ren]
      exact J.ite (fun _ => .const _) (fun _ => .const _)
    · exact .const _
  have h1 : W.J learnt (jp1 ()) (jp1 ()) (QOq P) := by
    unfold jp1
    refine J.ite (fun _ => ih.evalDelete _) (fun _ => ?_)
    refine J.ite (fun _ => ih.evalPrint _ _ _ _) (fun _ => ?_)
    exact J.ite (fun _ => J.stop_bind) (fun _ => h2)
  exact J.ite (fun _ => J.stop_bind) (fun _ => h1)

theorem evalPrint_step (tk : String) (ps : List Node) (first : Bool) (buf : List UInt8) :
    W.J learnt (evalPrint (fuel + 1) tk ps first buf) (evalPrint (fuel + 1) tk ps first buf) (QOq P) := by
  cases ps with
  | nil =>
    unfold Grol.E.evalPrint
    dsimp only
    refine J.ite (fun _ => ?_) (fun _ => (W.writeOut _).seq (.const _))
    split
    · exact .const _
    · exact J.stop_bind
  | cons p rest =>
    unfold Grol.E.evalPrint
    dsimp only
    refine J.bind (ih.evalI _) fun r => ?_
    rw [ren_isError]
    refine J.ite (fun _ => J.pure fun h => ⟨rfl, h.2⟩) (fun _ => ?_)
    refine J.bind (W.valueOf r fun h => h.2) fun r' => ?_
    have hins := inspect_ren P.σ r'
    cases r' with
    | str x => exact J.pure_bind (ih.evalPrint _ _ _ _)
    | _ =>
      all_goals
        try simp only [ren] at hins
        try simp only [ren]
        try rw [hins]
        exact J.bind_eq (J.liftR_same _) fun piece => ih.evalPrint _ _ _ _

theorem evalIndexExpression_step (left : Obj) (tok : String) (i : Node) (hcl : learnt → clean P left) :
    W.J learnt (evalIndexExpression (fuel + 1) (ren P.σ left) tok i) (evalIndexExpression (fuel + 1) left tok i)
      (QOq P) := by
  unfold Grol.E.evalIndexExpression
  rw [ren_isError]
  refine J.ite (fun _ => J.pure fun h => ⟨rfl, hcl h⟩) (fun _ => ?_)
  refine J.ite (fun _ => ?_) (fun _ => ?_)
  · exact J.ite (fun _ => .const _) (fun _ => W.indexIdx left (.str _) hcl)
  · split
    · exact ih.evalIndexRange _ _ _ hcl
    · refine J.bind (ih.eval _) fun index => ?_
      rw [ren_isError]
      exact J.ite (fun _ => J.pure fun h => ⟨rfl, h.2⟩) (fun _ => W.indexIdx left index fun h => hcl h.1)

theorem evalIndexRange_step (left : Obj) (li ri : Node) (hcl : learnt → clean P left) :
    W.J learnt (evalIndexRange (fuel + 1) (ren P.σ left) li ri) (evalIndexRange (fuel + 1) left li ri) (QOq P) := by
  unfold Grol.E.evalIndexRange
  refine J.bind (ih.eval _) fun leftIndex => ?_
  rw [objLen_ren, int64Value_ren]
  extract_lets nilRight num jpS jpT
  have hjp : ∀ rv : Obj, W.J (learnt ∧ clean P leftIndex) (jpS (ren P.σ rv)) (jpT rv) (QOq P) := by
    intro rv
    unfold jpS jpT
    rw [int64Value_ren]
    split
    · dsimp only
      exact J.ite (fun _ => .const _) (fun _ => W.rangeBody left _ _ fun h => hcl h.1)
    · exact .const _
  refine J.ite (fun _ => J.pure_bind (hjp .null)) (fun _ => ?_)
  exact J.bind (ih.eval _) fun rv => (hjp rv).weaken fun h => h.1

theorem evalMapLiteral_step (ks vs : List Node) (big : Bool) (acc : List (Obj × Obj)) (hcacc : learnt → cleanP P acc) :
    W.J learnt (evalMapLiteral (fuel + 1) ks vs big (renP P.σ acc)) (evalMapLiteral (fuel + 1) ks vs big acc) (QOq P) := by
  have hdone : W.J learnt (pure (Obj.map big (renP P.σ acc)) : M Obj) (pure (Obj.map big acc)) (QOq P) :=
    J.pure fun h => ⟨rfl, hcacc h⟩
  cases ks with
  | nil => unfold Grol.E.evalMapLiteral; exact hdone
  | cons k ks =>
    cases vs with
    | nil => unfold Grol.E.evalMapLiteral; exact hdone
    | cons v vs =>
      unfold Grol.E.evalMapLiteral
      refine J.bind (ih.eval _) fun key0 => ?_
      refine J.bind (W.valueOf key0 fun h => h.2) fun key => ?_
      rw [ren_isError]
      refine J.ite (fun _ => J.pure fun h => ⟨rfl, h.2.2⟩) (fun _ => ?_)
      refine J.bind_eq (W.equalsM key key (fun h => h.2.2) fun h => h.2.2) fun eq => ?_
      refine J.ite (fun _ => .const _) (fun _ => ?_)
      refine J.bind (ih.eval _) fun value0 => ?_
      refine J.bind (W.valueOf value0 fun h => h.2) fun value => ?_
      rw [ren_isError]
      refine J.ite (fun _ => J.pure fun h => ⟨rfl, h.2.2⟩) (fun _ => ?_)
      refine J.getCfg_bind fun s t hc _ => ?_
      rw [hc, mapSet_ren]
      refine J.bind (φ := fun p => (p.1, renP P.σ p.2)) (K := fun p => cleanP P p.2)
        (J.liftR fun h b hb => ⟨rfl, mapSet_clean (hcacc h.1.1.1.1) h.1.1.2.2 h.2.2 hb⟩) fun p => ?_
      exact ih.evalMapLiteral _ _ _ _ fun h => h.2

omit ih in
theorem applyExtension_step (name : String) (args : List Obj) :
    W.J learnt (applyExtension (fuel + 1) name (renL P.σ args)) (applyExtension (fuel + 1) name args) (QOq P) := by
  unfold Grol.E.applyExtension
  exact J.stop

/-- one more unit of fuel, given the two functions each simulation treats in its own way -/
theorem Spec.succ
    (hdel : ∀ {learnt : Prop} node,
      W.J learnt (Grol.E.evalDelete (fuel + 1) node) (Grol.E.evalDelete (fuel + 1) node) (QOq P))
    (happ : ∀ {learnt : Prop} fn args, (learnt → cleanL P args) →
      W.J learnt (Grol.E.applyFunction (fuel + 1) (ren P.σ fn) (renL P.σ args)) (Grol.E.applyFunction (fuel + 1) fn args)
        (QOq P)) :
    W.Spec (fuel + 1) where
  eval := eval_step ih
  evalI := evalI_step ih
  evalStatements := evalStatements_step ih
  evalExpressions := evalExpressions_step ih
  evalAssignment := evalAssignment_step ih
  evalIf := evalIf_step ih
  evalFor := evalFor_step ih
  evalForLoop := evalForLoop_step ih
  evalForSpecialForms := evalForSpecialForms_step ih
  evalForInteger := evalForInteger_step ih
  evalForList := evalForList_step ih
  evalBuiltin := evalBuiltin_step ih
  evalPrint := evalPrint_step ih
  evalDelete := hdel
  evalIndexExpression := evalIndexExpression_step ih
  evalIndexRange := evalIndexRange_step ih
  evalMapLiteral := evalMapLiteral_step ih
  applyExtension := applyExtension_step
  applyFunction := happ

end Walk

end Grol.R
