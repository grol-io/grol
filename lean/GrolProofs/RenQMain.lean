import GrolProofs.RenQHelpers
/-
C04, the quiet simulation: the mutually recursive tree walker in the quiet simulation, by induction on the fuel.  Inside
the body of the quiet call the simulation is a `Walk` (`simQWalk`); `evalDelete` cannot occur in a quiet run, and
`applyFunction` hands the role of the quiet frame to the callee's frame.
-/
namespace Grol.R
open Grol.E Calc

/-- the statement proved for every function of the mutual block, at a given fuel, inside the body of the quiet
call (`¬ P.pre`: the current frame is the quiet frame): from related states, on renamed clean arguments, if run T
ends normally without moving the counter of the quiet frame, run S ends normally, in a related state, with
the renamed result, which is clean -/
structure QSpec (fuel : Nat) : Prop where
  eval : ∀ P : Qp, ¬ P.pre → ∀ node s t, StRq P s t → SimQ P (eval fuel node) (eval fuel node) s t (QOq P)
  evalI : ∀ P : Qp, ¬ P.pre → ∀ node s t, StRq P s t → SimQ P (evalI fuel node) (evalI fuel node) s t (QOq P)
  evalStatements : ∀ P : Qp, ¬ P.pre → ∀ l res s t, StRq P s t → clean P res →
    SimQ P (evalStatements fuel l (ren P.σ res)) (evalStatements fuel l res) s t (QOq P)
  evalExpressions : ∀ P : Qp, ¬ P.pre → ∀ l acc s t, StRq P s t → cleanL P acc →
    SimQ P (evalExpressions fuel l (renL P.σ acc)) (evalExpressions fuel l acc) s t (QEx P)
  evalAssignment : ∀ P : Qp, ¬ P.pre → ∀ right op left s t, StRq P s t → clean P right →
    SimQ P (evalAssignment fuel (ren P.σ right) op left) (evalAssignment fuel right op left) s t (QOq P)
  evalIf : ∀ P : Qp, ¬ P.pre → ∀ c cons alt s t, StRq P s t →
    SimQ P (evalIf fuel c cons alt) (evalIf fuel c cons alt) s t (QOq P)
  evalFor : ∀ P : Qp, ¬ P.pre → ∀ c body s t, StRq P s t → SimQ P (evalFor fuel c body) (evalFor fuel c body) s t (QOq P)
  evalForLoop : ∀ P : Qp, ¬ P.pre → ∀ c body last s t, StRq P s t → clean P last →
    SimQ P (evalForLoop fuel c body (ren P.σ last)) (evalForLoop fuel c body last) s t (QOq P)
  evalForSpecialForms : ∀ P : Qp, ¬ P.pre → ∀ c body s t, StRq P s t →
    SimQ P (evalForSpecialForms fuel c body) (evalForSpecialForms fuel c body) s t (QOptq P)
  evalForInteger : ∀ P : Qp, ¬ P.pre → ∀ body i endV name last s t, StRq P s t → clean P last →
    SimQ P (evalForInteger fuel body i endV name (ren P.σ last)) (evalForInteger fuel body i endV name last) s t (QOq P)
  evalForList : ∀ P : Qp, ¬ P.pre → ∀ body list name last s t, StRq P s t → clean P list → clean P last →
    SimQ P (evalForList fuel body (ren P.σ list) name (ren P.σ last)) (evalForList fuel body list name last) s t (QOq P)
  evalBuiltin : ∀ P : Qp, ¬ P.pre → ∀ tk ps s t, StRq P s t →
    SimQ P (evalBuiltin fuel tk ps) (evalBuiltin fuel tk ps) s t (QOq P)
  evalPrint : ∀ P : Qp, ¬ P.pre → ∀ tk ps first buf s t, StRq P s t →
    SimQ P (evalPrint fuel tk ps first buf) (evalPrint fuel tk ps first buf) s t (QOq P)
  evalDelete : ∀ P : Qp, ¬ P.pre → ∀ node s t, StRq P s t →
    SimQ P (evalDelete fuel node) (evalDelete fuel node) s t (QOq P)
  evalIndexExpression : ∀ P : Qp, ¬ P.pre → ∀ left tok i s t, StRq P s t → clean P left →
    SimQ P (evalIndexExpression fuel (ren P.σ left) tok i) (evalIndexExpression fuel left tok i) s t (QOq P)
  evalIndexRange : ∀ P : Qp, ¬ P.pre → ∀ left li ri s t, StRq P s t → clean P left →
    SimQ P (evalIndexRange fuel (ren P.σ left) li ri) (evalIndexRange fuel left li ri) s t (QOq P)
  evalMapLiteral : ∀ P : Qp, ¬ P.pre → ∀ ks vs big acc s t, StRq P s t → cleanP P acc →
    SimQ P (evalMapLiteral fuel ks vs big (renP P.σ acc)) (evalMapLiteral fuel ks vs big acc) s t (QOq P)
  applyExtension : ∀ P : Qp, ¬ P.pre → ∀ name args s t, StRq P s t →
    SimQ P (applyExtension fuel name (renL P.σ args)) (applyExtension fuel name args) s t (QOq P)
  /-- also outside the body (`P.pre`): the call the theorem is about -/
  applyFunction : ∀ P : Qp, ∀ fn args s t, StRq P s t → cleanL P args →
    SimQ P (applyFunction fuel (ren P.σ fn) (renL P.σ args)) (applyFunction fuel fn args) s t (QOq P)

theorem SimQ.modify_bind {P : Qp} {f : Unit → M γ} {g : Unit → M δ} {s t : St}
    {ms mt : St → St} {Q' : γ → δ → Prop} (hf : (mt t).frames = t.frames) (h : SimQ P (f ()) (g ()) (ms s) (mt t) Q') :
    SimQ P (modify ms >>= f) (modify mt >>= g) s t Q' := SimG.modify_bind hf h

variable {P : Qp} {fuel : Nat}

/-- `del` moves the counter of the current frame first thing: not in a quiet run -/
theorem evalDelete_qstep (hp : ¬ P.pre) : ∀ node s t, StRq P s t →
    SimQ P (evalDelete (fuel + 1) node) (evalDelete (fuel + 1) node) s t (QOq P) := by
  intro node s t hR
  obtain ⟨hce, _⟩ := hR.curE hp
  refine SimQ.of_loud ?_
  intro b t' hy
  have h1 : outcome (evalDelete (fuel + 1) node) t = .ok b := by rw [outcome_eq, hy]
  have h2 := evalDelete_loud fuel node t b h1
  rw [stateAfter_eq, hy, hce] at h2
  exact Nat.ne_of_gt h2

/-- the end of a call whose callee frame's counter moved: the caller's counter moves -/
theorem finishCall_loud (f : FuncVal) (args : List Obj) (c before after : Nat) (cc : Bool) (res : Obj) (out : List UInt8)
    (h : (after != before) = true) : Loud c (finishCall f args c before after cc res out) := by
  unfold finishCall
  dsimp only
  refine Loud.ite (fun _ => Loud.bind_right trStep.writeOut (fun _ => ?_)) (fun _ => ?_) <;>
  · simp only [h, if_true]
    exact Loud.bind_left Loud.triggerNoCache (fun _ => tr_pure _)

theorem missOf_of_frame {t : St} {e : Nat} {f : Frame} (h : t.frames[e]? = some f) : missOf t e = f.getMiss := by
  unfold missOf; rw [h]

/-- a call: the cache is off, the arguments are bound in a new frame, the body runs with that frame as the quiet frame
(if its counter moves, so does the caller's: `finishCall_loud`) -/
theorem applyFunction_qstep
    (ih : ∀ P : Qp, ¬ P.pre → ∀ node s t, StRq P s t → SimQ P (eval fuel node) (eval fuel node) s t (QOq P)) :
    ∀ fn args s t, StRq P s t → cleanL P args →
    SimQ P (applyFunction (fuel + 1) (ren P.σ fn) (renL P.σ args)) (applyFunction (fuel + 1) fn args) s t (QOq P) := by
  intro fn args s t hR hca
  have hT := allTr fuel
  cases fn with
  | func f =>
    simp only [ren]
    unfold Grol.E.applyFunction
    dsimp only
    have hk : (renFn P.σ f).key = f.key := rfl
    have hb : (renFn P.σ f).body = f.body := rfl
    rw [hk, hb]
    refine qsim_curEnv_bind hR ?_
    refine qsim_getFrame_bind hR t.cur ?_
    intro cfs0 cft0 _ _ hcfr0
    try dsimp only
    rw [sameFunction_ren P.σ hcfr0.cacheKey hcfr0.function f, hcfr0.localFunc]
    have hoff : ∀ {st : St}, st.cfg.cacheOn = false → ∀ (c : Bool) (as : List Obj),
        runM (if c = true then pure none else cacheGet f.key as) st = (.ok none, st) := by
      intro st h c as
      split
      · exact runM_pure _ _
      · exact runM_cacheGet_off h _ _
    refine SimQ.bind_read (hoff (hR.cfg ▸ hR.off) _ _) (hoff hR.off _ _) ?_
    dsimp only
    refine SimQ.bind (qsim_extendFunctionEnv hR f args hca) ?_ trStep.extendFunctionEnv ?tail
    case tail =>
      intro r
      cases r with
      | error e => exact tr_pure _
      | ok nenv =>
        exact tr_bind trStep.curEnv fun _ => tr_bind (tr_modify fun _ => rfl) fun _ => tr_bind (hT.eval _) fun _ =>
          tr_bind trStep.getFrame fun _ => tr_get_set (by exact fun _ => rfl) fun _ => trStep.finishCall
    rintro _ r1 s2 t2 hR2 ⟨rfl, hn0, hcerr⟩
    cases r1 with
    | error e => exact SimQ.pure hR2 ⟨rfl, hcerr e rfl⟩
    | ok nenv =>
      have hnenv := hn0 nenv rfl
      simp only [renX]
      refine qsim_curEnv_bind hR2 ?_
      rw [hR2.curq]
      refine SimQ.modify_bind rfl ?_
      -- the body runs with the callee frame as the quiet frame
      have hR3 : StRq { P with e := nenv, pre := False } { s2 with cur := sh P.σ nenv, outs := [] :: s2.outs }
          { t2 with cur := nenv, outs := [] :: t2.outs } :=
        StRq.retarget (P' := { P with e := nenv, pre := False }) hR2 rfl rfl rfl rfl _ _ _ _ rfl (by rw [hR2.outs]) rfl
          (Or.inr hnenv)
      refine SimG.switch (e' := nenv) (R1 := StRq { P with e := nenv, pre := False })
        (ih { P with e := nenv, pre := False } (fun h => h) f.body _ _ hR3) ?hl ?hf (hT.eval _)
        (fun _ => tr_bind trStep.getFrame fun _ => tr_get_set (by exact fun _ => rfl) fun _ => trStep.finishCall)
      case hl =>
        intro res t4 hy4 hne
        have hmono : missOf { t2 with cur := nenv, outs := [] :: t2.outs } nenv ≤ missOf t4 nenv := by
          have := missOf_mono (hT.eval f.body) { t2 with cur := nenv, outs := [] :: t2.outs } nenv
          rw [hy4] at this; exact this
        cases hte1 : t4.frames[nenv]? with
        | none =>
          intro b t' hr
          rw [runM_bind, runM_getFrame_none hte1] at hr
          cases hr
        | some ft1 =>
          refine LoudAt.bind_read (runM_getFrame hte1) ?_
          refine LoudAt.bind_read (runM_get t4) ?_
          try dsimp only
          refine LoudAt.set_bind rfl ?_
          refine (finishCall_loud _ _ _ _ _ _ _ _ ?_).at _
          rw [missOf_of_frame hte1] at hne hmono
          simp only [bne_iff_ne, ne_eq]
          split <;> omega
      case hf =>
        rintro _ res s4 t4 hR4 ⟨rfl, hcres⟩
        cases hte1 : t4.frames[nenv]? with
        | none =>
          intro b t' hy _
          rw [runM_bind, runM_getFrame_none hte1] at hy
          cases hy
        | some ft1 =>
          obtain ⟨fs1, hfs1, hfr1⟩ := hR4.frames nenv ft1 hte1
          refine SimG.bind_read (runM_getFrame hfs1) (runM_getFrame hte1) ?_
          rw [(hfr1.missNew hnenv).1, (hfr1.missNew hnenv).2]
          refine SimG.bind_read (runM_get s4) (runM_get t4) ?_
          rw [hR4.outs]
          try dsimp only
          refine SimG.set_bind rfl ?_
          refine ((simQLeaves P).finishCall f args P.e _ _ _ res _ fun _ => hcres).run ?_
          exact StRq.retarget (P := { P with e := nenv, pre := False }) (P' := P) hR4 rfl rfl rfl rfl _ _ _ _ rfl rfl rfl hR2.enew
  | _ =>
    all_goals
      simp only [ren]
      unfold Grol.E.applyFunction
      exact SimQ.pure hR ⟨rfl, trivial⟩

theorem qWalk_all : ∀ fuel (P : Qp) (hp : ¬ P.pre), (simQWalk P hp).Spec fuel
  | 0, _, _ => .zero _
  | fuel + 1, P, hp =>
    (qWalk_all fuel P hp).succ (fun node => .of ((allTr _).evalDelete node) (evalDelete_qstep hp node))
      fun fn args hc => ⟨(allTr _).applyFunction _ _, fun h _ _ hR =>
        applyFunction_qstep (fun P' hp' node _ _ hR' => ((qWalk_all fuel P' hp').eval node).run hR') fn args _ _ hR (hc h)⟩

theorem applyFunction_q : ∀ fuel (P : Qp) fn args s t, StRq P s t → cleanL P args →
    SimQ P (applyFunction fuel (ren P.σ fn) (renL P.σ args)) (applyFunction fuel fn args) s t (QOq P)
  | 0, _, _, _, _, _, _, _ => SimQ.stop
  | fuel + 1, _, _, _, _, _, hR, hc =>
    applyFunction_qstep (fun P' hp' node _ _ hR' => ((qWalk_all fuel P' hp').eval node).run hR') _ _ _ _ hR hc

/-- every function of the tree walker, at every fuel -/
theorem qSpec_all (fuel : Nat) : QSpec fuel :=
  have S := qWalk_all fuel
  { eval := fun P hp node _ _ hR => ((S P hp).eval node).run hR
    evalI := fun P hp node _ _ hR => ((S P hp).evalI node).run hR
    evalStatements := fun P hp l res _ _ hR hc => ((S P hp).evalStatements l res fun _ => hc).run hR
    evalExpressions := fun P hp l acc _ _ hR hc => ((S P hp).evalExpressions l acc fun _ => hc).run hR
    evalAssignment := fun P hp r op l _ _ hR hc => ((S P hp).evalAssignment r op l fun _ => hc).run hR
    evalIf := fun P hp c cons alt _ _ hR => ((S P hp).evalIf c cons alt).run hR
    evalFor := fun P hp c body _ _ hR => ((S P hp).evalFor c body).run hR
    evalForLoop := fun P hp c body last _ _ hR hc => ((S P hp).evalForLoop c body last fun _ => hc).run hR
    evalForSpecialForms := fun P hp c body _ _ hR => ((S P hp).evalForSpecialForms c body).run hR
    evalForInteger := fun P hp body i e name last _ _ hR hc =>
      ((S P hp).evalForInteger body i e name last fun _ => hc).run hR
    evalForList := fun P hp body list name last _ _ hR hl hc =>
      ((S P hp).evalForList body list name last (fun _ => hl) fun _ => hc).run hR
    evalBuiltin := fun P hp tk ps _ _ hR => ((S P hp).evalBuiltin tk ps).run hR
    evalPrint := fun P hp tk ps first buf _ _ hR => ((S P hp).evalPrint tk ps first buf).run hR
    evalDelete := fun P hp node _ _ hR => ((S P hp).evalDelete node).run hR
    evalIndexExpression := fun P hp left tok i _ _ hR hc => ((S P hp).evalIndexExpression left tok i fun _ => hc).run hR
    evalIndexRange := fun P hp left li ri _ _ hR hc => ((S P hp).evalIndexRange left li ri fun _ => hc).run hR
    evalMapLiteral := fun P hp ks vs big acc _ _ hR hc => ((S P hp).evalMapLiteral ks vs big acc fun _ => hc).run hR
    applyExtension := fun P hp name args _ _ hR => ((S P hp).applyExtension name args).run hR
    applyFunction := applyFunction_q fuel }

end Grol.R
