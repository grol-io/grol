import Grol.Save
import GrolProofs.LexString
/-
C14 lemmas: the strconv.Quote / readString pair.  `quoteByte` is a function of one byte: what it
does is read off the 256 values once (`quoteByte_ok`).  From that, for every byte string whose bytes
are all below 0x80 the statement's string decoder `specString`, run on the quoted text, returns exactly
the string and stops just after the closing quote; the lexer model's `readString` is that decoder
(`readString_eq_spec`).
-/
namespace Grol.Save
open Grol.E Grol.Lexer Grol.LexSuite
open Grol.Wire (Bytes)

/-- the three shapes of `quoteByte b`, each with what makes the decoder give `b` back:
the byte itself, a two-byte escape, `\xHH` -/
def shapeOK (q : Bytes) (b : UInt8) : Bool :=
  match q with
  | [c] => c == b && c != 92 && c != 34 && c != 0
  | [c0, e] => c0 == 92 && e != 117 && e != 85 && e != 120 && escByte e == b
  | [c0, c1, h1, h2] => c0 == 92 && c1 == 120 && UInt8.ofNat (hexValue [h1, h2]) == b
  | _ => false

/-- `quoteByte` is defined exactly below 0x80; what it writes has one of the three shapes and holds
no newline byte -/
def quoteByteOK (b : UInt8) : Bool :=
  match quoteByte b with
  | some q => decide (b < 128) && shapeOK q b && q.all (· != 10)
  | none => decide (128 ≤ b)

theorem quoteByteOK_table : ∀ n, n < 256 → quoteByteOK (UInt8.ofNat n) = true := by decide +kernel

theorem quoteByte_ok (b : UInt8) : quoteByteOK b = true := by
  have := quoteByteOK_table b.toNat b.toNat_lt
  rwa [UInt8.ofNat_toNat] at this

theorem quoteByte_some {b : UInt8} {q : Bytes} (h : quoteByte b = some q) :
    b < 128 ∧ shapeOK q b = true ∧ q.all (· != 10) = true := by
  have := quoteByte_ok b
  simpa only [quoteByteOK, h, Bool.and_eq_true, decide_eq_true_eq, and_assoc] using this

theorem quoteByte_shape {b : UInt8} {q : Bytes} (h : quoteByte b = some q) : shapeOK q b = true :=
  (quoteByte_some h).2.1

theorem quoteByte_ascii {b : UInt8} (h : b < 128) : ∃ q, quoteByte b = some q := by
  have := quoteByte_ok b
  cases hq : quoteByte b with
  | some q => exact ⟨q, rfl⟩
  | none =>
    simp only [quoteByteOK, hq, decide_eq_true_eq] at this
    exact absurd h (UInt8.not_lt.mpr this)

theorem quoteBody_cons {b : UInt8} {rest out : Bytes} (h : quoteBody (b :: rest) = some out) :
    ∃ q r, quoteByte b = some q ∧ quoteBody rest = some r ∧ out = q ++ r := by
  unfold quoteBody at h
  split at h
  · rename_i q r hq hr
    exact ⟨q, r, hq, hr, (Option.some.inj h).symm⟩
  · cases h

/-- the decoder undoes one quoted byte -/
theorem specString_quoteByte {q : Bytes} {b : UInt8} (h : shapeOK q b = true) (fuel : Nat) (rest : Bytes) :
    specString true 34 (fuel + 1) (q ++ rest) = prepend [b] q.length (specString true 34 fuel rest) := by
  match q, h with
  | [c], h =>
    simp only [shapeOK, Bool.and_eq_true, beq_iff_eq, bne_iff_ne, ne_eq] at h
    obtain ⟨⟨⟨rfl, h92⟩, h34⟩, h0⟩ := h
    simp only [List.cons_append, List.nil_append, specString, Bool.true_and, beq_iff_eq, h92, h34, h0,
      ↓reduceIte, List.length_cons, List.length_nil]
  | [_, e], h =>
    simp only [shapeOK, Bool.and_eq_true, beq_iff_eq, bne_iff_ne, ne_eq] at h
    obtain ⟨⟨⟨⟨rfl, hu⟩, hU⟩, hx⟩, rfl⟩ := h
    simp only [List.cons_append, List.nil_append, specString, Bool.true_and, beq_iff_eq, hu, hU, hx,
      ↓reduceIte, List.length_cons, List.length_nil]
  | [_, _, h1, h2], h =>
    simp only [shapeOK, Bool.and_eq_true, beq_iff_eq] at h
    obtain ⟨⟨rfl, rfl⟩, rfl⟩ := h
    simp only [List.cons_append, List.nil_append, specString, hexEsc, Bool.true_and, beq_iff_eq,
      ↓reduceIte, List.length_cons, List.length_nil]
    rfl

/-- the decoder on `<quoted s>"<post>` returns `s` and has read up to and including the quote -/
theorem specString_quoted : ∀ (s body : Bytes), quoteBody s = some body →
    s.length ≤ body.length ∧ ∀ (post : Bytes) (fuel : Nat), s.length + 1 ≤ fuel →
      specString true 34 fuel (body ++ 34 :: post) = some (s, body.length + 1)
  | [], body, hb => by
    obtain rfl : [] = body := Option.some.inj hb
    refine ⟨Nat.le_refl _, fun post fuel hf => ?_⟩
    obtain ⟨f, rfl⟩ : ∃ f, fuel = f + 1 := ⟨fuel - 1, by omega⟩
    rfl
  | b :: rest, body, hb => by
    obtain ⟨q, r, hq, hr, rfl⟩ := quoteBody_cons hb
    have sh := quoteByte_shape hq
    obtain ⟨hlen, ih⟩ := specString_quoted rest r hr
    have hq1 : 1 ≤ q.length := by
      match q, sh with
      | _ :: _, _ => simp
    refine ⟨by simp only [List.length_cons, List.length_append]; omega, fun post fuel hf => ?_⟩
    obtain ⟨f, rfl⟩ : ∃ f, fuel = f + 1 := ⟨fuel - 1, by omega⟩
    rw [List.append_assoc, specString_quoteByte sh, ih post f (by simpa using hf)]
    simp only [prepend, List.singleton_append, List.length_append]
    rw [Nat.add_right_comm, Nat.add_comm r.length]

/-- the loop of `readString`, standing after an opening `"` on `<quoted s>"<post>` with the fuel `readString`
gives it, returns `s` and stops after the closing quote -/
theorem readLoop_quoted {s body : Bytes} (hb : quoteBody s = some body) (post : Bytes) (fuel : Nat) (st : State)
    (hf : st.input.size + 1 ≤ st.pos + fuel) (hrest : restL st.input st.pos = body ++ 34 :: post) :
    readStringLoop 34 true fuel st = (s, true, { st with pos := st.pos + (body.length + 1) }) := by
  obtain ⟨hlen, hspec⟩ := specString_quoted s body hb
  have ag := readStringLoop_agree 34 (by decide) true runeOK fuel st _ hf (Nat.le_refl _)
  rw [hrest, hspec post _ (by simp only [List.length_append, List.length_cons]; omega)] at ag
  exact ag

end Grol.Save
