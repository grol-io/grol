import GrolProofs.RegSim
import GrolProofs.EnvConst
/-
C05, simulation for statements: the invariant carried through the environment functions
(lean/Grol/Eval/Env.lean).

`Keep n st st'`: the step from `st` to `st'` changes neither the current scope nor the extension names, and in
EVERY frame the binding of `n` and the frame's own function stay what they were.  All code that does not call a
function writes bindings only under the name it was given (`m ≠ n`), or under the name a reference carries — and
a reference stored under a key always carries that key (`RefNames`): `makeRef` is the only producer of
references, and it stores `ref (o, name)` (or a copy of a reference found under `name`) under `name`.
So `RefNames` is the global invariant, `Keep n` the frame property, and `TriA n x Q` ("from every state with
`RefNames`: `RefNames` after, `Keep n`, and `Q` of a normal result") the statement proved for each function.
-/
namespace Grol.RegRewrite
open Grol.E

def RefNamesStore (s : List (String × Obj)) : Prop := ∀ k re rn, lookupStore s k = some (.ref re rn) → rn = k

def RefNames (st : St) : Prop := ∀ (e : Nat) (f : Frame), st.frames[e]? = some f → RefNamesStore f.store

def Keep (n : String) (st st' : St) : Prop :=
  st'.cur = st.cur ∧ st'.extNames = st.extNames ∧
  ∀ (e : Nat) (f : Frame), st.frames[e]? = some f →
    ∃ f' : Frame, st'.frames[e]? = some f' ∧ f'.function = f.function ∧ lookupStore f'.store n = lookupStore f.store n

theorem Keep.refl (n : String) (st : St) : Keep n st st := ⟨rfl, rfl, fun _ f h => ⟨f, h, rfl, rfl⟩⟩

theorem Keep.trans {n : String} {a b c : St} (h1 : Keep n a b) (h2 : Keep n b c) : Keep n a c := by
  refine ⟨h2.1.trans h1.1, h2.2.1.trans h1.2.1, fun e f hf => ?_⟩
  obtain ⟨f1, hf1, hfn1, hl1⟩ := h1.2.2 e f hf
  obtain ⟨f2, hf2, hfn2, hl2⟩ := h2.2.2 e f1 hf1
  exact ⟨f2, hf2, hfn2.trans hfn1, hl2.trans hl1⟩

theorem Keep.of_same {n : String} {st st' : St} (h : Same st st') : Keep n st st' :=
  ⟨h.2.1, h.2.2, fun _ f hf => ⟨f, by rw [h.1]; exact hf, rfl, rfl⟩⟩

theorem Keep.direct {n : String} {o : Obj} {st st' : St} (hk : Keep n st st') (h : Direct n o st) : Direct n o st' := by
  obtain ⟨h1, h2, h3, ⟨f, hf, hl, hfn⟩, h5⟩ := h
  obtain ⟨f', hf', hfn', hl'⟩ := hk.2.2 _ f hf
  refine ⟨by rw [hk.2.1]; exact h1, h2, h3, ⟨f', by rw [hk.1]; exact hf', by rw [hl']; exact hl, ?_⟩, h5⟩
  intro fn h; exact hfn fn (by rw [← hfn']; exact h)

def TriA (n : String) (x : M α) (Q : α → Prop) : Prop :=
  ∀ st, RefNames st → RefNames (run x st).2 ∧ Keep n st (run x st).2 ∧ ∀ a, (run x st).1 = .ok a → Q a

theorem TriA.weaken {n : String} {x : M α} {P Q : α → Prop} (h : TriA n x P) (hpq : ∀ a, P a → Q a) : TriA n x Q :=
  fun st hr => ⟨(h st hr).1, (h st hr).2.1, fun a ha => hpq a ((h st hr).2.2 a ha)⟩

theorem TriA.bind {n : String} {x : M α} {f : α → M β} {P : α → Prop} {Q : β → Prop}
    (hx : TriA n x P) (hf : ∀ a, P a → TriA n (f a) Q) : TriA n (x >>= f) Q := by
  intro st hr
  obtain ⟨h1, h2, h3⟩ := hx st hr
  rw [run_bind]
  match h : run x st with
  | (.ok a, s1) =>
    simp only
    rw [h] at h1 h2 h3
    obtain ⟨g1, g2, g3⟩ := hf a (h3 a rfl) s1 h1
    exact ⟨g1, h2.trans g2, g3⟩
  | (.error e, s1) =>
    simp only
    rw [h] at h1 h2
    exact ⟨h1, h2, fun a ha => by cases ha⟩

theorem TriA.pure {n : String} {Q : α → Prop} {a : α} (h : Q a) : TriA n (Pure.pure a : M α) Q :=
  fun st hr => ⟨hr, Keep.refl n st, fun b hb => by cases hb; exact h⟩

theorem TriA.stop {n : String} {Q : α → Prop} (e : Stop) : TriA n (stop e : M α) Q :=
  fun st hr => ⟨hr, Keep.refl n st, fun b hb => by cases hb⟩

theorem TriA.of_readOnly {n : String} {x : M α} (hx : ReadOnly x) : TriA n x (fun _ => True) :=
  fun st hr => ⟨by rw [hx st]; exact hr, by rw [hx st]; exact Keep.refl n st, fun _ _ => trivial⟩

theorem TriA.get {n : String} : TriA n (get : M St) (fun _ => True) := TriA.of_readOnly ReadOnly.get

/-- a state update that touches only outs / cache / steps / hazards / depth -/
theorem TriA.modify {n : String} {g : St → St} (hg : ∀ st, Same st (g st)) : TriA n (modify g : M Unit) (fun _ => True) := by
  intro st hr
  refine ⟨?_, Keep.of_same (hg st), fun _ _ => trivial⟩
  intro e f hf
  rw [run_modify] at hf
  exact hr e f (by rw [← (hg st).1]; exact hf)

theorem TriA.ite {n : String} {c : Prop} [Decidable c] {x y : M α} {Q : α → Prop} (hx : TriA n x Q) (hy : TriA n y Q) :
    TriA n (if c then x else y) Q := by
  split <;> assumption

theorem TriA.getFrame {n : String} (e : Nat) : TriA n (getFrame e) (fun f => RefNamesStore f.store) := by
  intro st hr
  rw [run_getFrame]
  cases h : st.frames[e]? with
  | none => exact ⟨hr, Keep.refl n st, fun a ha => by cases ha⟩
  | some f => exact ⟨hr, Keep.refl n st, fun a ha => by cases ha; exact hr e f h⟩

def GoodUpd (n : String) (f f' : Frame) : Prop :=
  f'.function = f.function ∧ lookupStore f'.store n = lookupStore f.store n ∧ RefNamesStore f'.store

theorem refNames_setFrame {st : St} {e : Nat} {f' : Frame} (hr : RefNames st) (h' : RefNamesStore f'.store) :
    RefNames { st with frames := st.frames.setIfInBounds e f' } := by
  intro e' f hf
  simp only [Array.getElem?_setIfInBounds] at hf
  split at hf
  · split at hf
    · cases hf; exact h'
    · cases hf
  · exact hr e' f hf

theorem keep_setFrame {n : String} {st : St} {e : Nat} {f f' : Frame} (he : st.frames[e]? = some f)
    (hfn : f'.function = f.function) (hl : lookupStore f'.store n = lookupStore f.store n) :
    Keep n st { st with frames := st.frames.setIfInBounds e f' } := by
  refine ⟨rfl, rfl, fun e' g hg => ?_⟩
  simp only [Array.getElem?_setIfInBounds]
  by_cases hee : e = e'
  · subst hee
    rw [he] at hg; cases hg
    have hlt : e < st.frames.size := by
      cases Nat.lt_or_ge e st.frames.size with
      | inl h => exact h
      | inr h => rw [Array.getElem?_eq_none h] at he; cases he
    simp [hlt, hfn, hl]
  · simp [hee, hg]

theorem TriA.modifyFrame {n : String} (e : Nat) {g : Frame → Frame}
    (hg : ∀ f, RefNamesStore f.store → GoodUpd n f (g f)) : TriA n (modifyFrame e g) (fun _ => True) := by
  intro st hr
  rw [run_modifyFrame]
  cases h : st.frames[e]? with
  | none => exact ⟨hr, Keep.refl n st, fun a ha => by cases ha⟩
  | some f =>
    obtain ⟨h1, h2, h3⟩ := hg f (hr e f h)
    exact ⟨refNames_setFrame hr h3, keep_setFrame h h1 h2, fun _ _ => trivial⟩

def NotRef (a : Obj) : Prop := ∀ e k, a ≠ .ref e k

theorem bind_ok_tail {x : M α} {f : α → M β} {st : St} {b : β} (h : (run (x >>= f) st).1 = .ok b) :
    ∃ a s, (run (f a) s).1 = .ok b :=
  let ⟨a, s, _, h'⟩ := run_bind_inv (Prod.ext h rfl)
  ⟨a, s, congrArg Prod.fst h'⟩

theorem valueOf_go_nonref (k : Nat) (o : Obj) (h : NotRef o) : valueOf.go k o = pure o := by
  cases k <;> cases o <;> first | rfl | exact absurd rfl (h _ _)

theorem valueOf_go_notRef : ∀ (k : Nat) (o : Obj) (st : St) (a : Obj), (run (valueOf.go k o) st).1 = .ok a → NotRef a := by
  intro k
  induction k with
  | zero =>
    intro o st a h
    by_cases ho : NotRef o
    · rw [valueOf_go_nonref 0 o ho] at h; cases h; exact ho
    · cases o with
      | ref e nm => cases h
      | _ => exact absurd (fun e k hh => by cases hh) ho
  | succ k ih =>
    intro o st a h
    by_cases ho : NotRef o
    · rw [valueOf_go_nonref _ o ho] at h; cases h; exact ho
    · cases o with
      | ref e nm =>
        unfold valueOf.go at h
        rw [run_bind] at h
        match hv : run (refValue e nm) st with
        | (.error err, s1) => rw [hv] at h; cases h
        | (.ok v, s1) =>
          rw [hv] at h; simp only at h
          split at h
          · obtain ⟨_, _, h⟩ := bind_ok_tail h
            obtain ⟨_, _, h⟩ := bind_ok_tail h
            split at h
            · obtain ⟨_, s3, h⟩ := bind_ok_tail h
              exact ih _ s3 a h
            · exact ih _ _ a h
          · exact ih v s1 a h
      | _ => exact absurd (fun e k hh => by cases hh) ho

theorem TriA.valueOf {n : String} (o : Obj) : TriA n (valueOf o) NotRef := by
  intro st hr
  have hro := readOnly_valueOf o st
  refine ⟨by rw [hro]; exact hr, by rw [hro]; exact Keep.refl n st, fun a ha => ?_⟩
  unfold E.valueOf at ha
  rw [run_bind, run_get] at ha
  exact valueOf_go_notRef _ o st a ha

theorem refNamesStore_setStore {s : List (String × Obj)} {m : String} {val : Obj} (hs : RefNamesStore s)
    (hv : ∀ re rn, val = .ref re rn → rn = m) : RefNamesStore (setStore s m val) := by
  intro k re rn h
  by_cases hk : k = m
  · subst hk; rw [lookupStore_setStore_eq] at h; cases h; exact hv re rn rfl
  · rw [lookupStore_setStore_ne _ _ _ _ hk] at h; exact hs k re rn h

theorem refNamesStore_delStore {s : List (String × Obj)} {m : String} (hs : RefNamesStore s) : RefNamesStore (delStore s m) := by
  intro k re rn h
  by_cases hk : k = m
  · subst hk; rw [lookupStore_delStore_self] at h; cases h
  · rw [lookupStore_delStore_ne _ _ _ hk] at h; exact hs k re rn h

theorem goodUpd_set {n m : String} {f : Frame} {val : Obj} {ns : Nat} {lf : Bool} (hm : m ≠ n) (hs : RefNamesStore f.store)
    (hv : ∀ re rn, val = .ref re rn → rn = m) :
    GoodUpd n f { f with store := setStore f.store m val, numSet := ns, localFunc := lf } :=
  ⟨rfl, lookupStore_setStore_ne _ _ _ _ (Ne.symm hm), refNamesStore_setStore hs hv⟩

theorem goodUpd_del {n m : String} {f : Frame} (hm : m ≠ n) (hs : RefNamesStore f.store) :
    GoodUpd n f { f with store := delStore f.store m } :=
  ⟨rfl, lookupStore_delStore_ne _ _ _ (Ne.symm hm), refNamesStore_delStore hs⟩

theorem notRef_names {val : Obj} {m : String} (h : NotRef val) : ∀ re rn, val = .ref re rn → rn = m :=
  fun re rn hh => absurd hh (h re rn)

theorem TriA.triggerNoCache {n : String} (e : Nat) : TriA n (triggerNoCache e) (fun _ => True) := by
  unfold E.triggerNoCache
  exact TriA.modifyFrame e (fun f hs => ⟨rfl, rfl, hs⟩)

theorem TriA.functionChanged {n : String} (w : Nat) (old : Option Obj) : TriA n (functionChanged w old) (fun _ => True) := by
  unfold E.functionChanged
  split
  · split
    · exact TriA.bind (TriA.modifyFrame w (fun f hs => ⟨rfl, rfl, hs⟩)) (fun _ _ => TriA.modify (fun st => ⟨rfl, rfl, rfl⟩))
    · exact TriA.pure trivial
  · exact TriA.pure trivial

theorem TriA.rootBindsFunc {n : String} (m : String) : TriA n (E.rootBindsFunc m) (fun _ => True) :=
  TriA.of_readOnly (fun _ => rfl)

theorem TriA.envCreate {n m : String} (hm : m ≠ n) (e : Nat) (val : Obj) : TriA n (envCreate e m val) (fun _ => True) := by
  unfold E.envCreate
  refine TriA.bind (TriA.valueOf val) (fun v hv => ?_)
  refine TriA.bind (TriA.rootBindsFunc m) (fun rb _ => ?_)
  refine TriA.bind (TriA.modifyFrame e (fun f hs => goodUpd_set hm hs (notRef_names hv))) (fun _ _ => TriA.pure trivial)

theorem TriA.envStoreAt {n m : String} (hm : m ≠ n) (w e : Nat) {val : Obj} (hv : NotRef val) :
    TriA n (envStoreAt w e m val) (fun _ => True) := by
  unfold E.envStoreAt
  refine TriA.bind (TriA.getFrame e) (fun fr _ => ?_)
  refine TriA.bind (TriA.functionChanged w _) (fun _ _ => ?_)
  refine TriA.bind (TriA.rootBindsFunc m) (fun rb _ => ?_)
  exact TriA.bind (TriA.modifyFrame e (fun f hs => goodUpd_set hm hs (notRef_names hv))) (fun _ _ => TriA.pure trivial)

/-- the result, if a reference, carries the name `m` -/
def NamedOpt (m : String) (r : Option Obj) : Prop := ∀ re rn, r = some (.ref re rn) → rn = m

theorem updTarget_name {e : Nat} {m : String} {found : Obj} (hf : ∀ re rn, found = .ref re rn → rn = m) :
    (updTarget e m found).2 = m := by
  cases found <;> first | rfl | exact hf _ _ rfl

theorem TriA.envUpdate {n m : String} (hm : m ≠ n) (e : Nat) {found : Obj} (val : Obj)
    (hf : ∀ re rn, found = .ref re rn → rn = m) : TriA n (envUpdate e m found val) (fun _ => True) := by
  unfold E.envUpdate
  rw [updTarget_name hf]
  simp (config := { zeta := true, zetaHave := true }) only
  split
  · exact TriA.bind (TriA.valueOf _) (fun v hv => TriA.envStoreAt hm e _ hv)
  · next hnr => exact TriA.bind (TriA.pure (Q := NotRef) (fun e k hh => hnr e k hh)) (fun v hv => TriA.envStoreAt hm e _ hv)

theorem refTo_name {o : Nat} {m : String} {obj : Obj} (h : ∀ re rn, obj = .ref re rn → rn = m) :
    ∀ re rn, refTo o m obj = .ref re rn → rn = m := by
  intro re rn hh
  cases obj <;> first
    | (simp only [refTo] at hh; cases hh; rfl)
    | (simp only [refTo] at hh; exact h _ _ hh)

theorem TriA.makeRef_go {n m : String} (hm : m ≠ n) (orig : Nat) :
    ∀ (k e : Nat), TriA n (makeRef.go orig m k e) (NamedOpt m) := by
  intro k
  induction k with
  | zero => intro e; unfold makeRef.go; exact TriA.pure (fun _ _ h => by cases h)
  | succ k ih =>
    intro e
    unfold makeRef.go
    refine TriA.bind (TriA.getFrame e) (fun f _ => ?_)
    split
    · exact TriA.pure (fun _ _ h => by cases h)
    · next o _ =>
      refine TriA.bind (TriA.getFrame o) (fun fo hfo => ?_)
      split
      · exact ih o
      · next obj hobj =>
        have hr := refTo_name (o := o) (m := m) (obj := obj) (fun re rn hh => hfo m re rn (by rw [hobj, hh]))
        have hq : NamedOpt m (some (refTo o m obj)) := fun re rn hh => hr re rn (Option.some.inj hh)
        refine TriA.bind (TriA.modifyFrame orig (fun f hs =>
          ⟨rfl, lookupStore_setStore_ne _ _ _ _ (Ne.symm hm), refNamesStore_setStore hs hr⟩)) (fun _ _ => ?_)
        extract_lets done miss
        have hmiss : ∀ refDepth, TriA n (miss refDepth) (NamedOpt m) := by
          intro refDepth
          simp only [miss]
          split
          · exact TriA.bind (TriA.modifyFrame orig (fun f hs => ⟨rfl, rfl, hs⟩)) (fun _ _ => TriA.pure hq)
          · exact TriA.pure hq
        split
        · exact TriA.bind (TriA.getFrame _) (fun fr _ => TriA.bind (TriA.pure (Q := fun _ => True) trivial) (fun d _ => hmiss d))
        · exact TriA.bind (TriA.pure (Q := fun _ => True) trivial) (fun d _ => hmiss d)

theorem TriA.makeRef {n m : String} (hm : m ≠ n) (orig : Nat) : TriA n (makeRef orig m) (NamedOpt m) := by
  unfold E.makeRef
  exact TriA.bind TriA.get (fun _ _ => TriA.makeRef_go hm orig _ _)

theorem TriA.stop_bind {n : String} {Q : β → Prop} (e : Stop) (k : α → M β) : TriA n ((E.stop e : M α) >>= k) Q :=
  TriA.bind (TriA.stop (Q := fun _ => False) e) (fun _ h => h.elim)

/-- the two join points of `Environment.Get` (everything after the `info` test; the store lookup) are proved once -/
theorem TriA.envGet {n m : String} (hm : m ≠ n) (e : Nat) : TriA n (envGet e m) (NamedOpt m) := by
  have hnone : NamedOpt m none := fun _ _ h => by cases h
  unfold E.envGet
  extract_lets rest
  suffices h : ∀ r, TriA n (rest r) (NamedOpt m) by
    split
    · exact TriA.stop_bind _ _
    · exact h ()
  intro _
  refine TriA.bind (TriA.getFrame e) (fun f hf => ?_)
  extract_lets lookup
  have hl : ∀ r, TriA n (lookup r) (NamedOpt m) := by
    intro _
    simp only [lookup]
    split
    · next re rn hl =>
      have hq : NamedOpt m (some (Obj.ref re rn)) := fun re' rn' h => by cases h; exact hf m re rn hl
      refine TriA.bind (TriA.of_readOnly (readOnly_refAlive re rn)) (fun alive _ => ?_)
      split
      · refine TriA.bind (TriA.modifyFrame e (fun f hs => goodUpd_del hm hs)) (fun _ _ => ?_)
        split
        · exact TriA.pure hnone
        · exact TriA.makeRef hm e
      · refine TriA.bind (TriA.of_readOnly (readOnly_refValue re rn)) (fun tgt _ => ?_)
        refine TriA.bind (TriA.getFrame re) (fun fr _ => ?_)
        split
        · exact TriA.bind (TriA.modifyFrame e (fun f hs => ⟨rfl, rfl, hs⟩)) (fun _ _ => TriA.pure hq)
        · exact TriA.pure hq
    · next obj hnr hl => exact TriA.pure (fun re rn h => by cases h; exact (hnr re rn rfl).elim)
    · split
      · exact TriA.pure hnone
      · exact TriA.makeRef hm e
  split
  · split <;> exact TriA.pure (fun _ _ h => by cases h)
  · split
    · split
      · exact TriA.pure (fun _ _ h => by cases h)
      · exact hl ()
    · exact hl ()

theorem TriA.setNoChecks {n m : String} (hm : m ≠ n) (e : Nat) (val : Obj) (create : Bool) :
    TriA n (setNoChecks e m val create) (fun _ => True) := by
  unfold E.setNoChecks
  split
  · exact TriA.envCreate hm e val
  · refine TriA.bind (TriA.getFrame e) (fun f hf => ?_)
    split
    · next r hl => exact TriA.envUpdate hm e val (fun re rn h => hf m re rn (by rw [hl, h]))
    · refine TriA.bind (TriA.makeRef hm e) (fun r hr => ?_)
      split
      · next re rn =>
        have hrn : rn = m := hr re rn rfl
        subst hrn
        refine TriA.bind (TriA.valueOf val) (fun v hv => ?_)
        refine TriA.bind (TriA.getFrame re) (fun fr _ => ?_)
        refine TriA.bind (TriA.functionChanged e _) (fun _ _ => ?_)
        refine TriA.bind (TriA.rootBindsFunc rn) (fun rb _ => ?_)
        exact TriA.bind (TriA.modifyFrame re (fun f hs =>
          ⟨rfl, lookupStore_setStore_ne _ _ _ _ (Ne.symm hm), refNamesStore_setStore hs (notRef_names hv)⟩)) (fun _ _ => TriA.pure trivial)
      · exact TriA.envCreate hm e val

theorem TriA.createOrSet {n m : String} (hm : m ≠ n) (e : Nat) (val : Obj) (create : Bool) :
    TriA n (createOrSet e m val create) (fun _ => True) := by
  unfold E.createOrSet
  extract_lets store check
  have hstore : ∀ r, TriA n (store r) (fun _ => True) := by
    intro _
    refine TriA.bind TriA.get (fun st _ => ?_)
    split
    · exact TriA.pure trivial
    · exact TriA.setNoChecks hm e val create
  have hcheck : ∀ same, TriA n (check same) (fun _ => True) := by
    intro same
    simp only [check]
    split
    · exact TriA.pure trivial
    · exact hstore ()
  split
  · refine TriA.bind (TriA.envGet hm e) (fun r _ => ?_)
    split
    · split
      · exact TriA.bind (TriA.pure (Q := fun _ => True) trivial) (fun same _ => hcheck same)
      · refine TriA.bind (TriA.valueOf _) (fun o _ => ?_)
        refine TriA.bind (TriA.valueOf _) (fun v _ => ?_)
        refine TriA.bind (TriA.of_readOnly (ReadOnly.liftR _)) (fun c _ => ?_)
        exact TriA.bind (TriA.pure (Q := fun _ => True) trivial) (fun same _ => hcheck same)
    · exact hstore ()
  · exact hstore ()

theorem TriA.envSet {n m : String} (hm : m ≠ n) (e : Nat) (val : Obj) : TriA n (envSet e m val) (fun _ => True) :=
  TriA.createOrSet hm e val false

theorem tri_step {n : String} {x : M α} {f : α → M β} {Q : β → Prop} {st s1 : St} {a : α}
    (hx : run x st = (.ok a, s1)) (h1 : RefNames s1) (hk : Keep n st s1) (hf : TriA n (f a) Q) :
    RefNames (run (x >>= f) st).2 ∧ Keep n st (run (x >>= f) st).2 ∧ ∀ b, (run (x >>= f) st).1 = .ok b → Q b := by
  rw [run_bind, hx]
  obtain ⟨g1, g2, g3⟩ := hf s1 h1
  exact ⟨g1, hk.trans g2, g3⟩

theorem TriA.envDelete_go {n m : String} (hm : m ≠ n) : ∀ (k e : Nat), TriA n (envDelete.go m k e) (fun _ => True) := by
  intro k
  induction k with
  | zero => intro e; unfold envDelete.go; exact TriA.pure trivial
  | succ k ih =>
    intro e st hr
    unfold envDelete.go
    rw [run_bind, run_getFrame]
    cases hfr : st.frames[e]? with
    | none => exact ⟨hr, Keep.refl n st, fun a ha => by cases ha⟩
    | some f =>
      simp (config := { zeta := true, zetaHave := true }) only
      have hst : (if (f.depth == 0) = true then { f with numSet := f.numSet + 1 } else f).store = f.store := by split <;> rfl
      have hfn : (if (f.depth == 0) = true then { f with numSet := f.numSet + 1 } else f).function = f.function := by split <;> rfl
      rw [hst]
      split
      · refine tri_step (run_setFrame e _ st) (refNames_setFrame hr (refNamesStore_delStore (hr e f hfr)))
          (keep_setFrame hfr hfn (lookupStore_delStore_ne _ _ _ (Ne.symm hm))) ?_
        exact TriA.bind (TriA.functionChanged e _) (fun _ _ => TriA.pure trivial)
      · refine tri_step (run_setFrame e _ st) (refNames_setFrame hr (by rw [hst]; exact hr e f hfr))
          (keep_setFrame hfr hfn (by rw [hst])) ?_
        split
        · exact ih _
        · exact TriA.pure trivial

theorem TriA.envDelete {n m : String} (hm : m ≠ n) (e : Nat) : TriA n (envDelete e m) (fun _ => True) := by
  unfold E.envDelete
  exact TriA.bind TriA.get (fun _ _ => TriA.envDelete_go hm _ _)


theorem TriA.curEnv {n : String} : TriA n curEnv (fun _ => True) := by
  unfold E.curEnv
  exact TriA.bind TriA.get (fun _ _ => TriA.pure trivial)

theorem TriA.noteHazard {n : String} (c : Bool) (k nm : String) : TriA n (noteHazard c k nm) (fun _ => True) := by
  unfold E.noteHazard
  split
  · exact TriA.modify (fun st => ⟨rfl, rfl, rfl⟩)
  · exact TriA.pure trivial

theorem TriA.writeOut {n : String} (b : Grol.Wire.Bytes) : TriA n (writeOut b) (fun _ => True) := by
  unfold E.writeOut
  refine TriA.modify (fun st => ?_)
  split <;> exact ⟨rfl, rfl, rfl⟩

theorem TriA.evalIdentifier {n m : String} (hm : m ≠ n) : TriA n (evalIdentifier m) (fun _ => True) := by
  unfold E.evalIdentifier
  refine TriA.bind TriA.get (fun st _ => ?_)
  split
  · exact TriA.pure trivial
  · refine TriA.bind (TriA.envGet hm _) (fun r _ => ?_)
    split <;> exact TriA.pure trivial

theorem TriA.true_of {n : String} {x : M α} {Q : α → Prop} (h : TriA n x Q) : TriA n x (fun _ => True) :=
  h.weaken (fun _ _ => trivial)

theorem TriA.valueOf_true {n : String} (o : Obj) : TriA n (E.valueOf o) (fun _ => True) := TriA.true_of (TriA.valueOf o)
theorem TriA.envGet_true {n m : String} (hm : m ≠ n) (e : Nat) : TriA n (E.envGet e m) (fun _ => True) :=
  TriA.true_of (TriA.envGet hm e)
theorem TriA.getFrame_true {n : String} (e : Nat) : TriA n (E.getFrame e) (fun _ => True) := TriA.true_of (TriA.getFrame e)
theorem TriA.liftR {n : String} (r : R α) : TriA n (E.liftR r) (fun _ => True) := TriA.of_readOnly (ReadOnly.liftR r)

/-- storing under `m` and answering with the error the store gave, or else with `v` -/
theorem TriA.envSet_then {n m : String} (hm : m ≠ n) (e : Nat) (val v : Obj) :
    TriA n (do let oerr ← E.envSet e m val; if oerr.isError then Pure.pure oerr else Pure.pure v) (fun _ => True) :=
  .bind (TriA.envSet hm e val) fun _ _ => .ite (.pure trivial) (.pure trivial)

theorem TriA.evalPostfix {n m : String} (hm : m ≠ n) (op : String) : TriA n (E.evalPostfix op m) (fun _ => True) := by
  unfold E.evalPostfix
  refine .bind TriA.curEnv fun e _ => .bind (TriA.envGet_true hm e) fun r _ => ?_
  split
  · exact .pure trivial
  · refine .bind (TriA.valueOf_true _) fun val _ => ?_
    extract_lets toAdd
    clear_value toAdd
    split
    · exact .pure trivial
    · split
      · exact .pure trivial
      · exact TriA.envSet_then hm _ _ _

theorem TriA.evalPrefixIncrDecr {n m : String} (hm : m ≠ n) (op : String) :
    TriA n (evalPrefixIncrDecr op (.ident m)) (fun _ => True) := by
  unfold E.evalPrefixIncrDecr
  refine .bind TriA.curEnv fun e _ => .bind (TriA.envGet_true hm e) fun r _ => ?_
  split
  · exact .pure trivial
  · refine .bind (TriA.valueOf_true _) fun val _ => ?_
    split
    · exact TriA.envSet hm _ _
    · exact .pure trivial

theorem TriA.deleteMapEntry {n m : String} (hm : m ≠ n) (index : Obj) :
    TriA n (deleteMapEntry (.ident m) index) (fun _ => True) := by
  unfold E.deleteMapEntry
  refine .bind TriA.curEnv fun e _ => .bind (TriA.envGet_true hm e) fun r _ => ?_
  split
  · exact .pure trivial
  · refine .bind (TriA.valueOf_true _) fun obj _ => ?_
    split
    · refine .bind (TriA.liftR _) fun r _ => ?_
      split
      · exact .pure trivial
      · exact .bind (TriA.noteHazard _ _ _) fun _ _ => TriA.envSet_then hm _ _ _
    · exact .pure trivial

theorem TriA.evalIndexAssignment {n m : String} (hm : m ≠ n) (index value : Obj) :
    TriA n (E.evalIndexAssignment (.ident m) index value) (fun _ => True) := by
  unfold E.evalIndexAssignment
  refine .bind (TriA.valueOf_true _) fun index _ => .bind (TriA.valueOf_true _) fun value _ => ?_
  refine .bind TriA.curEnv fun e _ => .bind (TriA.envGet_true hm e) fun r _ => ?_
  split
  · exact .pure trivial
  · refine .bind (TriA.valueOf_true _) fun val _ => ?_
    split
    · split
      · exact .pure trivial
      · extract_lets len i
        split
        · exact .pure trivial
        · exact .bind TriA.get fun _ _ => .bind (TriA.noteHazard _ _ _) fun _ _ => TriA.envSet_then hm _ _ _
    · refine .bind TriA.get fun _ _ => .bind (TriA.liftR _) fun p _ => ?_
      exact .bind (TriA.noteHazard _ _ _) fun _ _ => TriA.envSet_then hm _ _ _
    · exact .pure trivial

end Grol.RegRewrite
