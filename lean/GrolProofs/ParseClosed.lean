import Grol.Parser
/-
An induction principle for the parser model.

A property `C m st` of a parser computation `m` started in state `st` ("from a state with the invariant, `m` does
not panic"; "from a state that is already bad, `m` ends in a bad state") holds of the 24 mutually recursive parse
functions at every fuel as soon as it is closed under `pure` and `>>=` and holds of the primitive commands:
`ParserClosed.all`.  What does not consume fuel needs no `outOfFuel` case: `CmdClosed`.  The five Go panic sites
(`PanicSite`) are where such a property can fail:
`errorLine` (the slice), `parsePostfix` (`prevToken`, right after a `nextToken`) and `parseComment` (only where the
prefix table registers it) are assumptions; `token.ByType` never fails on the constant tokens the parser expects
(`peekError`) and `okParamList` never returns the nil node (`okParamList_ne_none`).
-/
namespace Grol.Parser
open Grol.Generated

theorem okParamList_ne_none : ∀ l : NList, okParamList l ≠ none
  | [] => by simp [okParamList]
  | none :: _ => by simp [okParamList]
  | some n :: rest => by
    unfold okParamList
    dsimp only
    split
    · simp
    split
    · simp
    · exact okParamList_ne_none rest

structure CmdClosed (s : TokStream) (C : ∀ {α : Type}, PM α → PState → Prop) : Prop where
  pure {α : Type} (a : α) (st : PState) : C (Pure.pure a) st
  bind {α β : Type} {m : PM α} {f : α → PM β} {st : PState} : C m st → (∀ a st', C (f a) st') → C (m >>= f) st
  /-- `bind` forgets that `getSt` hands its continuation the very state it runs in -/
  getSt_bind {β : Type} {k : PState → PM β} {st : PState} : C (k st) st → C (getSt >>= k) st
  nextToken (st : PState) : C (Parser.nextToken s) st
  setCont (st : PState) : C Parser.setCont st
  pushErr (e : ErrKind) (st : PState) : C (Parser.pushErr e) st
  errorLine (st : PState) : C (Parser.errorLine s) st
  parsePostfix (st : PState) : C (Parser.nextToken s >>= fun _ => parsePostfixExpression) st
  parseComment (st : PState) : lookup prefixRegs st.cur.type = some .parseComment → C Parser.parseComment st

structure ParserClosed (s : TokStream) (C : ∀ {α : Type}, PM α → PState → Prop) : Prop extends CmdClosed s C where
  outOfFuel {α : Type} (st : PState) : C (Parser.outOfFuel : PM α) st

variable {s : TokStream} {C : ∀ {α : Type}, PM α → PState → Prop}

namespace CmdClosed

theorem ite (_ : CmdClosed s C) {α : Type} {c : Prop} [Decidable c] {a b : PM α} {st : PState} (ha : C a st) (hb : C b st) :
    C (if c then a else b) st := by
  split <;> assumption

theorem peekError (h : CmdClosed s C) (t : TokType) (ht : (constLiteral t).isSome = true) (st : PState) :
    C (Parser.peekError s t) st := by
  refine h.bind (h.errorLine _) fun _ _ => ?_
  cases hc : constLiteral t with
  | none => rw [hc] at ht; cases ht
  | some l => exact h.pushErr _ _

theorem noPrefix (h : CmdClosed s C) (st : PState) : C (noPrefixParseFnError s) st :=
  h.bind (h.errorLine _) fun _ _ => h.pushErr _ _

theorem expectPeek (h : CmdClosed s C) (t : TokType) (hp : ∀ st, C (Parser.peekError s t) st) (st : PState) :
    C (Parser.expectPeek s t) st :=
  h.getSt_bind <| h.ite (h.bind (h.nextToken _) fun _ _ => h.pure _ _) <|
    h.ite (h.bind (h.setCont _) fun _ _ => h.pure _ _) (h.bind (hp _) fun _ _ => h.pure _ _)

theorem expect (h : CmdClosed s C) (t : TokType) (ht : (constLiteral t).isSome = true) (st : PState) :
    C (Parser.expectPeek s t) st :=
  h.expectPeek t (h.peekError t ht) st

theorem mapPairError (h : CmdClosed s C) (st : PState) : C (Parser.mapPairError s) st := by
  refine h.getSt_bind ?_
  dsimp only
  split
  · exact h.bind (h.setCont _) fun _ _ => h.pure _ _
  · exact h.bind (h.peekError _ rfl _) fun _ _ => h.pure _ _

theorem parseIdentifier (h : CmdClosed s C) (st : PState) : C (Parser.parseIdentifier s) st := by
  refine h.getSt_bind ?_
  split
  · exact h.parsePostfix _
  · exact h.pure _ _

theorem parseFloatLiteral (h : CmdClosed s C) (st : PState) : C (Parser.parseFloatLiteral s) st :=
  h.getSt_bind <| h.ite (h.pure _ _) <| h.bind (h.errorLine _) fun _ _ => h.bind (h.pushErr _ _) fun _ _ => h.pure _ _

theorem parseIntegerLiteral (h : CmdClosed s C) (st : PState) : C (Parser.parseIntegerLiteral s) st :=
  h.getSt_bind <| h.ite (h.pure _ _) (h.parseFloatLiteral _)

theorem parseBoolean (h : CmdClosed s C) (st : PState) : C Parser.parseBoolean st := h.getSt_bind (h.pure _ _)
theorem parseStringLiteral (h : CmdClosed s C) (st : PState) : C Parser.parseStringLiteral st := h.getSt_bind (h.pure _ _)
theorem parseControlExpression (h : CmdClosed s C) (st : PState) : C Parser.parseControlExpression st :=
  h.getSt_bind (h.pure _ _)
theorem parameter (h : CmdClosed s C) (st : PState) : C (Parser.parameter s) st := h.getSt_bind (h.pure _ _)

end CmdClosed

namespace ParserClosed

theorem parseFunctionParametersLoop (h : ParserClosed s C) : ∀ (fuel : Nat) (acc : NList) (st : PState),
    C (Parser.parseFunctionParametersLoop s fuel acc) st
  | 0, _, _ => h.outOfFuel _
  | n + 1, _, _ =>
    h.getSt_bind <| h.ite
      (h.bind (h.nextToken _) fun _ _ => h.bind (h.nextToken _) fun _ _ => h.bind (h.parameter _) fun _ _ =>
        parseFunctionParametersLoop h n _ _)
      (h.pure _ _)

theorem parseFunctionParameters (h : ParserClosed s C) (fuel : Nat) (st : PState) :
    C (Parser.parseFunctionParameters s fuel) st := by
  refine h.getSt_bind <| h.ite (h.bind (h.nextToken _) fun _ _ => h.pure _ _) <|
    h.bind (h.nextToken _) fun _ _ => h.bind (h.parameter _) fun _ _ =>
    h.bind (h.parseFunctionParametersLoop fuel _ _) fun ids _ => h.bind (h.expect .RPAREN rfl _) fun _ _ =>
    h.ite (h.pure _ _) ?_
  split
  · exact h.pure _ _
  · exact h.bind (h.errorLine _) fun _ _ => h.bind (h.pushErr _ _) fun _ _ => h.pure _ _

end ParserClosed

/-- `C` of `parseComment` and of the `expectPeek` that closes a list are hypotheses of `prefixDispatch` and
`parseExpressionList`: they hold only where the parser calls them (from the prefix table; on a constant token). -/
structure AllClosed (s : TokStream) (C : ∀ {α : Type}, PM α → PState → Prop) (n : Nat) : Prop where
  parseExpression : ∀ prec st, C (parseExpression s n prec) st
  parseExpressionLoop : ∀ prec l st, C (parseExpressionLoop s n prec l) st
  prefixDispatch : ∀ fn st, (fn = .parseComment → C parseComment st) → C (prefixDispatch s n fn) st
  infixDispatch : ∀ fn l st, C (infixDispatch s n fn l) st
  parseStatement : ∀ st, C (parseStatement s n) st
  parseReturnStatement : ∀ st, C (parseReturnStatement s n) st
  parseArrayLiteral : ∀ st, C (parseArrayLiteral s n) st
  parseGroupedExpression : ∀ st, C (parseGroupedExpression s n) st
  parsePrefixExpression : ∀ st, C (parsePrefixExpression s n) st
  parseLambdaMulti : ∀ l m st, C (parseLambdaMulti s n l m) st
  parseInfixExpression : ∀ l st, C (parseInfixExpression s n l) st
  parseForExpression : ∀ st, C (parseForExpression s n) st
  parseIfExpression : ∀ st, C (parseIfExpression s n) st
  parseBlockStatement : ∀ st, C (parseBlockStatement s n) st
  parseBlockLoop : ∀ acc st, C (parseBlockLoop s n acc) st
  parseFunctionLiteral : ∀ st, C (parseFunctionLiteral s n) st
  parseBuiltin : ∀ st, C (parseBuiltin s n) st
  parseCallExpression : ∀ f st, C (parseCallExpression s n f) st
  parseExpressionList : ∀ e st, (∀ st', C (expectPeek s e) st') → C (parseExpressionList s n e) st
  parseExpressionListLoop : ∀ a st, C (parseExpressionListLoop s n a) st
  parseIndexExpression : ∀ l st, C (parseIndexExpression s n l) st
  parseMapLiteral : ∀ st, C (parseMapLiteral s n) st
  parseMapLoop : ∀ t k st, C (parseMapLoop s n t k) st
  parseMacroLiteral : ∀ st, C (parseMacroLiteral s n) st

namespace ParserClosed

theorem zero (h : ParserClosed s C) : AllClosed s C 0 where
  parseExpression _ _ := h.outOfFuel _
  parseExpressionLoop _ _ _ := h.outOfFuel _
  prefixDispatch _ _ _ := h.outOfFuel _
  infixDispatch _ _ _ := h.outOfFuel _
  parseStatement _ := h.outOfFuel _
  parseReturnStatement _ := h.outOfFuel _
  parseArrayLiteral _ := h.outOfFuel _
  parseGroupedExpression _ := h.outOfFuel _
  parsePrefixExpression _ := h.outOfFuel _
  parseLambdaMulti _ _ _ := h.outOfFuel _
  parseInfixExpression _ _ := h.outOfFuel _
  parseForExpression _ := h.outOfFuel _
  parseIfExpression _ := h.outOfFuel _
  parseBlockStatement _ := h.outOfFuel _
  parseBlockLoop _ _ := h.outOfFuel _
  parseFunctionLiteral _ := h.outOfFuel _
  parseBuiltin _ := h.outOfFuel _
  parseCallExpression _ _ := h.outOfFuel _
  parseExpressionList _ _ _ := h.outOfFuel _
  parseExpressionListLoop _ _ := h.outOfFuel _
  parseIndexExpression _ _ := h.outOfFuel _
  parseMapLiteral _ := h.outOfFuel _
  parseMapLoop _ _ _ := h.outOfFuel _
  parseMacroLiteral _ := h.outOfFuel _

theorem succ (h : ParserClosed s C) {n : Nat} (ih : AllClosed s C n) : AllClosed s C (n + 1) where
  parseExpression prec st := by
    unfold Parser.parseExpression
    refine h.getSt_bind ?_
    split
    · exact h.bind (h.setCont _) fun _ _ => h.pure _ _
    split
    · exact h.ite (h.ite (h.bind (h.setCont _) fun _ _ => h.pure _ _) (h.bind (h.noPrefix _) fun _ _ => h.pure _ _))
        (h.pure _ _)
    · next fn hl =>
      -- the one call whose callee depends on the state: `fn` is what the table registers for the current token
      refine h.bind (ih.prefixDispatch fn st fun e => h.parseComment st (e ▸ hl)) fun _ _ => h.getSt_bind ?_
      exact h.ite (h.bind (h.nextToken _) fun _ _ => ih.parseLambdaMulti _ _ _) (ih.parseExpressionLoop _ _ _)
  parseExpressionLoop prec l st := by
    unfold Parser.parseExpressionLoop
    refine h.getSt_bind (h.ite ?_ (h.pure _ _))
    dsimp only
    split
    · exact h.pure _ _
    · exact h.ite (h.pure _ _) <| h.ite (h.pure _ _) <| h.bind (h.nextToken _) fun _ _ =>
        h.bind (ih.infixDispatch _ _ _) fun _ _ => ih.parseExpressionLoop _ _ _
  prefixDispatch fn st hc := by
    unfold Parser.prefixDispatch
    cases fn with
    | parseIdentifier => exact h.parseIdentifier _
    | parseIntegerLiteral => exact h.parseIntegerLiteral _
    | parseFloatLiteral => exact h.parseFloatLiteral _
    | parsePrefixExpression => exact ih.parsePrefixExpression _
    | parseBoolean => exact h.parseBoolean _
    | parseGroupedExpression => exact ih.parseGroupedExpression _
    | parseIfExpression => exact ih.parseIfExpression _
    | parseForExpression => exact ih.parseForExpression _
    | parseControlExpression => exact h.parseControlExpression _
    | parseFunctionLiteral => exact ih.parseFunctionLiteral _
    | parseStringLiteral => exact h.parseStringLiteral _
    | parseBuiltin => exact ih.parseBuiltin _
    | parseArrayLiteral => exact ih.parseArrayLiteral _
    | parseMapLiteral => exact ih.parseMapLiteral _
    | parseComment => exact hc rfl
    | parseMacroLiteral => exact ih.parseMacroLiteral _
  infixDispatch fn l st := by
    unfold Parser.infixDispatch
    cases fn with
    | parseInfixExpression => exact ih.parseInfixExpression _ _
    | parseCallExpression => exact ih.parseCallExpression _ _
    | parseIndexExpression => exact ih.parseIndexExpression _ _
    | parseLambdaExpression => exact ih.parseLambdaMulti _ _ _
  parseStatement st := by
    unfold Parser.parseStatement
    exact h.getSt_bind <| h.ite (ih.parseReturnStatement _) <| h.bind (ih.parseExpression _ _) fun _ _ =>
      h.getSt_bind <| h.ite (h.bind (h.nextToken _) fun _ _ => h.pure _ _) (h.pure _ _)
  parseReturnStatement st := by
    unfold Parser.parseReturnStatement
    exact h.getSt_bind <| h.ite (h.pure _ _) <| h.bind (h.nextToken _) fun _ _ => h.bind (ih.parseExpression _ _) fun _ _ =>
      h.getSt_bind <| h.ite (h.bind (h.nextToken _) fun _ _ => h.pure _ _) (h.pure _ _)
  parseArrayLiteral st := by
    unfold Parser.parseArrayLiteral
    exact h.getSt_bind <| h.bind (ih.parseExpressionList _ _ (h.expect .RBRACKET rfl)) fun _ _ => h.pure _ _
  parseGroupedExpression st := by
    unfold Parser.parseGroupedExpression
    refine h.bind (h.nextToken _) fun _ _ => h.bind (ih.parseExpression _ _) fun _ _ => h.getSt_bind <|
      h.ite (h.bind (h.nextToken _) fun _ _ => ih.parseLambdaMulti _ _ _) <| h.ite ?_ <|
      h.bind (h.expect .RPAREN rfl _) fun _ _ => h.ite (h.pure _ _) (h.pure _ _)
    refine h.bind (h.nextToken _) fun _ _ => h.bind (ih.parseExpressionList _ _ (h.expect .RPAREN rfl)) fun _ _ => ?_
    split
    · exact h.pure _ _
    · exact h.bind (h.expect .LAMBDA rfl _) fun _ _ => h.ite (h.pure _ _) (ih.parseLambdaMulti _ _ _)
  parsePrefixExpression st := by
    unfold Parser.parsePrefixExpression
    exact h.getSt_bind <| h.bind (h.nextToken _) fun _ _ => h.bind (ih.parseExpression _ _) fun _ _ => h.pure _ _
  parseLambdaMulti l m st := by
    unfold Parser.parseLambdaMulti
    refine h.getSt_bind ?_
    dsimp only
    split
    · next e => exact absurd e (okParamList_ne_none _)
    · exact h.bind (h.errorLine _) fun _ _ => h.bind (h.pushErr _ _) fun _ _ => h.pure _ _
    · exact h.ite
        (h.bind (h.nextToken _) fun _ _ => h.bind (ih.parseBlockStatement _) fun _ _ =>
          h.getSt_bind <| h.ite (h.pure _ _) (h.pure _ _))
        (h.bind (h.nextToken _) fun _ _ => h.bind (ih.parseExpression _ _) fun _ _ => h.pure _ _)
  parseInfixExpression l st := by
    unfold Parser.parseInfixExpression
    exact h.getSt_bind <| h.ite (h.pure _ _) <|
      h.bind (h.nextToken _) fun _ _ => h.bind (ih.parseExpression _ _) fun _ _ => h.pure _ _
  parseForExpression st := by
    unfold Parser.parseForExpression
    exact h.getSt_bind <| h.bind (h.nextToken _) fun _ _ => h.bind (ih.parseExpression _ _) fun _ _ =>
      h.bind (h.expect .LBRACE rfl _) fun _ _ => h.ite (h.pure _ _) <| h.bind (ih.parseBlockStatement _) fun _ _ =>
      h.getSt_bind <| h.ite (h.pure _ _) (h.pure _ _)
  parseIfExpression st := by
    unfold Parser.parseIfExpression
    refine h.getSt_bind <| h.bind (h.nextToken _) fun _ _ => h.bind (ih.parseExpression _ _) fun _ _ =>
      h.bind (h.expect .LBRACE rfl _) fun _ _ => h.ite (h.pure _ _) <| h.bind (ih.parseBlockStatement _) fun _ _ =>
      h.getSt_bind <| h.ite (h.pure _ _) <| h.ite ?_ (h.pure _ _)
    exact h.bind (h.nextToken _) fun _ _ => h.getSt_bind <|
      h.ite (h.bind (h.nextToken _) fun _ _ => h.bind (ih.parseIfExpression _) fun _ _ => h.pure _ _) <|
      h.bind (h.expect .LBRACE rfl _) fun _ _ => h.ite (h.pure _ _) <| h.bind (ih.parseBlockStatement _) fun _ _ =>
      h.getSt_bind <| h.ite (h.pure _ _) (h.pure _ _)
  parseBlockStatement st := by
    unfold Parser.parseBlockStatement
    exact h.bind (h.nextToken _) fun _ _ => ih.parseBlockLoop _ _
  parseBlockLoop acc st := by
    unfold Parser.parseBlockLoop
    exact h.getSt_bind <| h.ite
      (h.ite (h.bind (h.setCont _) fun _ _ => h.pure _ _) <|
        h.bind (ih.parseStatement _) fun _ _ => h.bind (h.nextToken _) fun _ _ => ih.parseBlockLoop _ _)
      (h.pure _ _)
  parseFunctionLiteral st := by
    unfold Parser.parseFunctionLiteral
    refine h.getSt_bind <| h.bind
      (h.ite (h.bind (h.nextToken _) fun _ _ => h.getSt_bind (h.pure _ _)) (h.pure _ _)) fun _ _ =>
      h.bind (h.expect .LPAREN rfl _) fun _ _ => h.ite (h.pure _ _) <| h.bind (h.parseFunctionParameters _ _) fun _ _ => ?_
    exact h.bind (h.expect .LBRACE rfl _) fun _ _ => h.ite (h.pure _ _) <| h.bind (ih.parseBlockStatement _) fun _ _ =>
      h.getSt_bind <| h.ite (h.pure _ _) (h.pure _ _)
  parseBuiltin st := by
    unfold Parser.parseBuiltin
    exact h.getSt_bind <| h.bind (h.expect .LPAREN rfl _) fun _ _ => h.ite (h.pure _ _) <|
      h.bind (ih.parseExpressionList _ _ (h.expect .RPAREN rfl)) fun _ _ => h.pure _ _
  parseCallExpression f st := by
    unfold Parser.parseCallExpression
    exact h.getSt_bind <| h.bind (ih.parseExpressionList _ _ (h.expect .RPAREN rfl)) fun _ _ => h.pure _ _
  parseExpressionList e st he := by
    unfold Parser.parseExpressionList
    exact h.getSt_bind <| h.ite (h.bind (h.nextToken _) fun _ _ => h.pure _ _) <|
      h.bind (h.nextToken _) fun _ _ => h.bind (ih.parseExpression _ _) fun _ _ =>
      h.bind (ih.parseExpressionListLoop _ _) fun _ _ => h.bind (he _) fun _ _ => h.ite (h.pure _ _) (h.pure _ _)
  parseExpressionListLoop a st := by
    unfold Parser.parseExpressionListLoop
    exact h.getSt_bind <| h.ite
      (h.bind (h.nextToken _) fun _ _ => h.bind (h.nextToken _) fun _ _ => h.bind (ih.parseExpression _ _) fun _ _ =>
        ih.parseExpressionListLoop _ _)
      (h.pure _ _)
  parseIndexExpression l st := by
    unfold Parser.parseIndexExpression
    exact h.getSt_bind <| h.bind (h.nextToken _) fun _ _ => h.bind (ih.parseExpression _ _) fun _ _ =>
      h.ite (h.pure _ _) <| h.bind (h.expect .RBRACKET rfl _) fun _ _ => h.ite (h.pure _ _) (h.pure _ _)
  parseMapLiteral st := by
    unfold Parser.parseMapLiteral
    exact h.getSt_bind (ih.parseMapLoop _ _ _)
  parseMapLoop t k st := by
    unfold Parser.parseMapLoop
    refine h.getSt_bind <| h.ite ?_ <| h.bind (h.expect .RBRACE rfl _) fun _ _ => h.ite (h.pure _ _) (h.pure _ _)
    refine h.bind (h.nextToken _) fun _ _ => h.getSt_bind <| h.ite (h.pure _ _) <|
      h.bind (ih.parseExpression _ _) fun kv _ => ?_
    split
    · refine h.ite (h.getSt_bind <| h.ite ?_ (ih.parseMapLoop _ _ _)) (h.mapPairError _)
      exact h.bind (h.expect .COMMA rfl _) fun _ _ => h.ite (h.pure _ _) (ih.parseMapLoop _ _ _)
    · exact h.mapPairError _
  parseMacroLiteral st := by
    unfold Parser.parseMacroLiteral
    refine h.getSt_bind <| h.bind (h.expect .LPAREN rfl _) fun _ _ => h.ite (h.pure _ _) <|
      h.bind (h.parseFunctionParameters _ _) fun _ _ => ?_
    exact h.bind (h.expect .LBRACE rfl _) fun _ _ => h.ite (h.pure _ _) <| h.bind (ih.parseBlockStatement _) fun _ _ =>
      h.getSt_bind <| h.ite (h.pure _ _) (h.pure _ _)

theorem all (h : ParserClosed s C) : ∀ n, AllClosed s C n
  | 0 => h.zero
  | n + 1 => h.succ (all h n)

theorem parseProgramLoop (h : ParserClosed s C) : ∀ (fuel : Nat) (acc : NList) (st : PState),
    C (Parser.parseProgramLoop s fuel acc) st
  | 0, _, _ => h.outOfFuel _
  | n + 1, _, _ => by
    unfold Parser.parseProgramLoop
    refine h.getSt_bind <| h.ite (h.bind ((h.all n).parseStatement _) fun r _ => ?_) (h.pure _ _)
    split
    · exact h.pure _ _
    · exact h.bind (h.nextToken _) fun _ _ => parseProgramLoop h n _ _

end ParserClosed

end Grol.Parser
