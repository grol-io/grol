import Grol.Printer
/-
C03 (3), first half: the normal-mode text of a program ends with a newline.  The newline is that of the
`ps.Println()` closing the top-level `Statements`; it is written only if the compact flag is still off, and it is
last only if the level is back to 0 (no `}`).  Hence the frame lemma: every PrettyPrint method leaves the
indentation level and the compact flag as it found them.
-/
namespace Grol.Printer
open Grol.Generated

def Frame (a b : PrintState) : Prop := b.indentLevel = a.indentLevel ∧ b.compact = a.compact

theorem Frame.refl (a : PrintState) : Frame a a := ⟨rfl, rfl⟩
theorem Frame.trans {a b c : PrintState} (h1 : Frame a b) (h2 : Frame b c) : Frame a c :=
  ⟨h2.1.trans h1.1, h2.2.trans h1.2⟩

@[simp] theorem write_indent (ps : PrintState) (b) : (ps.write b).indentLevel = ps.indentLevel := rfl
@[simp] theorem write_compact (ps : PrintState) (b) : (ps.write b).compact = ps.compact := rfl
@[simp] theorem print_indent (ps : PrintState) (b) : (ps.print b).indentLevel = ps.indentLevel := by
  unfold PrintState.print; dsimp only; split <;> rfl
@[simp] theorem print_compact (ps : PrintState) (b) : (ps.print b).compact = ps.compact := by
  unfold PrintState.print; dsimp only; split <;> rfl
@[simp] theorem println_indent (ps : PrintState) : ps.println.indentLevel = ps.indentLevel := by
  unfold PrintState.println; dsimp only; split <;> rfl
@[simp] theorem println_compact (ps : PrintState) : ps.println.compact = ps.compact := by
  unfold PrintState.println; dsimp only; split <;> rfl

/-- The two fields `Frame` compares, as one value: `Frame a b` says `b.fr = a.fr`, so the `Frame` facts about the
intermediate states of a method are rewrite rules that carry `fr` of the last state back to `fr` of the first. -/
def PrintState.fr (ps : PrintState) : Nat × Bool := (ps.indentLevel, ps.compact)

theorem frame_iff {a b : PrintState} : Frame a b ↔ b.fr = a.fr := by
  simp only [Frame, PrintState.fr, Prod.mk.injEq]

theorem Frame.eq {a b : PrintState} (h : Frame a b) : b.fr = a.fr := frame_iff.1 h

theorem fr_print (ps : PrintState) (b) : (ps.print b).fr = ps.fr :=
  Prod.ext (print_indent ps b) (print_compact ps b)
theorem fr_println (ps : PrintState) : ps.println.fr = ps.fr := Prod.ext (println_indent ps) (println_compact ps)
theorem fr_ite (c : Prop) [Decidable c] (a b : PrintState) : (if c then a else b).fr = if c then a.fr else b.fr :=
  apply_ite _ _ _ _
theorem fr_prec (ps : PrintState) (x) : { ps with exprPrec := x }.fr = ps.fr := rfl
theorem fr_prev (ps : PrintState) (x) : { ps with prev := x }.fr = ps.fr := rfl

theorem fr_needParen {ps ps1 : PrintState} {t : Tk} {b : Bool} {o : Nat} (h : needParen ps t = .ok (ps1, b, o)) :
    ps1.fr = ps.fr := by
  unfold needParen at h
  split at h
  · cases h
  · cases h; rfl

theorem fr_compactSep (ps : PrintState) (s i fb) : (compactSep ps s i fb).fr = ps.fr := by
  unfold compactSep; dsimp only; split
  · rfl
  · exact (fr_ite ..).trans (ite_self _)

theorem fr_longFormSep (ps : PrintState) (s i) : (longFormSep ps s i).fr = ps.fr := by
  unfold longFormSep
  split
  · split
    · rfl
    · exact fr_println ps
  · rfl

/-- `frame [f₁, …]` proves `Frame ps X` when `X` is reached from `ps` through the primitive writers and the states
related by the equations `fᵢ : b.fr = a.fr`: `X.fr` is rewritten back to `ps.fr`. -/
macro "frame" "[" hs:Lean.Parser.Tactic.simpLemma,* "]" : tactic =>
  `(tactic| simp only [frame_iff, fr_print, fr_ite, ite_self, fr_prec, $hs,*])

/-- `Statements.PrettyPrint` restores the indentation level it raised for its statements -/
theorem block_frame {tbl : Nat → Bool} {l : List (Option Node)}
    (loop : ∀ ps i ps', printStmtLoop tbl l ps i = .ok ps' → Frame ps ps') {ps ps' : PrintState}
    (h : printBlock tbl l ps = .ok ps') : Frame ps ps' := by
  unfold printBlock at h; dsimp only at h
  split at h
  · cases h
  · next _ heq =>
    obtain ⟨f1, f2⟩ := loop _ _ _ heq
    cases h
    exact ⟨by simp only [apply_ite PrintState.indentLevel, print_indent, println_indent, f1, ite_self, Nat.add_sub_cancel],
      by simp only [apply_ite PrintState.compact, print_compact, println_compact, f2, ite_self]⟩

mutual

theorem printNode_frame (tbl : Nat → Bool) : ∀ (n : Node) (ps ps' : PrintState), printNode tbl n ps = .ok ps' → Frame ps ps'
  | .ident _, ps, ps', h | .intLit _, ps, ps', h | .floatLit _, ps, ps', h | .boolean _, ps, ps', h
  | .control _, ps, ps', h | .comment _ _ _, ps, ps', h | .strLit _, ps, ps', h => by
    unfold printNode at h; cases h; frame []
  | .ret _ none, ps, ps', h => by unfold printNode at h; cases h; frame []
  | .ret _ (some v), ps, ps', h => by
    unfold printNode at h
    frame [(printNode_frame tbl v _ _ h).eq]
  | .pre _ r, ps, ps', h => by
    unfold printNode at h; dsimp only at h
    split at h
    · cases h
    · next _ heq => cases h; frame [(printO_frame tbl r _ _ heq).eq]
  | .post t _, ps, ps', h => by
    unfold printNode at h
    split at h
    · cases h
    · next _ _ _ heq => cases h; frame [fr_needParen heq]
  | .infix t l none, ps, ps', h => by
    unfold printNode at h
    split at h
    · cases h
    · next _ _ _ heq =>
      dsimp only at h
      split at h
      · cases h
      · next _ heq2 => cases h; frame [(printO_frame tbl l _ _ heq2).eq, fr_needParen heq]
  | .infix t l (some r), ps, ps', h => by
    unfold printNode at h
    split at h
    · cases h
    · next _ _ _ heq =>
      dsimp only at h
      split at h
      · cases h
      · next _ heq2 =>
        split at h
        · cases h
        · next _ heq3 =>
          cases h
          frame [(printNode_frame tbl r _ _ heq3).eq, (printO_frame tbl l _ _ heq2).eq, fr_needParen heq]
  | .forE _ c b, ps, ps', h => by
    unfold printNode at h
    split at h
    · cases h
    · next _ heq => frame [(printStmts_frame tbl b _ _ h).eq, (printO_frame tbl c _ _ heq).eq]
  | .ifE _ c a none, ps, ps', h => by
    unfold printNode at h
    split at h
    · cases h
    · next _ heq =>
      split at h
      · cases h
      · next _ heq2 => cases h; frame [(printStmts_frame tbl a _ _ heq2).eq, (printO_frame tbl c _ _ heq).eq]
  | .ifE _ c a (some l), ps, ps', h => by
    unfold printNode at h
    split at h
    · cases h
    · next _ heq =>
      split at h
      · cases h
      · next _ heq2 =>
        have f := (printO_frame tbl c _ _ heq).eq
        have f2 := (printStmts_frame tbl a _ _ heq2).eq
        dsimp only at h
        split at h
        · cases h
        · frame [(printHead_frame tbl _ l _ _ h).eq, f2, f]
        · frame [(block_frame (printStmtLoop_frame tbl l) h).eq, f2, f]
  | .builtin _ params, ps, ps', h => by
    unfold printNode at h
    split at h
    · cases h
    · next _ heq => cases h; frame [(printList_frame tbl params _ _ _ heq).eq]
  | .func _ name params body _ isLambda, ps, ps', h => by
    unfold printNode at h
    split at h
    · dsimp only at h
      split at h
      · cases h
      · next _ heq =>
        split at h
        · cases h
        · next _ heq2 =>
          cases h
          frame [(printStmts_frame tbl body _ _ heq2).eq, (printList_frame tbl params _ _ _ heq).eq]
    · dsimp only at h
      split at h
      · cases h
      · next _ heq =>
        cases name <;> frame [(printStmts_frame tbl body _ _ h).eq, (printList_frame tbl params _ _ _ heq).eq]
  | .call _ fn args, ps, ps', h => by
    unfold printNode at h; dsimp only at h
    split at h
    · cases h
    · next _ heq =>
      split at h
      · cases h
      · next _ heq2 =>
        cases h; frame [(printList_frame tbl args _ _ _ heq2).eq, (printO_frame tbl fn _ _ heq).eq]
  | .array _ es, ps, ps', h => by
    unfold printNode at h
    split at h
    · cases h
    · next _ heq => cases h; frame [(printList_frame tbl es _ _ _ heq).eq]
  | .index t l i, ps, ps', h => by
    unfold printNode at h
    split at h
    · cases h
    · next _ _ _ heq =>
      dsimp only at h
      split at h
      · cases h
      · next _ heq2 =>
        split at h
        · cases h
        · next _ heq3 =>
          cases h
          frame [(printO_frame tbl i _ _ heq3).eq, (printO_frame tbl l _ _ heq2).eq, fr_needParen heq]
  | .mapLit _ kvs, ps, ps', h => by
    unfold printNode at h; dsimp only at h
    split at h
    · cases h
    · next _ heq => cases h; frame [(printPairs_frame tbl kvs _ _ _ heq).eq]
  | .macroLit _ params body, ps, ps', h => by
    unfold printNode at h
    split at h
    · cases h
    · next _ heq => frame [(printStmts_frame tbl body _ _ h).eq, (printList_frame tbl params _ _ _ heq).eq]

theorem printO_frame (tbl : Nat → Bool) : ∀ (o : Option Node) (ps ps' : PrintState), printO tbl o ps = .ok ps' → Frame ps ps'
  | none, _, _, h => by unfold printO at h; cases h
  | some n, ps, ps', h => by unfold printO at h; exact printNode_frame tbl n _ _ h

theorem printHead_frame (tbl : Nat → Bool) (sk : Bool) : ∀ (l : List (Option Node)) (ps ps' : PrintState), printHead tbl sk l ps = .ok ps' → Frame ps ps'
  | [], _, _, h => by unfold printHead at h; cases h; exact Frame.refl _
  | x :: xs, ps, ps', h => by
    unfold printHead at h
    split at h
    · exact printHead_frame tbl sk xs _ _ h
    · exact printO_frame tbl x _ _ h

theorem printList_frame (tbl : Nat → Bool) : ∀ (l : List (Option Node)) (ps : PrintState) (i : Nat) (ps' : PrintState),
    printList tbl l ps i = .ok ps' → Frame ps ps'
  | [], _, _, _, h => by unfold printList at h; cases h; exact Frame.refl _
  | x :: xs, ps, i, ps', h => by
    unfold printList at h; dsimp only at h
    split at h
    · cases h
    · next _ heq => frame [(printList_frame tbl xs _ _ _ h).eq, (printO_frame tbl x _ _ heq).eq]

theorem printPairs_frame (tbl : Nat → Bool) : ∀ (l : List (Option Node)) (ps : PrintState) (i : Nat) (ps' : PrintState),
    printPairs tbl l ps i = .ok ps' → Frame ps ps'
  | [], _, _, _, h => by unfold printPairs at h; cases h; exact Frame.refl _
  | [_], _, _, _, h => by unfold printPairs at h; cases h; exact Frame.refl _
  | k :: v :: rest, ps, i, ps', h => by
    unfold printPairs at h; dsimp only at h
    split at h
    · cases h
    · next _ heq =>
      split at h
      · cases h
      · next _ heq2 =>
        frame [(printPairs_frame tbl rest _ _ _ h).eq, (printO_frame tbl v _ _ heq2).eq, (printO_frame tbl k _ _ heq).eq]

theorem printStmts_frame (tbl : Nat → Bool) : ∀ (s : Option (List (Option Node))) (ps ps' : PrintState),
    printStmts tbl s ps = .ok ps' → Frame ps ps'
  | none, _, _, h => by unfold printStmts at h; cases h
  | some l, ps, ps', h => by unfold printStmts at h; exact block_frame (printStmtLoop_frame tbl l) h

theorem printStmtLoop_frame (tbl : Nat → Bool) : ∀ (l : List (Option Node)) (ps : PrintState) (i : Nat) (ps' : PrintState),
    printStmtLoop tbl l ps i = .ok ps' → Frame ps ps'
  | [], _, _, _, h => by unfold printStmtLoop at h; cases h; exact Frame.refl _
  | x :: xs, ps, i, ps', h => by
    unfold printStmtLoop at h
    split at h
    · exact printStmtLoop_frame tbl xs _ _ _ h
    · dsimp only at h
      split at h
      · cases h
      · next _ heq =>
        frame [(printStmtLoop_frame tbl xs _ _ _ h).eq, fr_prev, (printO_frame tbl x _ _ heq).eq, fr_compactSep, fr_longFormSep]

end

theorem printBlock_frame (tbl : Nat → Bool) : ∀ (l : List (Option Node)) (ps ps' : PrintState),
    printBlock tbl l ps = .ok ps' → Frame ps ps' :=
  fun l _ _ => block_frame (printStmtLoop_frame tbl l)

end Grol.Printer

namespace Grol.Printer

theorem printProgram_normal {tbl : Nat → Bool} {prog : NList} {allParens : Bool} {out : Wire.Bytes}
    (h : printProgram tbl prog false allParens = .ok out) :
    ∃ ps1 ps2, printStmtLoop tbl prog ps1 0 = .ok ps2 ∧ ps1.compact = false ∧ ps1.indentLevel = 1 ∧ ps1.out = [] ∧
      out = ps2.out.reverse ++ [10] := by
  unfold printProgram at h
  split at h
  · cases h
  · next ps heq =>
    cases h
    unfold printStmts printBlock at heq
    dsimp only at heq
    split at heq
    · cases heq
    · next ps2 hloop =>
      obtain ⟨f1, f2⟩ := printStmtLoop_frame tbl prog _ _ _ hloop
      refine ⟨_, ps2, hloop, rfl, rfl, rfl, ?_⟩
      cases heq
      simp [PrintState.println, PrintState.write, f1, f2]

/-- **C03 (3), first half**: whatever the tree, when normal-mode printing of a program succeeds its
output ends with a newline (the `ps.Println()` that closes the top-level `Statements`). -/
theorem printProgram_ends_with_newline (tbl : Nat → Bool) (prog : NList) (allParens : Bool) (out : Wire.Bytes)
    (h : printProgram tbl prog false allParens = .ok out) : out.getLast? = some 10 := by
  obtain ⟨_, _, _, _, _, _, rfl⟩ := printProgram_normal h
  exact List.getLast?_concat ..

end Grol.Printer
