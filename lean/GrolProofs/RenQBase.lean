import GrolProofs.RenHelpers
import GrolProofs.MemoFootprint
/-
C04, the quiet simulation: the relation and the calculus for "a miss-free (quiet) call depends only on the
bindings the purity test trusts".

Two runs with the cache OFF.  As in the C10 simulation (`RenBase.lean`) the frame indices of run T
are shifted by `σ` in run S; in addition the frames that existed when the runs diverged (`i < σ.n0`)
may differ on a set `D` of DIRTY bindings: bindings of run T that the purity test does not trust
(not a function value, not an all-caps name) and that no value of run T refers to (`clean`).
`SimQ` relates the runs under the hypothesis that run T ends normally without moving the miss
counter of the frame `e` it works for.
-/
namespace Grol.R
open Grol.E

/-- frame `i` of run T (`ft`) against frame `sh σ i` of run S (`fs`) -/
structure FrQ (P : Qp) (i : Nat) (fs ft : Frame) : Prop where
  outer : fs.outer = ft.outer.map (sh P.σ)
  depth : fs.depth = ft.depth
  cacheKey : fs.cacheKey = ft.cacheKey
  function : fs.function = ft.function.map (renFn P.σ)
  /-- every binding that is not dirty is the same up to the renaming … -/
  lk : ∀ n, ¬ P.D i n → lookupStore fs.store n = (lookupStore ft.store n).map (ren P.σ)
  /-- … and holds a clean value -/
  cl : ∀ n v, ¬ P.D i n → lookupStore ft.store n = some v → clean P v
  /-- a dirty binding is one the purity test does not trust: it exists, under a name that is not all-caps, and holds a
  value that is not a reference and is not a function of a depth-0 frame (a function held by a
  variable of a non-root frame is a miss too, as in grol commit 103fa2c: `Trusted` in MemoFootprint.lean demands depth 0) -/
  dirty : ∀ n, P.D i n → isConstant n = false ∧
    ∃ v, lookupStore ft.store n = some v ∧ notRef v = true ∧ (isFuncObj v = false ∨ ft.depth ≠ 0)
  /-- counters: new frames run in lockstep, old frames keep their initial offset -/
  missNew : P.σ.n0 ≤ i → fs.getMiss = ft.getMiss ∧ fs.cantCache = ft.cantCache
  missOld : i < P.σ.n0 → fs.getMiss + P.mt i = ft.getMiss + P.ms i
  /-- the local-function flag (a recursive call from such a frame skips the cache) -/
  localFunc : fs.localFunc = ft.localFunc
  /-- in run S too a dirty binding of a depth-0 frame does not hold a function (the flag above depends on whether the top
  level frame binds a name to a function) -/
  dirtyS : ∀ n, P.D i n → ∀ w, lookupStore fs.store n = some w → (isFuncObj w = false ∨ ft.depth ≠ 0)

/-- run S's state against run T's state, cache off -/
structure StRq (P : Qp) (s t : St) : Prop where
  cfg : s.cfg = t.cfg
  off : t.cfg.cacheOn = false
  extNames : s.extNames = t.extNames
  depth : s.depth = t.depth
  steps : s.steps = t.steps
  outs : s.outs = t.outs
  cur : s.cur = sh P.σ t.cur
  root : s.root = sh P.σ t.root
  size : s.frames.size = t.frames.size + P.σ.d
  n0 : P.σ.n0 ≤ t.frames.size
  pos : 0 < P.σ.n0
  frames : ∀ i ft, t.frames[i]? = some ft → ∃ fs, s.frames[sh P.σ i]? = some fs ∧ FrQ P i fs ft
  dec : RefDec t
  /-- only old frames have dirty bindings -/
  dlt : ∀ i n, P.D i n → i < P.σ.n0
  /-- the current frame is the quiet frame … -/
  curq : t.cur = P.e
  /-- … a new frame inside the body of the quiet call -/
  enew : P.pre ∨ P.σ.n0 ≤ P.e

/-- the relation does not depend on the quiet frame: another frame can take the role when it is the current one -/
theorem StRq.retarget {P P' : Qp} {s t : St} (h : StRq P s t) (hσ : P'.σ = P.σ) (hD : P'.D = P.D) (hms : P'.ms = P.ms)
    (hmt : P'.mt = P.mt) (cs ct : Nat) (os ot : List (List (List UInt8))) (hcs : cs = sh P.σ ct) (hos : os = ot)
    (hc : ct = P'.e) (hn : P'.pre ∨ P'.σ.n0 ≤ P'.e) :
    StRq P' { s with cur := cs, outs := os } { t with cur := ct, outs := ot } := by
  obtain ⟨σ, D, ms, mt, e, pre⟩ := P
  obtain ⟨σ', D', ms', mt', e', pre'⟩ := P'
  simp only at hσ hD hms hmt hc hn hcs
  subst hσ hD hms hmt
  refine ⟨h.cfg, h.off, h.extNames, h.depth, h.steps, hos, hcs, h.root, h.size, h.n0, h.pos, ?_, h.dec, h.dlt, hc, hn⟩
  intro i ft hi
  obtain ⟨fs, h1, h2⟩ := h.frames i ft hi
  exact ⟨fs, h1, ⟨h2.outer, h2.depth, h2.cacheKey, h2.function, h2.lk, h2.cl, h2.dirty, h2.missNew, h2.missOld, h2.localFunc, h2.dirtyS⟩⟩

/-! ### the calculus -/

/-- if run T's `y` ends normally without moving the miss counter of frame `e`, run S's `x` ends
normally too, in a state related by `R`, with a related result -/
def SimG (e : Nat) (R : St → St → Prop) (x : M α) (y : M β) (s t : St) (Q : α → β → Prop) : Prop :=
  ∀ b t', runM y t = (.ok b, t') → missOf t' e = missOf t e →
    ∃ a s', runM x s = (.ok a, s') ∧ R s' t' ∧ Q a b

/-- the quiet simulation: quiet frame `P.e`, relation `StRq P` -/
def SimQ (P : Qp) (x : M α) (y : M β) (s t : St) (Q : α → β → Prop) : Prop :=
  SimG P.e (StRq P) x y s t Q

theorem SimQ.pure {P : Qp} {a : α} {b : β} {s t : St} {Q : α → β → Prop} (hR : StRq P s t) (hq : Q a b) :
    SimQ P (pure a : M α) (pure b : M β) s t Q := by
  intro b' t' h _
  rw [runM_pure] at h
  cases h
  exact ⟨a, s, runM_pure a s, hR, hq⟩

/-- run T stops: nothing to show -/
theorem SimQ.stop {P : Qp} {x : M α} {err : Stop} {s t : St} {Q : α → β → Prop} :
    SimQ P x (Grol.E.stop err : M β) s t Q := by
  intro b t' h _
  rw [runM_stop] at h
  cases h

theorem SimQ.stop_bind {P : Qp} {x : M α} {err : Stop} {g : γ → M β} {s t : St} {Q : α → β → Prop} :
    SimQ P x (Grol.E.stop err >>= g) s t Q := by
  intro b t' h _
  rw [runM_bind, runM_stop] at h
  cases h

theorem missOf_mono {x : M α} (hx : Tr x) (st : St) (e : Nat) : missOf st e ≤ missOf (runM x st).2 e :=
  (hx.h st).miss e

theorem SimQ.bind {P : Qp} {x : M α} {y : M β} {f : α → M γ} {g : β → M δ} {s t : St}
    {Q : α → β → Prop} {Q' : γ → δ → Prop}
    (hx : SimQ P x y s t Q)
    (hf : ∀ a b s' t', StRq P s' t' → Q a b → SimQ P (f a) (g b) s' t' Q')
    (ty : Tr y) (tg : ∀ b, Tr (g b)) :
    SimQ P (x >>= f) (y >>= g) s t Q' := by
  intro c t'' h hq
  rw [runM_bind] at h
  cases hy : runM y t with
  | mk rb t1 =>
    rw [hy] at h
    cases rb with
    | error err => cases h
    | ok b =>
      dsimp only at h
      have h1 : missOf t P.e ≤ missOf t1 P.e := by have := missOf_mono ty t P.e; rw [hy] at this; exact this
      have h2 : missOf t1 P.e ≤ missOf t'' P.e := by have := missOf_mono (tg b) t1 P.e; rw [h] at this; exact this
      obtain ⟨a, s1, hxs, hR1, hqab⟩ := hx b t1 hy (by omega)
      obtain ⟨c', s2, hfs, hR2, hqc⟩ := hf a b s1 t1 hR1 hqab c t'' h (by omega)
      refine ⟨c', s2, ?_, hR2, hqc⟩
      rw [runM_bind, hxs]
      exact hfs

theorem SimQ.mono {P : Qp} {x : M α} {y : M β} {s t : St} {Q Q' : α → β → Prop}
    (hx : SimQ P x y s t Q) (h : ∀ a b, Q a b → Q' a b) : SimQ P x y s t Q' := by
  intro b t' hy hq
  obtain ⟨a, s', h1, h2, h3⟩ := hx b t' hy hq
  exact ⟨a, s', h1, h2, h a b h3⟩

theorem SimQ.bind_read {P : Qp} {x : M α} {y : M β} {f : α → M γ} {g : β → M δ} {s t : St}
    {Q' : γ → δ → Prop} {a : α} {b : β}
    (hx : runM x s = (.ok a, s)) (hy : runM y t = (.ok b, t)) (h : SimQ P (f a) (g b) s t Q') :
    SimQ P (x >>= f) (y >>= g) s t Q' := by
  intro c t' hr hq
  rw [runM_bind, hy] at hr
  obtain ⟨c', s', h1, h2, h3⟩ := h c t' hr hq
  exact ⟨c', s', by rw [runM_bind, hx]; exact h1, h2, h3⟩

theorem SimQ.ite {P : Qp} {c : Prop} [Decidable c] {a b : M α} {a' b' : M β} {s t : St} {Q : α → β → Prop}
    (ha : c → SimQ P a a' s t Q) (hb : ¬ c → SimQ P b b' s t Q) :
    SimQ P (if c then a else b) (if c then a' else b') s t Q := by
  split
  · exact ha ‹_›
  · exact hb ‹_›

theorem SimQ.ite' {P : Qp} {c c' : Prop} [Decidable c] [Decidable c'] {a b : M α} {a' b' : M β} {s t : St}
    {Q : α → β → Prop} (hc : c ↔ c')
    (ha : c' → SimQ P a a' s t Q) (hb : ¬ c' → SimQ P b b' s t Q) :
    SimQ P (if c then a else b) (if c' then a' else b') s t Q := by
  by_cases h : c'
  · rw [if_pos (hc.2 h), if_pos h]; exact ha h
  · rw [if_neg (fun hh => h (hc.1 hh)), if_neg h]; exact hb h

theorem SimQ.liftR {P : Qp} {r : R α} {r' : R β} {s t : St} {Q : α → β → Prop} (hR : StRq P s t)
    (h : RelR Q r r') : SimQ P (Grol.E.liftR r) (Grol.E.liftR r') s t Q := by
  unfold Grol.E.liftR
  cases r' with
  | error e' => exact SimQ.stop (x := _) (err := e')
  | ok b =>
    cases r with
    | ok a => exact SimQ.pure hR h
    | error e => exact h.elim

theorem SimQ.liftR' {P : Qp} {r : R α} {r' : R β} {s t : St} {Q : α → β → Prop} {f : β → α} (hR : StRq P s t)
    (h : r = r'.map f) (hq : ∀ b, r' = .ok b → Q (f b) b) : SimQ P (Grol.E.liftR r) (Grol.E.liftR r') s t Q := by
  subst h
  unfold Grol.E.liftR
  cases r' with
  | error e' => exact SimQ.stop (x := _) (err := e')
  | ok b => exact SimQ.pure hR (hq b rfl)

theorem SimQ.and_right {P : Qp} {x : M α} {y : M β} {s t : St} {Q : α → β → Prop} {C : β → Prop}
    (h : SimQ P x y s t Q) (hc : ∀ b t', runM y t = (.ok b, t') → C b) : SimQ P x y s t (fun a b => Q a b ∧ C b) := by
  intro b t' hy hq
  obtain ⟨a, s', h1, h2, h3⟩ := h b t' hy hq
  exact ⟨a, s', h1, h2, h3, hc b t' hy⟩

/-- run T is loud on `e`: nothing to show -/
theorem SimQ.of_loud {P : Qp} {x : M α} {y : M β} {s t : St} {Q : α → β → Prop}
    (h : ∀ b t', runM y t = (.ok b, t') → missOf t' P.e ≠ missOf t P.e) : SimQ P x y s t Q := by
  intro b t' hy hq
  exact absurd hq (h b t' hy)

/-! ### loud steps -/

/-- every normal run of `y` moves the miss counter of frame `e` -/
def Loud (e : Nat) (y : M β) : Prop := ∀ t b t', runM y t = (.ok b, t') → missOf t e < missOf t' e

theorem SimQ.loud {P : Qp} {x : M α} {y : M β} {s t : St} {Q : α → β → Prop} (h : Loud P.e y) : SimQ P x y s t Q :=
  SimQ.of_loud (fun b t' hy => Nat.ne_of_gt (h t b t' hy))

theorem Loud.bind_right {e : Nat} {x : M α} {f : α → M β} (hx : Tr x) (hf : ∀ a, Loud e (f a)) : Loud e (x >>= f) := by
  intro t b t' h
  rw [runM_bind] at h
  cases hx' : runM x t with
  | mk ra t1 =>
    rw [hx'] at h
    cases ra with
    | error err => cases h
    | ok a =>
      have h1 : missOf t e ≤ missOf t1 e := by have := missOf_mono hx t e; rw [hx'] at this; exact this
      dsimp only at h
      have := hf a t1 b t' h
      omega

theorem Loud.bind_left {e : Nat} {x : M α} {f : α → M β} (hx : Loud e x) (hf : ∀ a, Tr (f a)) : Loud e (x >>= f) := by
  intro t b t' h
  rw [runM_bind] at h
  cases hx' : runM x t with
  | mk ra t1 =>
    rw [hx'] at h
    cases ra with
    | error err => cases h
    | ok a =>
      have h1 := hx t a t1 hx'
      dsimp only at h
      have h2 : missOf t1 e ≤ missOf t' e := by have := missOf_mono (hf a) t1 e; rw [h] at this; exact this
      omega

theorem Loud.modifyFrame {e : Nat} {g : Frame → Frame} (hg : ∀ f, f.getMiss < (g f).getMiss) : Loud e (modifyFrame e g) := by
  intro t b t' h
  cases hte : t.frames[e]? with
  | none =>
    unfold Grol.E.modifyFrame at h
    rw [runM_bind, runM_getFrame_none hte] at h
    cases h
  | some f =>
    rw [runM_modifyFrame hte] at h
    cases h
    rw [missOf_setIfInBounds t e f _ hte]
    simp only [if_true]
    unfold missOf
    rw [hte]
    exact hg f

theorem Loud.triggerNoCache {e : Nat} : Loud e (triggerNoCache e) := by
  unfold Grol.E.triggerNoCache
  exact Loud.modifyFrame (fun f => Nat.lt_succ_self _)

theorem Loud.ite {e : Nat} {c : Prop} [Decidable c] {a b : M β} (ha : c → Loud e a) (hb : ¬ c → Loud e b) :
    Loud e (if c then a else b) := by
  split
  · exact ha ‹_›
  · exact hb ‹_›

/-! ### changing the quiet frame (nested calls) -/

/-- every normal run of `y` from `t` moves the miss counter of frame `e` -/
def LoudAt (e : Nat) (y : M β) (t : St) : Prop := ∀ b t', runM y t = (.ok b, t') → missOf t e < missOf t' e

theorem Loud.at {e : Nat} {y : M β} (h : Loud e y) (t : St) : LoudAt e y t := h t

theorem SimQ.loudAt {P : Qp} {x : M α} {y : M β} {s t : St} {Q : α → β → Prop} (h : LoudAt P.e y t) : SimQ P x y s t Q :=
  SimQ.of_loud (fun b t' hy => Nat.ne_of_gt (h b t' hy))

theorem LoudAt.modifyFrame_bind {e i : Nat} {g : Frame → Frame} {k : Unit → M γ} {t : St}
    (hm : ∀ f, f.getMiss ≤ (g f).getMiss)
    (h : ∀ f, t.frames[i]? = some f → LoudAt e (k ()) { t with frames := t.frames.setIfInBounds i (g f) }) :
    LoudAt e (modifyFrame i g >>= k) t := by
  intro b t' hr
  cases hf : t.frames[i]? with
  | none =>
    unfold Grol.E.modifyFrame at hr
    rw [runM_bind, runM_bind, runM_getFrame_none hf] at hr
    cases hr
  | some f =>
    rw [runM_bind, runM_modifyFrame hf] at hr
    have h1 := h f hf b t' hr
    rw [missOf_setIfInBounds t i f _ hf] at h1
    by_cases hei : e = i
    · subst hei
      simp only [if_true] at h1
      have : missOf t e = f.getMiss := by unfold missOf; rw [hf]
      have := hm f
      omega
    · simp only [hei, if_false] at h1
      exact h1

theorem LoudAt.bind_read {e : Nat} {y : M β} {g : β → M γ} {t : St} {b : β} (hy : runM y t = (.ok b, t))
    (h : LoudAt e (g b) t) : LoudAt e (y >>= g) t := by
  intro c t' hr
  rw [runM_bind, hy] at hr
  exact h c t' hr

theorem LoudAt.set_bind {e : Nat} {g : Unit → M γ} {t t1 : St} (hf : t1.frames = t.frames)
    (h : LoudAt e (g ()) t1) : LoudAt e (set t1 >>= g) t := by
  intro c t' hr
  rw [runM_bind, runM_set] at hr
  have := h c t' hr
  rw [missOf_congr hf] at this
  exact this

theorem SimG.bind_read {e : Nat} {R : St → St → Prop} {x : M α} {y : M β} {f : α → M γ} {g : β → M δ} {s t : St}
    {Q' : γ → δ → Prop} {a : α} {b : β}
    (hx : runM x s = (.ok a, s)) (hy : runM y t = (.ok b, t)) (h : SimG e R (f a) (g b) s t Q') :
    SimG e R (x >>= f) (y >>= g) s t Q' := by
  intro c t' hr hq
  rw [runM_bind, hy] at hr
  obtain ⟨c', s', h1, h2, h3⟩ := h c t' hr hq
  exact ⟨c', s', by rw [runM_bind, hx]; exact h1, h2, h3⟩

theorem SimG.set_bind {e : Nat} {R : St → St → Prop} {f : Unit → M γ} {g : Unit → M δ} {s t s1 t1 : St}
    {Q' : γ → δ → Prop} (hf : t1.frames = t.frames) (h : SimG e R (f ()) (g ()) s1 t1 Q') :
    SimG e R (set s1 >>= f) (set t1 >>= g) s t Q' := by
  intro c t' hr hq
  rw [runM_bind, runM_set] at hr
  obtain ⟨c', s', h1, h2, h3⟩ := h c t' hr (by rw [hq, missOf_congr hf])
  exact ⟨c', s', by rw [runM_bind, runM_set]; exact h1, h2, h3⟩

theorem SimG.modify_bind {e : Nat} {R : St → St → Prop} {f : Unit → M γ} {g : Unit → M δ} {s t : St}
    {ms mt : St → St} {Q' : γ → δ → Prop} (hf : (mt t).frames = t.frames) (h : SimG e R (f ()) (g ()) (ms s) (mt t) Q') :
    SimG e R (modify ms >>= f) (modify mt >>= g) s t Q' := by
  intro c t' hr hq
  rw [runM_bind, runM_modify] at hr
  obtain ⟨c', s', h1, h2, h3⟩ := h c t' hr (by rw [hq, missOf_congr hf])
  exact ⟨c', s', by rw [runM_bind, runM_modify]; exact h1, h2, h3⟩

/-- run `x`/`y` under the quietness of another frame `e'`: it suffices that when `y` moves the counter of `e'`
the continuation moves the counter of `e` -/
theorem SimG.switch {e e' : Nat} {R1 R2 : St → St → Prop} {x : M α} {y : M β} {f : α → M γ} {g : β → M δ} {s t : St}
    {Q : α → β → Prop} {Q' : γ → δ → Prop}
    (hx : SimG e' R1 x y s t Q)
    (hl : ∀ b t1, runM y t = (.ok b, t1) → missOf t1 e' ≠ missOf t e' → LoudAt e (g b) t1)
    (hf : ∀ a b s' t', R1 s' t' → Q a b → SimG e R2 (f a) (g b) s' t' Q')
    (ty : Tr y) (tg : ∀ b, Tr (g b)) :
    SimG e R2 (x >>= f) (y >>= g) s t Q' := by
  intro c t'' h hq
  rw [runM_bind] at h
  cases hy : runM y t with
  | mk rb t1 =>
    rw [hy] at h
    cases rb with
    | error err => cases h
    | ok b =>
      dsimp only at h
      have h1 : missOf t e ≤ missOf t1 e := by have := missOf_mono ty t e; rw [hy] at this; exact this
      have h2 : missOf t1 e ≤ missOf t'' e := by have := missOf_mono (tg b) t1 e; rw [h] at this; exact this
      by_cases hqb : missOf t1 e' = missOf t e'
      · obtain ⟨a, s1, hxs, hR1, hqab⟩ := hx b t1 hy hqb
        obtain ⟨c', s2, hfs, hR2, hqc⟩ := hf a b s1 t1 hR1 hqab c t'' h (by omega)
        refine ⟨c', s2, ?_, hR2, hqc⟩
        rw [runM_bind, hxs]
        exact hfs
      · have := hl b t1 hy hqb c t'' h
        omega

/-! ### the calculus as an instance -/

/-- the quiet simulation has the rules of `Calc`; a function body is walked in `JQ` -/
def simQCalc (P : Qp) : Calc P where
  R := StRq P
  Sim := SimQ P
  cfg := StRq.cfg
  extNames := StRq.extNames
  cur := StRq.cur
  depth := StRq.depth
  steps := StRq.steps
  withDepth := fun hR _ => { hR with depth := rfl }
  withSteps := fun hR _ => { hR with steps := rfl }
  val := SimQ.pure
  halt := fun _ => SimQ.stop
  seq := fun hx hf ty tg => SimQ.bind hx hf ty tg
  cond := SimQ.ite
  lift := SimQ.liftR
  read := SimQ.bind_read
  put := SimG.set_bind

/-- the walking judgement of the quiet calculus: `Tr y`, and when `learnt` holds the runs of `x` and `y` from
`StRq`-related states satisfy `SimQ` with results related by `Q` -/
abbrev JQ (P : Qp) (learnt : Prop) (x : M α) (y : M β) (Q : α → β → Prop) : Prop := (simQCalc P).J learnt x y Q

end Grol.R
