import GrolProofs.RenVal
/-
Values that do not refer to a DIRTY binding.  The C04 simulation (`RenQBase.lean`) lets the two runs
differ on a set `D` of bindings of run T; a value is `clean` when no reference to such a binding
occurs in it.  The C10 simulation is the case without dirty bindings (`Qp.plain`), in which every
value is clean: the operators on values (`RenOps.lean`) are treated once for both.
-/
namespace Grol.R
open Grol.E

/-- parameters of the relation -/
structure Qp where
  σ : Sh
  /-- the dirty bindings (frame of run T, name) -/
  D : Nat → String → Prop
  /-- the miss counters of the old frames when the runs diverged (run S, run T) -/
  ms : Nat → Nat
  mt : Nat → Nat
  /-- the frame whose miss counter run T does not move (the callee frame of the quiet call) -/
  e : Nat
  /-- "prelude": the current frame is not constrained (outside the body of the quiet call) -/
  pre : Prop

mutual
/-- no reference to a binding of `D` occurs anywhere in the value -/
def cleanD (D : Nat → String → Prop) : Obj → Prop
  | .ref e n => ¬ D e n
  | .array els => cleanLD D els
  | .map _ kvs => cleanPD D kvs
  | .ret v _ => cleanD D v
  | _ => True
def cleanLD (D : Nat → String → Prop) : List Obj → Prop
  | [] => True
  | x :: xs => cleanD D x ∧ cleanLD D xs
def cleanPD (D : Nat → String → Prop) : List (Obj × Obj) → Prop
  | [] => True
  | (k, v) :: xs => cleanD D k ∧ cleanD D v ∧ cleanPD D xs
end

/-- no reference to a dirty binding occurs anywhere in the value -/
abbrev clean (P : Qp) : Obj → Prop := cleanD P.D
abbrev cleanL (P : Qp) : List Obj → Prop := cleanLD P.D
abbrev cleanP (P : Qp) : List (Obj × Obj) → Prop := cleanPD P.D

theorem cleanL_iff {P : Qp} {l : List Obj} : cleanL P l ↔ ∀ x ∈ l, clean P x := by
  induction l with
  | nil => simp [cleanL, cleanLD]
  | cons x xs ih => simp only [cleanL, clean] at ih ⊢; simp [cleanLD, ih]

theorem cleanP_iff {P : Qp} {l : List (Obj × Obj)} : cleanP P l ↔ ∀ kv ∈ l, clean P kv.1 ∧ clean P kv.2 := by
  induction l with
  | nil => simp [cleanP, cleanPD]
  | cons x xs ih => obtain ⟨k, v⟩ := x; simp only [cleanP, clean] at ih ⊢; simp [cleanPD, ih, and_assoc]

/-- renamed and clean -/
abbrev QOq (P : Qp) : Obj → Obj → Prop := fun a b => a = ren P.σ b ∧ clean P b
abbrev QOptq (P : Qp) : Option Obj → Option Obj → Prop :=
  fun a b => a = b.map (ren P.σ) ∧ ∀ v, b = some v → clean P v

/-- the renaming alone: no binding is dirty -/
abbrev Qp.plain (σ : Sh) : Qp := ⟨σ, fun _ _ => False, fun _ => 0, fun _ => 0, 0, True⟩

mutual
theorem clean_plain (σ : Sh) : ∀ o, clean (Qp.plain σ) o
  | .ref .. => not_false
  | .array els => cleanL_plain σ els
  | .map _ kvs => cleanP_plain σ kvs
  | .ret v _ => clean_plain σ v
  | .null | .bool _ | .int _ | .float _ | .str _ | .ext _ | .error _ | .quote _ | .func _ => trivial
theorem cleanL_plain (σ : Sh) : ∀ l, cleanL (Qp.plain σ) l
  | [] => trivial
  | x :: xs => ⟨clean_plain σ x, cleanL_plain σ xs⟩
theorem cleanP_plain (σ : Sh) : ∀ l, cleanP (Qp.plain σ) l
  | [] => trivial
  | (k, v) :: xs => ⟨clean_plain σ k, clean_plain σ v, cleanP_plain σ xs⟩
end

end Grol.R
