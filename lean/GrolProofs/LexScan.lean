import Grol.Lexer
import Grol.LexSuite
/-
C16 lemmas: the scanning loops of the lexer model (`scanLoop`, `skipWsLoop`,
`readStringLoop`, `blockLoop`): where they stop, what they passed over, that the fuel given by
their callers cannot run out, and that they leave input and mode untouched.
-/
namespace Grol.Lexer
open Grol.Token Grol.LexSuite

theorem peekAt_of_ge {input : Array UInt8} {p : Nat} (h : input.size ≤ p) : peekAt input p = 0 := by
  unfold peekAt
  rw [Array.getElem?_eq_none h]; rfl

theorem lt_size_of_peekAt_ne_zero {input : Array UInt8} {p : Nat} (h : peekAt input p ≠ 0) :
    p < input.size := by
  apply Classical.byContradiction
  intro hn
  exact h (peekAt_of_ge (Nat.le_of_not_lt hn))

theorem peekAt_of_lt {input : Array UInt8} {p : Nat} (h : p < input.size) : peekAt input p = input[p] := by
  unfold peekAt
  rw [Array.getElem?_eq_getElem h]; rfl

structure ScanSpec (p : UInt8 → Bool) (input : Array UInt8) (pos r : Nat) : Prop where
  ge : pos ≤ r
  le : r ≤ input.size
  all : ∀ i, pos ≤ i → i < r → p (peekAt input i) = true
  stop : p (peekAt input r) = false

theorem scanLoop_spec (p : UInt8 → Bool) (hp0 : p 0 = false) (input : Array UInt8) :
    ∀ fuel pos, pos ≤ input.size → input.size ≤ pos + fuel →
      ScanSpec p input pos (scanLoop p input fuel pos) := by
  intro fuel
  induction fuel with
  | zero =>
    intro pos h1 h2
    have : pos = input.size := by omega
    unfold scanLoop
    exact ⟨Nat.le_refl _, h1, fun i a b => by omega, by rw [peekAt_of_ge (by omega)]; exact hp0⟩
  | succ f ih =>
    intro pos h1 h2
    unfold scanLoop
    split
    · rename_i hc
      have hlt : pos < input.size := lt_size_of_peekAt_ne_zero (fun h0 => by rw [h0, hp0] at hc; cases hc)
      have r := ih (pos + 1) hlt (by omega)
      refine ⟨by have := r.ge; omega, r.le, ?_, r.stop⟩
      intro i hi1 hi2
      by_cases hi : i = pos
      · subst hi; exact hc
      · exact r.all i (by omega) hi2
    · rename_i hc
      exact ⟨Nat.le_refl _, h1, fun i a b => by omega, by simpa using hc⟩

theorem scanWhile_spec (p : UInt8 → Bool) (hp0 : p 0 = false) (input : Array UInt8) (pos : Nat)
    (h : pos ≤ input.size) : ScanSpec p input pos (scanWhile p input pos) :=
  scanLoop_spec p hp0 input _ pos h (by omega)

structure SkipSpec (s s1 : State) : Prop where
  input : s1.input = s.input
  mode : s1.lineMode = s.lineMode
  ge : s.pos ≤ s1.pos
  le : s1.pos ≤ s.input.size ∨ s1.pos = s.pos
  gap : ∀ i, s.pos ≤ i → i < s1.pos → isWhiteSpace (peekAt s.input i) = true
  stop : isWhiteSpace (peekAt s.input s1.pos) = false

/-- one iteration of the loop of `skipWhitespace` on a whitespace byte -/
def stepWs (s : State) : State :=
  let s' := if s.peekChar == 10 then
      { s with hadNewline := true, lastNewLine := s.pos + 1, lineNumber := s.lineNumber + 1 }
    else s
  { s' with hadWhitespace := true, pos := s'.pos + 1 }

theorem stepWs_same (s : State) :
    (stepWs s).input = s.input ∧ (stepWs s).pos = s.pos + 1 ∧ (stepWs s).lineMode = s.lineMode := by
  unfold stepWs; split <;> exact ⟨rfl, rfl, rfl⟩

theorem skipWsLoop_succ (f : Nat) (s : State) (h : isWhiteSpace s.peekChar = true) :
    skipWsLoop (f + 1) s = skipWsLoop f (stepWs s) := by
  conv => lhs; unfold skipWsLoop
  simp only [h, Bool.not_true, Bool.false_eq_true, ↓reduceIte]
  rfl

/-- what holds of the loop: a relation between the states before and after that holds of a state where the
loop stops and itself, and passes backwards over one iteration.  The fuel covers the rest of the input, past
which the byte read is 0, not whitespace. -/
theorem skipWsLoop_ind {R : State → State → Prop}
    (stop : ∀ s, isWhiteSpace s.peekChar = false → R s s)
    (step : ∀ s r, isWhiteSpace s.peekChar = true → R (stepWs s) r → R s r) :
    ∀ fuel (s : State), s.input.size ≤ s.pos + fuel → R s (skipWsLoop fuel s)
  | 0, s, h => stop s (by rw [State.peekChar, peekAt_of_ge (by omega)]; rfl)
  | f + 1, s, h => by
    by_cases hw : isWhiteSpace s.peekChar = true
    · rw [skipWsLoop_succ f s hw]
      have ⟨e1, e2, _⟩ := stepWs_same s
      exact step s _ hw (skipWsLoop_ind stop step f (stepWs s) (by rw [e1, e2]; omega))
    · have : skipWsLoop (f + 1) s = s := by
        conv => lhs; unfold skipWsLoop
        simp only [hw, Bool.not_false, ↓reduceIte]
      rw [this]; exact stop s (Bool.eq_false_iff.2 hw)

theorem SkipSpec.step {s r : State} (h : isWhiteSpace s.peekChar = true) (hr : SkipSpec (stepWs s) r) :
    SkipSpec s r := by
  have hlt : s.pos < s.input.size :=
    lt_size_of_peekAt_ne_zero (fun h0 => by rw [State.peekChar, h0] at h; revert h; decide)
  have ⟨e1, e2, e3⟩ := stepWs_same s
  have rge := hr.ge
  have rle := hr.le
  have rgap := hr.gap
  have rstop := hr.stop
  rw [e1] at rle rgap rstop
  rw [e2] at rge rle rgap
  refine ⟨hr.input.trans e1, hr.mode.trans e3, by omega, by omega, fun i hi1 hi2 => ?_, rstop⟩
  by_cases hi : i = s.pos
  · subst hi; exact h
  · exact rgap i (by omega) hi2

theorem skipWhitespace_spec (s : State) : SkipSpec s (skipWhitespace s) := by
  have := skipWsLoop_ind (R := SkipSpec)
    (fun s h => ⟨rfl, rfl, Nat.le_refl _, Or.inr rfl, fun i a b => by omega, h⟩) (fun _ _ => SkipSpec.step)
    (s.input.size - s.pos) { s with hadWhitespace := false, hadNewline := false } (by simp; omega)
  exact ⟨this.input, this.mode, this.ge, this.le, this.gap, this.stop⟩

structure StrSpec (sep : UInt8) (s : State) (r : Bytes × Bool × State) : Prop where
  same : r.2.2 = { s with pos := r.2.2.pos }
  ge : s.pos ≤ r.2.2.pos
  okT : r.2.1 = true → s.pos < r.2.2.pos ∧ r.2.2.pos ≤ s.input.size ∧ peekAt s.input (r.2.2.pos - 1) = sep
  okF : r.2.1 = false → 1 ≤ r.2.2.pos ∧ peekAt s.input (r.2.2.pos - 1) = 0

theorem StrSpec.step {sep : UInt8} {s : State} {p' : Nat} {pre : Bytes} {r : Bytes × Bool × State}
    (h : StrSpec sep { s with pos := p' } r) (hp : s.pos ≤ p') : StrSpec sep s (consBuf pre r) := by
  refine ⟨?_, ?_, ?_, ?_⟩
  · have := h.same; simpa [consBuf] using this
  · have := h.ge; simp [consBuf] at *; omega
  · intro ht
    obtain ⟨a, b, c⟩ := h.okT ht
    exact ⟨Nat.lt_of_le_of_lt hp a, b, c⟩
  · intro hf
    exact h.okF hf

theorem readChar_snd (s : State) : s.readChar.2 = { s with pos := s.pos + 1 } := rfl
theorem readChar_fst (s : State) : s.readChar.1 = peekAt s.input s.pos := rfl
theorem readHex_snd (s : State) : (readHex s).2 = { s with pos := s.pos + 2 } := rfl
theorem readUnicode16_snd (s : State) : (readUnicode16 s).2 = { s with pos := s.pos + 4 } := rfl
theorem readUnicode32_snd (s : State) : (readUnicode32 s).2 = { s with pos := s.pos + 8 } := rfl

theorem ite_pair {α β : Type} (c : Prop) [Decidable c] (a b : α) (s : β) :
    (if c then (a, s) else (b, s)) = (if c then a else b, s) := by
  split <;> rfl

/-- the inner `switch ch` of `readString`: only `\\x` reads on; every other byte stands for the byte
`escByte` gives and leaves the state alone -/
theorem readEscape_eq (e : UInt8) (s : State) :
    readEscape e s = if e == 120 then readHex s else (escByte e, s) := by
  cases h : e == 120
  · unfold readEscape escByte
    simp only [h, Bool.false_eq_true, ↓reduceIte, ite_pair]
  · rw [beq_iff_eq.mp h]; rfl

theorem readEscape_snd (ch : UInt8) (s : State) :
    ∃ p', s.pos ≤ p' ∧ (readEscape ch s).2 = { s with pos := p' } := by
  rw [readEscape_eq]
  split
  · exact ⟨s.pos + 2, by omega, rfl⟩
  · exact ⟨s.pos, Nat.le_refl _, rfl⟩

theorem readStringLoop_spec (sep : UInt8) (hsep : sep ≠ 0) (dq : Bool) :
    ∀ fuel (s : State), s.input.size + 1 ≤ s.pos + fuel → StrSpec sep s (readStringLoop sep dq fuel s) := by
  intro fuel
  induction fuel with
  | zero =>
    intro s h
    unfold readStringLoop
    exact ⟨rfl, Nat.le_refl _, fun h => (by cases h), fun _ => ⟨by simp at h ⊢; omega, peekAt_of_ge (by simp at h ⊢; omega)⟩⟩
  | succ f ih =>
    intro s h
    unfold readStringLoop
    simp only [readChar_snd, readChar_fst, readUnicode16_snd, readUnicode32_snd]
    by_cases hlt : s.pos < s.input.size
    · -- a real byte: every branch either stops or recurses further right
      have recur : ∀ p' pre, s.pos < p' → StrSpec sep s (consBuf pre (readStringLoop sep dq f { s with pos := p' })) :=
        fun p' pre hk => StrSpec.step (ih _ (by simp; omega)) (by omega)
      by_cases c1 : (dq && peekAt s.input s.pos == 92) = true
      · simp only [c1, ↓reduceIte]
        by_cases c2 : (peekAt s.input (s.pos + 1) == 117) = true
        · simp only [c2, ↓reduceIte]; exact recur _ _ (by omega)
        · simp only [c2, Bool.false_eq_true, ↓reduceIte]
          by_cases c3 : (peekAt s.input (s.pos + 1) == 85) = true
          · simp only [c3, ↓reduceIte]; exact recur _ _ (by omega)
          · simp only [c3, Bool.false_eq_true, ↓reduceIte]
            obtain ⟨p', hp', he⟩ := readEscape_snd (peekAt s.input (s.pos + 1)) { s with pos := s.pos + 1 + 1 }
            rw [he]; exact recur _ _ (by simp at hp'; omega)
      · simp only [c1, Bool.false_eq_true, ↓reduceIte]
        by_cases c2 : (peekAt s.input s.pos == sep) = true
        · simp only [c2, ↓reduceIte]
          refine ⟨rfl, by simp, fun _ => ⟨by simp, by simp; omega, by simpa using c2⟩, fun h => (by cases h)⟩
        · simp only [c2, Bool.false_eq_true, ↓reduceIte]
          by_cases c3 : (peekAt s.input s.pos == 0) = true
          · simp only [c3, ↓reduceIte]
            refine ⟨rfl, by simp, fun h => (by cases h), fun _ => ⟨by simp, by simpa using c3⟩⟩
          · simp only [c3, Bool.false_eq_true, ↓reduceIte]; exact recur _ _ (by omega)
    · -- at or past the end: the byte read is 0
      have h0 : peekAt s.input s.pos = 0 := peekAt_of_ge (by omega)
      have e1 : ((0 : UInt8) == 92) = false := by decide
      have e2 : ((0 : UInt8) == sep) = false := by
        simp; exact fun h => hsep h.symm
      simp only [h0, e1, e2, Bool.and_false, Bool.false_eq_true, ↓reduceIte]
      refine ⟨rfl, by simp, fun h => (by cases h), fun _ => ⟨by simp, by simpa using h0⟩⟩

structure BlockSpec (input : Array UInt8) (pos0 : Nat) (r : UInt8 × Nat) : Prop where
  ge : pos0 ≤ r.2
  le : r.2 ≤ input.size + 1
  ch : r.1 = peekAt input (r.2 - 1)
  stop : r.1 = 0 ∨ (r.1 = 42 ∧ peekAt input r.2 = 47)
  nonzero : ∀ i, pos0 - 1 ≤ i → i < r.2 - 1 → peekAt input i ≠ 0

theorem blockLoop_spec (input : Array UInt8) : ∀ fuel ch0 pos0, 1 ≤ pos0 → pos0 ≤ input.size + 1 →
    ch0 = peekAt input (pos0 - 1) → input.size + 1 ≤ pos0 + fuel →
    BlockSpec input pos0 (blockLoop input fuel ch0 pos0) := by
  intro fuel
  induction fuel with
  | zero =>
    intro ch0 pos0 h1 h2 h3 h4
    unfold blockLoop
    have : ch0 = 0 := by rw [h3]; exact peekAt_of_ge (by omega)
    exact ⟨Nat.le_refl _, h2, h3, Or.inl this, fun i a b => by simp at b; omega⟩
  | succ f ih =>
    intro ch0 pos0 h1 h2 h3 h4
    unfold blockLoop
    by_cases c : (ch0 != 0 && !(ch0 == 42 && peekAt input pos0 == 47)) = true
    · simp only [c, ↓reduceIte]
      have hne : ch0 ≠ 0 := by
        intro h0; subst h0; simp at c
      have hlt : pos0 - 1 < input.size := lt_size_of_peekAt_ne_zero (by rw [← h3]; exact hne)
      have r := ih (peekAt input pos0) (pos0 + 1) (by omega) (by omega) (by simp) (by omega)
      refine ⟨by have := r.ge; omega, r.le, r.ch, r.stop, ?_⟩
      intro i hi1 hi2
      by_cases hi : i = pos0 - 1
      · subst hi; rw [← h3]; exact hne
      · exact r.nonzero i (by simp; omega) hi2
    · simp only [c, Bool.false_eq_true, ↓reduceIte]
      refine ⟨Nat.le_refl _, h2, h3, ?_, fun i a b => by simp at b; omega⟩
      by_cases h0 : ch0 = 0
      · exact Or.inl h0
      · right
        simp [h0] at c
        exact c

end Grol.Lexer
