import Grol.Map
import GrolProofs.OrdLemmas
/-
The reference finite map (`Spec`): strictly sorted association lists, with the laws that make it a
finite map (lookup after insert / erase, sortedness preserved, insertion order irrelevant), and the
index view used by the two Go representations (`lb` = number of keys below the searched key).
Everything is relative to a comparison `c` that is a total preorder (`∀ a, PW c a`, which C12 proves
for `Cmp`).
-/
namespace Grol.Map
open Grol.Ord

variable {κ ν : Type}

/-- strictly increasing keys (so no two keys are `c`-equal) -/
def Sorted (c : κ → κ → Int) (l : List (κ × ν)) : Prop := l.Pairwise (fun p q => c p.1 q.1 = -1)

theorem Sorted.tail {c : κ → κ → Int} {l : List (κ × ν)} (h : Sorted c l) : Sorted c l.tail :=
  List.Pairwise.sublist (List.tail_sublist l) h

theorem Sorted.slice {c : κ → κ → Int} {l : List (κ × ν)} (h : Sorted c l) (lo hi : Nat) :
    Sorted c ((l.take hi).drop lo) :=
  List.Pairwise.sublist ((List.drop_sublist _ _).trans (List.take_sublist _ _)) h

section
variable (c : κ → κ → Int) (hc : ∀ a, PW c a)
include hc

/-- keys after a key that is above `key` are above `key` -/
theorem above_of_sorted (key k : κ) (v : ν) (rest : List (κ × ν)) (hs : Sorted c ((k, v) :: rest))
    (h : c k key = 1) : ∀ p ∈ rest, c p.1 key = 1 := by
  intro p hp
  have h1 : c k p.1 = -1 := (List.pairwise_cons.1 hs).1 p hp
  have a1 := (hc key).anti k
  have a2 := (hc key).anti p.1
  have := (hc key).lt k p.1 (by omega) h1
  omega

omit hc in
theorem lookup_none_of_above (key : κ) (l : List (κ × ν)) (h : ∀ p ∈ l, c p.1 key = 1) :
    Spec.lookup c key l = none := by
  induction l with
  | nil => rfl
  | cons p rest ih =>
    obtain ⟨k, v⟩ := p
    have := h (k, v) (by simp)
    simp only [Spec.lookup]
    rw [if_neg (by simp at this; omega)]
    exact ih (fun q hq => h q (by simp [hq]))

omit hc in
theorem erase_id_of_above (key : κ) (l : List (κ × ν)) (h : ∀ p ∈ l, c p.1 key = 1) :
    Spec.erase c key l = l := by
  induction l with
  | nil => rfl
  | cons p rest ih =>
    obtain ⟨k, v⟩ := p
    have := h (k, v) (by simp)
    simp only [Spec.erase]
    rw [if_neg (by simp at this; omega), ih (fun q hq => h q (by simp [hq]))]

omit hc in
theorem insert_cons_eq {key k : κ} (value v : ν) (rest : List (κ × ν)) (h : c k key = 0) :
    Spec.insert c key value ((k, v) :: rest) = (k, value) :: rest := by
  rw [Spec.insert, if_pos h]

omit hc in
theorem insert_cons_gt {key k : κ} (value v : ν) (rest : List (κ × ν)) (h : c k key = 1) :
    Spec.insert c key value ((k, v) :: rest) = (key, value) :: (k, v) :: rest := by
  rw [Spec.insert, if_neg (by omega), if_pos h]

omit hc in
theorem insert_cons_lt {key k : κ} (value v : ν) (rest : List (κ × ν)) (h : c k key = -1) :
    Spec.insert c key value ((k, v) :: rest) = (k, v) :: Spec.insert c key value rest := by
  rw [Spec.insert, if_neg (by omega), if_neg (by omega)]

theorem sorted_insert (key : κ) (value : ν) (l : List (κ × ν)) (hs : Sorted c l) :
    Sorted c (Spec.insert c key value l) ∧
    (∀ p ∈ Spec.insert c key value l, p ∈ l ∨ p.1 = key ∨ ∃ q ∈ l, q.1 = p.1) := by
  induction l with
  | nil => simp [Spec.insert, Sorted]
  | cons p rest ih =>
    obtain ⟨k, v⟩ := p
    have hp := List.pairwise_cons.1 hs
    rcases (hc k).sign key with hlt | h0 | h1
    · rw [insert_cons_lt c _ _ _ hlt]
      have ih' := ih hp.2
      refine ⟨List.pairwise_cons.2 ⟨?_, ih'.1⟩, ?_⟩
      · intro q hq
        rcases ih'.2 q hq with hq | hq | ⟨r, hr, hrq⟩
        · exact hp.1 q hq
        · rw [hq]; exact hlt
        · rw [← hrq]; exact hp.1 r hr
      · intro q hq
        simp at hq
        rcases hq with rfl | hq
        · left; simp
        · rcases ih'.2 q hq with hq | hq | ⟨r, hr, hrq⟩
          · left; simp [hq]
          · right; left; exact hq
          · right; right; exact ⟨r, by simp [hr], hrq⟩
    · rw [insert_cons_eq c _ _ _ h0]
      refine ⟨List.pairwise_cons.2 ⟨fun q hq => hp.1 q hq, hp.2⟩, ?_⟩
      intro q hq
      simp at hq
      rcases hq with rfl | hq
      · right; right; exact ⟨(k, v), by simp, rfl⟩
      · left; simp [hq]
    · rw [insert_cons_gt c _ _ _ h1]
      refine ⟨List.pairwise_cons.2 ⟨?_, hs⟩, ?_⟩
      · intro q hq
        have a1 := (hc key).anti k
        simp at hq
        rcases hq with rfl | hq
        · simp; omega
        · have := above_of_sorted c hc key k v rest hs h1 q hq
          have a2 := (hc key).anti q.1
          simp; omega
      · intro q hq
        simp at hq
        rcases hq with rfl | rfl | hq
        · right; left; rfl
        · left; simp
        · left; simp [hq]

omit hc in
theorem sorted_erase (key : κ) (l : List (κ × ν)) (hs : Sorted c l) : Sorted c (Spec.erase c key l) := by
  have : ∀ l : List (κ × ν), (Spec.erase c key l).Sublist l := by
    intro l
    induction l with
    | nil => exact List.Sublist.refl _
    | cons p rest ih =>
      obtain ⟨k, v⟩ := p
      simp only [Spec.erase]
      split
      · exact List.sublist_cons_self _ _
      · exact ih.cons_cons _
  exact List.Pairwise.sublist (this l) hs

theorem lookup_insert (key : κ) (value : ν) (k' : κ) (l : List (κ × ν)) (hs : Sorted c l) :
    Spec.lookup c k' (Spec.insert c key value l) = if c key k' = 0 then some value else Spec.lookup c k' l := by
  induction l with
  | nil => simp [Spec.insert, Spec.lookup]
  | cons p rest ih =>
    obtain ⟨k, v⟩ := p
    rcases (hc k).sign key with hlt | h0 | h1
    · rw [insert_cons_lt c _ _ _ hlt]
      simp only [Spec.lookup, ih (List.pairwise_cons.1 hs).2]
      by_cases hk : c k k' = 0
      · have : c key k' ≠ 0 := by
          intro h
          have := (hc k).eqR key k' h
          omega
        simp [hk, this]
      · simp [hk]
    · rw [insert_cons_eq c _ _ _ h0]
      simp only [Spec.lookup]
      rw [(hc k).eqL key k' h0]
      split <;> rfl
    · rw [insert_cons_gt c _ _ _ h1]; simp only [Spec.lookup]

theorem lookup_erase (key k' : κ) (l : List (κ × ν)) (hs : Sorted c l) :
    Spec.lookup c k' (Spec.erase c key l) = if c key k' = 0 then none else Spec.lookup c k' l := by
  induction l with
  | nil => simp [Spec.erase, Spec.lookup]
  | cons p rest ih =>
    obtain ⟨k, v⟩ := p
    have hp := List.pairwise_cons.1 hs
    simp only [Spec.erase]
    by_cases h0 : c k key = 0
    · rw [if_pos h0]
      simp only [Spec.lookup]
      rw [← (hc k).eqL key k' h0]
      by_cases hk : c k k' = 0
      · simp only [hk, if_true]
        -- no later key is equal to k'
        apply lookup_none_of_above c
        intro q hq
        have h1 : c k q.1 = -1 := hp.1 q hq
        have := (hc k).eqL k' q.1 hk
        have a := (hc k').anti q.1
        omega
      · simp [hk]
    · rw [if_neg h0]
      simp only [Spec.lookup, ih hp.2]
      by_cases hk : c k k' = 0
      · have : c key k' ≠ 0 := by
          intro h
          have := (hc k).eqR key k' h
          omega
        simp [hk, this]
      · simp [hk]

/-- the smaller key first or second: walk down to where `k1` goes; from there on `k2` only meets larger keys -/
theorem insert_comm_lt (k1 k2 : κ) (v1 v2 : ν) (h : c k1 k2 = -1) (l : List (κ × ν)) :
    Spec.insert c k1 v1 (Spec.insert c k2 v2 l) = Spec.insert c k2 v2 (Spec.insert c k1 v1 l) := by
  have h21 : c k2 k1 = 1 := by rw [(hc k1).anti k2, h]; rfl
  induction l with
  | nil => rw [Spec.insert, Spec.insert, insert_cons_gt c _ _ _ h21, insert_cons_lt c _ _ _ h, Spec.insert]
  | cons p rest ih =>
    obtain ⟨k, v⟩ := p
    rcases (hc k).sign k1 with hk1 | hk1 | hk1
    · have hk2 := (hc k).lt k1 k2 hk1 h
      rw [insert_cons_lt c _ _ _ hk2, insert_cons_lt c _ _ _ hk1, insert_cons_lt c _ _ _ hk1,
        insert_cons_lt c _ _ _ hk2, ih]
    · have hk2 : c k k2 = -1 := by rw [(hc k).eqL k1 k2 hk1, h]
      rw [insert_cons_lt c _ _ _ hk2, insert_cons_eq c _ _ _ hk1, insert_cons_eq c _ _ _ hk1,
        insert_cons_lt c _ _ _ hk2]
    · rw [insert_cons_gt c v1 _ _ hk1, insert_cons_lt c _ _ _ h]
      rcases (hc k).sign k2 with hk2 | hk2 | hk2
      · rw [insert_cons_lt c _ _ _ hk2, insert_cons_gt c _ _ _ hk1]
      · rw [insert_cons_eq c _ _ _ hk2, insert_cons_gt c _ _ _ hk1]
      · rw [insert_cons_gt c _ _ _ hk2, insert_cons_gt c _ _ _ h21]

/-- inserting two different keys commutes: the result does not depend on insertion order -/
theorem insert_comm (k1 k2 : κ) (v1 v2 : ν) (l : List (κ × ν)) (hne : c k1 k2 ≠ 0) :
    Spec.insert c k1 v1 (Spec.insert c k2 v2 l) = Spec.insert c k2 v2 (Spec.insert c k1 v1 l) := by
  rcases (hc k1).sign k2 with h | h | h
  · exact insert_comm_lt c hc k1 k2 v1 v2 h l
  · exact absurd h hne
  · exact (insert_comm_lt c hc k2 k1 v2 v1 (by rw [(hc k1).anti k2, h]) l).symm

/-! ### the index view: `lb` = number of keys strictly below `key` -/

/-- lower bound: on a sorted list the keys below `key` form a prefix -/
def lb (key : κ) : List (κ × ν) → Nat
  | [] => 0
  | (k, _) :: rest => if c k key = -1 then lb key rest + 1 else 0

/-- what both `get`s compute: the value at index `lb` if its key is `c`-equal, and `lb` -/
def specGet (key : κ) (l : List (κ × ν)) : Option ν × Nat :=
  (match l[lb c key l]? with
   | some (k, v) => if c k key = 0 then some v else none
   | none => none, lb c key l)

end

end Grol.Map
