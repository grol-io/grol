import GrolProofs.RenQEnv
import GrolProofs.RenOps
/-
C04: in the quiet simulation a clean value is dereferenced alike, so the operators on values
(lean/Grol/Eval/Ops.lean, `RenOps.lean`) give renamed and clean results from renamed and clean operands.
-/
namespace Grol.R
open Grol.E

theorem simQ_deref (P : Qp) : (simQCalc P).Deref := fun o hR hc => qsim_valueOf hR o hc

variable {P : Qp} {s t : St}

theorem qsim_equalsM (hR : StRq P s t) (a b : Obj) (hca : clean P a) (hcb : clean P b) :
    SimQ P (equalsM (ren P.σ a) (ren P.σ b)) (equalsM a b) s t (fun x y => x = y) :=
  (simQCalc P).equalsM (simQ_deref P) hR a b hca hcb

theorem qsim_evalInfixOp (hR : StRq P s t) (op : String) (left right : Obj)
    (hcl : clean P left) (hcr : clean P right) :
    SimQ P (evalInfixOp op (ren P.σ left) (ren P.σ right)) (evalInfixOp op left right) s t (QOq P) :=
  (simQCalc P).evalInfixOp (simQ_deref P) hR op left right hcl hcr

theorem qsim_objFirst (hR : StRq P s t) (o : Obj) (hco : clean P o) :
    SimQ P (objFirst (ren P.σ o)) (objFirst o) s t (QOq P) :=
  (simQCalc P).objFirst hR o hco

theorem qsim_objRest (hR : StRq P s t) (o : Obj) (hco : clean P o) :
    SimQ P (objRest (ren P.σ o)) (objRest o) s t (QOq P) :=
  (simQCalc P).objRest hR o hco

theorem qsim_indexIdx (hR : StRq P s t) (left index : Obj) (hcl : clean P left) :
    SimQ P (indexIdx (ren P.σ left) (ren P.σ index)) (indexIdx left index) s t (QOq P) :=
  (simQCalc P).indexIdx hR left index hcl

end Grol.R
