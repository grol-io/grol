import GrolProofs.RenBase
/-
C10 (two-run simulation): the pure value operations do not look at frame indices.
-/
namespace Grol.R
open Grol.E

mutual
theorem cmp_ren (σ : Sh) : ∀ (a b : Obj), cmp (ren σ a) (ren σ b) = cmp a b
  | a, b => by
    cases a <;> cases b
    all_goals first
      | rfl
      | skip
    · -- array
      rename_i x y
      simp only [ren]
      unfold cmp
      simp only [renL_length]
      rw [cmpList_ren σ x y]
    · -- map
      rename_i b1 x b2 y
      simp only [ren]
      unfold cmp
      simp only [renP_length]
      rw [cmpPairs_ren σ x y]
    · -- ret
      rename_i x k1 y k2
      simp only [ren]
      unfold cmp
      exact cmp_ren σ x y
theorem cmpList_ren (σ : Sh) : ∀ (a b : List Obj), cmpList (renL σ a) (renL σ b) = cmpList a b
  | [], [] => rfl
  | [], _ :: _ => rfl
  | _ :: _, [] => rfl
  | x :: xs, y :: ys => by
    simp only [renL]
    unfold cmpList
    rw [cmp_ren σ x y, cmpList_ren σ xs ys]
theorem cmpPairs_ren (σ : Sh) : ∀ (a b : List (Obj × Obj)), cmpPairs (renP σ a) (renP σ b) = cmpPairs a b
  | [], [] => rfl
  | [], _ :: _ => rfl
  | _ :: _, [] => rfl
  | (ka, va) :: xs, (kb, vb) :: ys => by
    simp only [renP]
    unfold cmpPairs
    rw [cmp_ren σ ka kb, cmp_ren σ va vb, cmpPairs_ren σ xs ys]
end

mutual
theorem inspect_ren (σ : Sh) : ∀ (o : Obj), inspect (ren σ o) = inspect o
  | .array els => by simp only [ren]; unfold inspect; rw [inspectList_ren σ els]
  | .map _ kvs => by simp only [ren]; unfold inspect; rw [inspectPairs_ren σ kvs]
  | .ret v _ => by simp only [ren]; unfold inspect; exact inspect_ren σ v
  | .func f => rfl
  | .ref .. => rfl
  | .null | .bool _ | .int _ | .float _ | .str _ | .ext _ | .error _ | .quote _ => rfl
theorem inspectList_ren (σ : Sh) : ∀ (l : List Obj), inspectList (renL σ l) = inspectList l
  | [] => rfl
  | [x] => by simp only [renL]; unfold inspectList; exact inspect_ren σ x
  | x :: y :: ys => by
    simp only [renL]
    unfold inspectList
    rw [inspect_ren σ x]
    have := inspectList_ren σ (y :: ys)
    simp only [renL] at this
    rw [this]
theorem inspectPairs_ren (σ : Sh) : ∀ (l : List (Obj × Obj)), inspectPairs (renP σ l) = inspectPairs l
  | [] => rfl
  | [(k, v)] => by simp only [renP]; unfold inspectPairs; rw [inspect_ren σ k, inspect_ren σ v]
  | (k, v) :: y :: ys => by
    obtain ⟨k2, v2⟩ := y
    simp only [renP]
    unfold inspectPairs
    rw [inspect_ren σ k, inspect_ren σ v]
    have := inspectPairs_ren σ ((k2, v2) :: ys)
    simp only [renP] at this
    rw [this]
end

mutual
theorem hashable_ren (σ : Sh) (cfg : Cfg) : ∀ (o : Obj), hashable cfg (ren σ o) = hashable cfg o
  | .array els => by simp only [ren]; unfold hashable; rw [renL_length, hashableList_ren σ cfg els]
  | .map _ kvs => by simp only [ren]; unfold hashable; rw [hashablePairs_ren σ cfg kvs]
  | .ret .. | .func _ | .ref .. | .null | .bool _ | .int _ | .float _ | .str _ | .ext _ | .error _ | .quote _ => rfl
theorem hashableList_ren (σ : Sh) (cfg : Cfg) : ∀ (l : List Obj), hashableList cfg (renL σ l) = hashableList cfg l
  | [] => rfl
  | x :: xs => by simp only [renL]; unfold hashableList; rw [hashable_ren σ cfg x, hashableList_ren σ cfg xs]
theorem hashablePairs_ren (σ : Sh) (cfg : Cfg) :
    ∀ (l : List (Obj × Obj)), hashablePairs cfg (renP σ l) = hashablePairs cfg l
  | [] => rfl
  | (k, v) :: xs => by
    simp only [renP]; unfold hashablePairs
    rw [hashable_ren σ cfg k, hashable_ren σ cfg v, hashablePairs_ren σ cfg xs]
end

mutual
theorem keyEq_ren_left (σ : Sh) : ∀ (a x : Obj), keyEq (ren σ a) x = keyEq a x
  | .array l, x => by
    cases x with
    | array m => simp only [ren]; unfold keyEq; exact keyEqList_ren_left σ l m
    | _ => rfl
  | .map _ l, x => by
    cases x with
    | map _ m => simp only [ren]; unfold keyEq; exact keyEqPairs_ren_left σ l m
    | _ => rfl
  | .func _, x | .ref .., x => by cases x <;> rfl
  | .ret .., _ | .null, _ | .bool _, _ | .int _, _ | .float _, _ | .str _, _ | .ext _, _ | .error _, _ | .quote _, _ => rfl
theorem keyEqList_ren_left (σ : Sh) : ∀ (a x : List Obj), keyEqList (renL σ a) x = keyEqList a x
  | [], [] => rfl
  | [], _ :: _ => rfl
  | _ :: _, [] => rfl
  | a :: as, b :: bs => by
    simp only [renL]; unfold keyEqList; rw [keyEq_ren_left σ a b, keyEqList_ren_left σ as bs]
theorem keyEqPairs_ren_left (σ : Sh) : ∀ (a x : List (Obj × Obj)), keyEqPairs (renP σ a) x = keyEqPairs a x
  | [], [] => rfl
  | [], _ :: _ => rfl
  | _ :: _, [] => rfl
  | (ka, va) :: as, (kb, vb) :: bs => by
    simp only [renP]; unfold keyEqPairs
    rw [keyEq_ren_left σ ka kb, keyEq_ren_left σ va vb, keyEqPairs_ren_left σ as bs]
end

mutual
theorem keyEq_ren_right (σ : Sh) : ∀ (a x : Obj), keyEq a (ren σ x) = keyEq a x
  | a, .array m => by
    cases a with
    | array l => simp only [ren]; unfold keyEq; exact keyEqList_ren_right σ l m
    | _ => rfl
  | a, .map _ m => by
    cases a with
    | map _ l => simp only [ren]; unfold keyEq; exact keyEqPairs_ren_right σ l m
    | _ => rfl
  | a, .func _ | a, .ref .. | a, .ret .. => by cases a <;> rfl
  | _, .null | _, .bool _ | _, .int _ | _, .float _ | _, .str _ | _, .ext _ | _, .error _ | _, .quote _ => rfl
theorem keyEqList_ren_right (σ : Sh) : ∀ (a x : List Obj), keyEqList a (renL σ x) = keyEqList a x
  | [], [] => rfl
  | [], _ :: _ => rfl
  | _ :: _, [] => rfl
  | a :: as, b :: bs => by
    simp only [renL]; unfold keyEqList; rw [keyEq_ren_right σ a b, keyEqList_ren_right σ as bs]
theorem keyEqPairs_ren_right (σ : Sh) : ∀ (a x : List (Obj × Obj)), keyEqPairs a (renP σ x) = keyEqPairs a x
  | [], [] => rfl
  | [], _ :: _ => rfl
  | _ :: _, [] => rfl
  | (ka, va) :: as, (kb, vb) :: bs => by
    simp only [renP]; unfold keyEqPairs
    rw [keyEq_ren_right σ ka kb, keyEq_ren_right σ va vb, keyEqPairs_ren_right σ as bs]
end

mutual
theorem sameTypes_ren (σ : Sh) : ∀ (a b : Obj), sameTypes (ren σ a) (ren σ b) = sameTypes a b
  | .array l, b => by
    cases b with
    | array m => simp only [ren]; unfold sameTypes; exact sameTypesList_ren σ l m
    | _ => rfl
  | .map _ l, b => by
    cases b with
    | map _ m => simp only [ren]; unfold sameTypes; exact sameTypesPairs_ren σ l m
    | _ => rfl
  -- off the two container cases `sameTypes` compares `typeNum`, which `ren` keeps
  | .func _, b | .ret .., b | .ref .., b | .null, b | .bool _, b | .int _, b | .float _, b | .str _, b
  | .ext _, b | .error _, b | .quote _, b =>
    congrArg (_ == ·) (ren_typeNum σ b)
theorem sameTypesList_ren (σ : Sh) : ∀ (a b : List Obj), sameTypesList (renL σ a) (renL σ b) = sameTypesList a b
  | [], [] => rfl
  | [], _ :: _ => rfl
  | _ :: _, [] => rfl
  | a :: as, b :: bs => by
    simp only [renL]; unfold sameTypesList; rw [sameTypes_ren σ a b, sameTypesList_ren σ as bs]
theorem sameTypesPairs_ren (σ : Sh) :
    ∀ (a b : List (Obj × Obj)), sameTypesPairs (renP σ a) (renP σ b) = sameTypesPairs a b
  | [], [] => rfl
  | [], _ :: _ => rfl
  | _ :: _, [] => rfl
  | (ka, va) :: as, (kb, vb) :: bs => by
    simp only [renP]; unfold sameTypesPairs
    rw [sameTypes_ren σ ka kb, sameTypes_ren σ va vb, sameTypesPairs_ren σ as bs]
end

mutual
theorem holdsFunc_ren (σ : Sh) : ∀ (o : Obj), holdsFunc (ren σ o) = holdsFunc o
  | .array els => by simp only [ren]; unfold holdsFunc; exact holdsFuncList_ren σ els
  | .map _ kvs => by simp only [ren]; unfold holdsFunc; exact holdsFuncPairs_ren σ kvs
  | .ret .. | .func _ | .ref .. | .null | .bool _ | .int _ | .float _ | .str _ | .ext _ | .error _ | .quote _ => rfl
theorem holdsFuncList_ren (σ : Sh) : ∀ (l : List Obj), holdsFuncList (renL σ l) = holdsFuncList l
  | [] => rfl
  | x :: xs => by simp only [renL]; unfold holdsFuncList; rw [holdsFunc_ren σ x, holdsFuncList_ren σ xs]
theorem holdsFuncPairs_ren (σ : Sh) : ∀ (l : List (Obj × Obj)), holdsFuncPairs (renP σ l) = holdsFuncPairs l
  | [] => rfl
  | (k, v) :: xs => by
    simp only [renP]; unfold holdsFuncPairs
    rw [holdsFunc_ren σ k, holdsFunc_ren σ v, holdsFuncPairs_ren σ xs]
end

/-! ### maps -/

theorem mapFind_go_ren (σ : Sh) (key : Obj) : ∀ (kvs : List (Obj × Obj)) (i : Nat),
    mapFind.go (ren σ key) (renP σ kvs) i = (mapFind.go key kvs i).map (fun p => (p.1.map (ren σ), p.2))
  | [], i => rfl
  | (k, v) :: rest, i => by
    simp only [renP]
    unfold mapFind.go
    rw [cmp_ren σ k key]
    cases cmp k key with
    | error e => rfl
    | ok c =>
      simp only [bind, Except.bind]
      split
      · rfl
      · split
        · rfl
        · exact mapFind_go_ren σ key rest (i + 1)

theorem mapGet_ren (σ : Sh) (kvs : List (Obj × Obj)) (key : Obj) :
    mapGet (renP σ kvs) (ren σ key) = (mapGet kvs key).map (Option.map (ren σ)) := by
  unfold mapGet mapFind
  rw [mapFind_go_ren]
  cases mapFind.go key kvs 0 <;> rfl

theorem renP_getElem? (σ : Sh) (kvs : List (Obj × Obj)) (i : Nat) :
    (renP σ kvs)[i]? = (kvs[i]?).map (fun kv => (ren σ kv.1, ren σ kv.2)) := by
  rw [renP_eq]; simp

theorem oldKey_ren (σ : Sh) (kvs : List (Obj × Obj)) (i : Nat) (key : Obj) :
    mapSet.oldKey (renP σ kvs) i (ren σ key) = ren σ (mapSet.oldKey kvs i key) := by
  unfold mapSet.oldKey
  rw [renP_getElem?]
  cases kvs[i]? with
  | none => rfl
  | some kv => rfl

theorem mapSet_ren (σ : Sh) (cfg : Cfg) (big : Bool) (kvs : List (Obj × Obj)) (key val : Obj) :
    mapSet cfg big (renP σ kvs) (ren σ key) (ren σ val) =
      (mapSet cfg big kvs key val).map (fun p => (p.1, renP σ p.2)) := by
  unfold mapSet mapFind
  rw [mapFind_go_ren]
  cases mapFind.go key kvs 0 with
  | error e => rfl
  | ok r =>
    obtain ⟨found, i⟩ := r
    cases found with
    | some w =>
      simp only [bind, Except.bind, Except.map, Option.map, pure, Except.pure]
      rw [oldKey_ren]
      congr 2
      rw [renP_eq, renP_eq, List.map_set]
    | none =>
      simp only [bind, Except.bind, Except.map, Option.map, pure, Except.pure]
      congr 2
      · simp [renP_eq]
      · simp [renP_eq, List.map_take, List.map_drop]

theorem map_eraseIdx' {α β : Type} (f : α → β) : ∀ (l : List α) (i : Nat), (l.map f).eraseIdx i = (l.eraseIdx i).map f
  | [], _ => rfl
  | _ :: _, 0 => rfl
  | x :: xs, i + 1 => by simp only [List.map_cons, List.eraseIdx_cons_succ]; rw [map_eraseIdx' f xs i]

theorem mapDelete_ren (σ : Sh) (kvs : List (Obj × Obj)) (key : Obj) :
    mapDelete (renP σ kvs) (ren σ key) = (mapDelete kvs key).map (Option.map (renP σ)) := by
  unfold mapDelete mapFind
  rw [mapFind_go_ren]
  cases mapFind.go key kvs 0 with
  | error e => rfl
  | ok r =>
    obtain ⟨found, i⟩ := r
    cases found with
    | some w =>
      simp only [bind, Except.bind, Except.map, Option.map, pure, Except.pure]
      congr 2
      rw [renP_eq, renP_eq, map_eraseIdx']
    | none => rfl

theorem mapAppend_go_ren (σ : Sh) (cfg : Cfg) : ∀ (r : List (Obj × Obj)) (acc : Bool × List (Obj × Obj)),
    mapAppend.go cfg (acc.1, renP σ acc.2) (renP σ r) = (mapAppend.go cfg acc r).map (fun p => (p.1, renP σ p.2))
  | [], acc => rfl
  | (k, v) :: rest, acc => by
    simp only [renP]
    unfold mapAppend.go
    simp only
    rw [mapSet_ren]
    cases mapSet cfg acc.1 acc.2 k v with
    | error e => rfl
    | ok acc' =>
      simp only [bind, Except.bind, Except.map]
      exact mapAppend_go_ren σ cfg rest acc'

theorem mapAppend_ren (σ : Sh) (cfg : Cfg) (lbig : Bool) (l r : List (Obj × Obj)) :
    mapAppend cfg lbig (renP σ l) (renP σ r) = (mapAppend cfg lbig l r).map (fun p => (p.1, renP σ p.2)) := by
  unfold mapAppend
  rw [renP_length]
  exact mapAppend_go_ren σ cfg r (lbig || r.length > cfg.maxSmallMap, l)

theorem makeFirst_ren (σ : Sh) (k v : Obj) : makeFirst (ren σ k) (ren σ v) = ren σ (makeFirst k v) := rfl

end Grol.R
