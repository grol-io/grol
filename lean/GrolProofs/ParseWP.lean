import GrolProofs.ParseNoPanic
import GrolProofs.PrintNoPanic
/-
C08, what the printer is handed: a weakest-precondition calculus over the parser monad (partial correctness: `wp` is
`True` on a panic and at the end of the fuel) and the assertions of the proof of
"no error and no continuation ⇒ no missing child, every operator token has a precedence".
-/
namespace Grol.Parser
open Grol.Generated Grol.Printer

/-- "dirty"; never undone: the three state writers `nextToken`, `setCont`, `pushErr` keep it -/
def D (st : PState) : Prop := st.errors ≠ [] ∨ st.cont = true

/-- the look-ahead situation of `parseExpression`'s silent nil: the next token is `=>` -/
def L (st : PState) : Prop := st.peek.type = .LAMBDA

def GoodO (o : ONode) : Prop := noNilO o = true ∧ precOKO o = true

def GoodL (l : NList) : Prop := noNilL l = true ∧ precOKL l = true

def GoodS (b : Stmts) : Prop := noNilS b = true ∧ precOKS b = true

/-- a node whose root token is neither an identifier nor `..`: `okParamList` rejects it as a lambda parameter -/
def PBO : ONode → Prop
  | none => False
  | some n => n.tok.type ≠ .IDENT ∧ n.tok.type ≠ .DOTDOT

/-- the open-ended `n:` is only produced right before a `]` -/
def OC (r : ONode) (st : PState) : Prop :=
  ∀ t l, r = some (.infix t l none) → D st ∨ st.peek.type = .RBRACKET ∨ L st

def wp (m : PM α) (Q : α → PState → Prop) (st : PState) : Prop :=
  match m st with
  | .ok (a, st') => Q a st'
  | _ => True

theorem wp_bind (m : PM α) (f : α → PM β) (Q : β → PState → Prop) (st : PState) :
    wp (m >>= f) Q st ↔ wp m (fun a st' => wp (f a) Q st') st := by
  show wp (PM.bind m f) Q st ↔ _
  unfold wp PM.bind
  cases m st with
  | ok r => obtain ⟨a, st'⟩ := r; exact Iff.rfl
  | goPanic p => exact Iff.rfl
  | outOfFuel => exact Iff.rfl

theorem wp_pure (a : α) (Q : α → PState → Prop) (st : PState) : wp (pure a : PM α) Q st ↔ Q a st := Iff.rfl
theorem wp_getSt (Q : PState → PState → Prop) (st : PState) : wp getSt Q st ↔ Q st st := Iff.rfl
theorem wp_outOfFuel (Q : α → PState → Prop) (st : PState) : wp (outOfFuel : PM α) Q st ↔ True := Iff.rfl
theorem wp_goPanic (p : PanicSite) (Q : α → PState → Prop) (st : PState) : wp (goPanic p : PM α) Q st ↔ True := Iff.rfl

theorem wp_nextToken (s : TokStream) (Q : Unit → PState → Prop) (st : PState) :
    wp (nextToken s) Q st ↔ Q () (advance s st) := Iff.rfl
theorem wp_setCont (Q : Unit → PState → Prop) (st : PState) : wp setCont Q st ↔ Q () { st with cont := true } := Iff.rfl
theorem wp_pushErr (e : ErrKind) (Q : Unit → PState → Prop) (st : PState) :
    wp (pushErr e) Q st ↔ Q () { st with errors := e :: st.errors } := Iff.rfl

theorem wp_ite (c : Prop) [Decidable c] (a b : PM α) (Q : α → PState → Prop) (st : PState) :
    wp (if c then a else b) Q st ↔ (if c then wp a Q st else wp b Q st) := by split <;> exact Iff.rfl

theorem wp_conseq {m : PM α} {Q Q' : α → PState → Prop} {st : PState} (h : wp m Q st) (hq : ∀ a st', Q a st' → Q' a st') :
    wp m Q' st := by
  unfold wp at *
  cases hm : m st with
  | ok r => obtain ⟨a, st'⟩ := r; rw [hm] at h; exact hq a st' h
  | goPanic p => trivial
  | outOfFuel => trivial

@[simp] theorem advance_cur (s st) : (advance s st).cur = st.peek := rfl
@[simp] theorem advance_errors (s st) : (advance s st).errors = st.errors := rfl
@[simp] theorem advance_cont (s st) : (advance s st).cont = st.cont := rfl
@[simp] theorem advance_prev (s st) : (advance s st).prev = some st.cur := rfl
@[simp] theorem D_advance (s st) : D (advance s st) ↔ D st := Iff.rfl
theorem D.setCont (st : PState) : D { st with cont := true } := .inr rfl
theorem D.pushErr (e : ErrKind) (st : PState) : D { st with errors := e :: st.errors } := .inl (List.cons_ne_nil _ _)

theorem errorLine_wp (s : TokStream) (Q : Unit → PState → Prop) (st : PState) (h : Q () st) : wp (errorLine s) Q st := by
  unfold wp errorLine
  by_cases c : st.peek.lastNl ≤ min st.peek.posAfter s.inputLen
  · simp only [c, if_true]; exact h
  · simp only [c, if_false]

theorem wp_trivial (m : PM α) (st : PState) : wp m (fun _ _ => True) st := by unfold wp; split <;> trivial

/-! One rule per command with the rest of the `do` block as its premise: a proof follows the block top-down. -/

section rules
variable {s : TokStream} {α β : Type} {Q : β → PState → Prop} {st : PState}

theorem wp.pure {a : β} (h : Q a st) : wp (Pure.pure a : PM β) Q st := h
theorem wp.getSt {k : PState → PM β} (h : wp (k st) Q st) : wp (Parser.getSt >>= k) Q st := h
theorem wp.next {k : Unit → PM β} (h : wp (k ()) Q (advance s st)) : wp (nextToken s >>= k) Q st := h
theorem wp.setCont {k : Unit → PM β} (h : wp (k ()) Q { st with cont := true }) : wp (Parser.setCont >>= k) Q st := h
theorem wp.pushErr {e : ErrKind} {k : Unit → PM β} (h : wp (k ()) Q { st with errors := e :: st.errors }) :
    wp (Parser.pushErr e >>= k) Q st := h
theorem wp.errorLine {k : Unit → PM β} (h : wp (k ()) Q st) : wp (Parser.errorLine s >>= k) Q st :=
  (wp_bind _ _ _ _).2 (errorLine_wp s _ st h)
theorem wp.ite {c : Prop} [Decidable c] {a b : PM β} (ha : c → wp a Q st) (hb : ¬c → wp b Q st) :
    wp (if c then a else b) Q st := by
  split
  · exact ha ‹_›
  · exact hb ‹_›
theorem wp.call {m : PM α} {f : α → PM β} {P : α → PState → Prop} (h : wp m P st)
    (hf : ∀ a st', P a st' → wp (f a) Q st') : wp (m >>= f) Q st :=
  (wp_bind _ _ _ _).2 (wp_conseq h hf)

end rules

section expect
variable {s : TokStream}

theorem peekError_spec (t : TokType) (st : PState) : wp (peekError s t) (fun _ => D) st := by
  unfold peekError
  refine wp.errorLine ?_
  split
  · trivial
  · exact D.pushErr _ _

theorem expectPeek_spec (t : TokType) (st : PState) :
    wp (expectPeek s t) (fun b st' => (b = true ∧ st.peek.type = t ∧ st' = advance s st) ∨ (b = false ∧ st.peek.type ≠ t ∧ D st')) st := by
  unfold expectPeek
  exact wp.getSt <| wp.ite (fun hp => wp.next (wp.pure (.inl ⟨rfl, hp, rfl⟩))) fun hp =>
    wp.ite (fun _ => wp.setCont (wp.pure (.inr ⟨rfl, hp, D.setCont _⟩))) fun _ =>
      wp.call (peekError_spec t st) fun _ _ d => wp.pure (.inr ⟨rfl, hp, d⟩)

/-- the desugared `if !(← expectPeek s t) then pure x else rest` -/
theorem wp.expect {t : TokType} {x : α} {rest : PM α} {Q : α → PState → Prop} {st : PState} (hx : ∀ st', D st' → Q x st')
    (h : st.peek.type = t → wp rest Q (advance s st)) :
    wp (expectPeek s t >>= fun b => if (!b) = true then Pure.pure x else rest) Q st := by
  refine wp.call (expectPeek_spec t st) fun b st' h' => ?_
  rcases h' with ⟨rfl, hp, rfl⟩ | ⟨rfl, _, d⟩
  · exact h hp
  · exact hx _ d

theorem wp.and {m : PM α} {P Q : α → PState → Prop} {st : PState} (hp : wp m P st) (hq : wp m Q st) :
    wp m (fun a st' => P a st' ∧ Q a st') st := by
  unfold wp at *
  revert hp hq
  cases m st with
  | ok r => exact fun hp hq => ⟨hp, hq⟩
  | goPanic p => exact fun _ _ => trivial
  | outOfFuel => exact fun _ _ => trivial

end expect

theorem parseComment_keeps {I : PState → Prop} (hc : ∀ st, I st → I { st with cont := true }) (st : PState) (hi : I st) :
    wp parseComment (fun _ => I) st := by
  unfold parseComment
  rw [wp_bind, wp_getSt]
  dsimp only
  split
  · split
    · exact hc st hi
    · exact hi
  · split
    · trivial
    · exact hi

/-- partial correctness: a panic or the end of the fuel counts as keeping `I` -/
theorem ParserClosed.ofInvariant {s : TokStream} {I : PState → Prop} (hn : ∀ st, I st → I (advance s st))
    (hc : ∀ st, I st → I { st with cont := true }) (he : ∀ e st, I st → I { st with errors := e :: st.errors }) :
    ParserClosed s (fun m st => I st → wp m (fun _ => I) st) where
  pure _ _ hi := hi
  bind hm hf hi := (wp_bind _ _ _ _).2 (wp_conseq (hm hi) fun a st' hi' => hf a st' hi')
  getSt_bind h := h
  outOfFuel _ _ := trivial
  nextToken := hn
  setCont := hc
  pushErr := he
  errorLine st hi := errorLine_wp s _ st hi
  parsePostfix := hn
  parseComment st _ := parseComment_keeps hc st

section keeps
variable {s : TokStream} {I : PState → Prop} (h : ParserClosed s (fun m st => I st → wp m (fun _ => I) st))
include h

/-! What `AllClosed` leaves to its user holds of an invariant: `parseComment` only sets `cont`, and `expectPeek`
of any token at worst records an error. -/

theorem ParserClosed.keeps_expectPeek (t : TokType) (st : PState) : I st → wp (expectPeek s t) (fun _ => I) st :=
  h.expectPeek t (fun st hi => wp.errorLine (by split; trivial; exact h.pushErr _ st hi)) st

theorem ParserClosed.keeps_prefixDispatch (n : Nat) (fn : PrefixFn) (st : PState) :
    I st → wp (prefixDispatch s n fn) (fun _ => I) st :=
  (h.all n).prefixDispatch fn st fun _ => parseComment_keeps h.setCont st

theorem ParserClosed.keeps_parseExpressionList (n : Nat) (e : TokType) (st : PState) :
    I st → wp (parseExpressionList s n e) (fun _ => I) st :=
  (h.all n).parseExpressionList e st (h.keeps_expectPeek e)

end keeps

@[simp] theorem GoodO_none : GoodO none ↔ False := by simp [GoodO, noNilO]
@[simp] theorem PBO_none : PBO none ↔ False := Iff.rfl
@[simp] theorem GoodS_none : GoodS none ↔ False := by simp [GoodS, noNilS]
@[simp] theorem GoodS_some (l : NList) : GoodS (some l) ↔ GoodL l := by simp [GoodS, GoodL, noNilS, precOKS]
@[simp] theorem GoodL_nil : GoodL [] ↔ True := by simp [GoodL, noNilL, precOKL]
@[simp] theorem GoodL_cons (x : ONode) (xs : NList) : GoodL (x :: xs) ↔ GoodO x ∧ GoodL xs := by
  simp [GoodL, GoodO, noNilL, precOKL, Bool.and_eq_true]; constructor <;> (intro h; simp_all)

theorem GoodL_append (a b : NList) : GoodL (a ++ b) ↔ GoodL a ∧ GoodL b := by
  induction a with
  | nil => simp
  | cons x xs ih => simp [ih, and_assoc]

@[simp] theorem GoodL_snoc (a : NList) (x : ONode) : GoodL (a ++ [x]) ↔ GoodL a ∧ GoodO x := by simp [GoodL_append]

@[simp] theorem GoodO_ident (t) : GoodO (some (.ident t)) ↔ True := by simp [GoodO, noNilO, precOKO, Node.noNil, precOK]
@[simp] theorem GoodO_intLit (t) : GoodO (some (.intLit t)) ↔ True := by simp [GoodO, noNilO, precOKO, Node.noNil, precOK]
@[simp] theorem GoodO_floatLit (t) : GoodO (some (.floatLit t)) ↔ True := by simp [GoodO, noNilO, precOKO, Node.noNil, precOK]
@[simp] theorem GoodO_strLit (t) : GoodO (some (.strLit t)) ↔ True := by simp [GoodO, noNilO, precOKO, Node.noNil, precOK]
@[simp] theorem GoodO_boolean (t) : GoodO (some (.boolean t)) ↔ True := by simp [GoodO, noNilO, precOKO, Node.noNil, precOK]
@[simp] theorem GoodO_control (t) : GoodO (some (.control t)) ↔ True := by simp [GoodO, noNilO, precOKO, Node.noNil, precOK]
@[simp] theorem GoodO_comment (t a b) : GoodO (some (.comment t a b)) ↔ True := by simp [GoodO, noNilO, precOKO, Node.noNil, precOK]
@[simp] theorem GoodO_post (t p) : GoodO (some (.post t p)) ↔ (lookupPrec t.type).isSome = true := by
  simp [GoodO, noNilO, precOKO, Node.noNil, precOK]
@[simp] theorem GoodO_ret_none (t) : GoodO (some (.ret t none)) ↔ True := by simp [GoodO, noNilO, precOKO, Node.noNil, precOK]
@[simp] theorem GoodO_ret_some (t n) : GoodO (some (.ret t (some n))) ↔ GoodO (some n) := by
  simp [GoodO, noNilO, precOKO, Node.noNil, precOK]
@[simp] theorem GoodO_pre (t r) : GoodO (some (.pre t r)) ↔ GoodO r := by simp [GoodO, noNilO, precOKO, Node.noNil, precOK]
theorem GoodO_infix_none (t l) : GoodO (some (.infix t l none)) ↔ (lookupPrec t.type).isSome = true ∧ GoodO l ∧ t.type = .COLON := by
  simp only [GoodO, noNilO, precOKO, Node.noNil, precOK, Bool.and_eq_true, beq_iff_eq]
  constructor
  · rintro ⟨⟨a, b⟩, ⟨c, d⟩, _⟩; exact ⟨c, ⟨a, d⟩, b⟩
  · rintro ⟨c, ⟨a, d⟩, b⟩; exact ⟨⟨a, b⟩, ⟨c, d⟩, trivial⟩
theorem GoodO_infix_some (t l n) : GoodO (some (.infix t l (some n))) ↔ (lookupPrec t.type).isSome = true ∧ GoodO l ∧ GoodO (some n) := by
  simp [GoodO, noNilO, precOKO, Node.noNil, precOK, Bool.and_eq_true]; constructor <;> (intro h; simp_all)
@[simp] theorem GoodO_forE (t c b) : GoodO (some (.forE t c b)) ↔ GoodO c ∧ GoodS b := by
  simp [GoodO, GoodS, noNilO, precOKO, Node.noNil, precOK, Bool.and_eq_true]; constructor <;> (intro h; simp_all)
theorem GoodO_ifE_none (t c a) : GoodO (some (.ifE t c a none)) ↔ GoodO c ∧ GoodS a := by
  simp [GoodO, GoodS, noNilO, precOKO, precOKS, Node.noNil, precOK, Bool.and_eq_true]; constructor <;> (intro h; simp_all)
theorem GoodO_ifE_some (t c a l) : GoodO (some (.ifE t c a (some l))) ↔ GoodO c ∧ GoodS a ∧ GoodL l := by
  simp [GoodO, GoodS, GoodL, noNilO, precOKO, precOKS, Node.noNil, precOK, Bool.and_eq_true]; constructor <;> (intro h; simp_all)
@[simp] theorem GoodO_builtin (t ps) : GoodO (some (.builtin t ps)) ↔ GoodL ps := by
  simp [GoodO, GoodL, noNilO, precOKO, Node.noNil, precOK]
@[simp] theorem GoodO_func (t nm ps b v l) : GoodO (some (.func t nm ps b v l)) ↔ GoodL ps ∧ GoodS b := by
  simp [GoodO, GoodL, GoodS, noNilO, precOKO, Node.noNil, precOK, Bool.and_eq_true]; constructor <;> (intro h; simp_all)
@[simp] theorem GoodO_call (t f as) : GoodO (some (.call t f as)) ↔ GoodO f ∧ GoodL as := by
  simp [GoodO, GoodL, noNilO, precOKO, Node.noNil, precOK, Bool.and_eq_true]; constructor <;> (intro h; simp_all)
@[simp] theorem GoodO_array (t es) : GoodO (some (.array t es)) ↔ GoodL es := by
  simp [GoodO, GoodL, noNilO, precOKO, Node.noNil, precOK]
@[simp] theorem GoodO_index (t l i) : GoodO (some (.index t l i)) ↔ (lookupPrec t.type).isSome = true ∧ GoodO l ∧ GoodO i := by
  simp [GoodO, noNilO, precOKO, Node.noNil, precOK, Bool.and_eq_true]; constructor <;> (intro h; simp_all)
@[simp] theorem GoodO_mapLit (t kvs) : GoodO (some (.mapLit t kvs)) ↔ GoodL kvs := by
  simp [GoodO, GoodL, noNilO, precOKO, Node.noNil, precOK]
@[simp] theorem GoodO_macroLit (t ps b) : GoodO (some (.macroLit t ps b)) ↔ GoodL ps ∧ GoodS b := by
  simp [GoodO, GoodL, GoodS, noNilO, precOKO, Node.noNil, precOK, Bool.and_eq_true]; constructor <;> (intro h; simp_all)

end Grol.Parser
