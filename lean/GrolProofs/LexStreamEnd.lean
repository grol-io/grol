import GrolProofs.LexStream
/-
The repeated end marker of the lexer model's token stream is EOF (file mode) or EOL (line mode): the
hypothesis of the parser's termination theorem (`Parser.parseProgram_terminates`).
-/
namespace Grol.LexStream
open Grol.Lexer Grol.Generated

theorem tokStream_eof (nc : Grol.Token.Tok → NumClass) (input : Array UInt8) (lineMode : Bool) :
    (tokStream nc input lineMode).eof.type = .EOF ∨ (tokStream nc input lineMode).eof.type = .EOL := by
  have he : (tokStream nc input lineMode).eof
      = entry nc (State.new input lineMode) (markerIdx (input.size + 1) (State.new input lineMode) + 1) := rfl
  rw [he, entry_repeat]
  exact genType_eolEof lineMode

end Grol.LexStream
