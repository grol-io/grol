import GrolProofs.ParseWP
/-
C08, what the printer is handed: every parse function's result is `Good` (no missing child, every operator token
has a precedence) unless the state is dirty (an error was recorded or continuation requested) or the
`… =>` look-ahead is pending (`L`), in which case the caller turns it into an error.
That a dirty state stays dirty (`M`) is an invariant of the three state writers, so it comes from
`ParserClosed.ofInvariant` (`dClosed`) wherever a fact known before a call is needed after it (`wp.callM`); the
walk over the function bodies proves the rest.
-/
namespace Grol.Parser
open Grol.Generated Grol.Printer

variable {s : TokStream}

def M (st st' : PState) : Prop := D st → D st'

theorem dClosed (s : TokStream) : ParserClosed s (fun m st => D st → wp m (fun _ => D) st) :=
  .ofInvariant (fun _ d => d) (fun _ _ => D.setCont _) (fun e _ _ => D.pushErr e _)

theorem wp.withM {m : PM α} {X : α → PState → Prop} {st : PState} (hd : D st → wp m (fun _ => D) st) (h : wp m X st) :
    wp m (fun a st' => M st st' ∧ X a st') st := by
  by_cases d : D st
  · exact wp.and (wp_conseq (hd d) fun _ _ d' _ => d') h
  · exact wp_conseq h fun _ _ h => ⟨fun d' => absurd d' d, h⟩

theorem wp.callM {m : PM α} {f : α → PM β} {P : α → PState → Prop} {Q : β → PState → Prop} {st : PState}
    (hd : D st → wp m (fun _ => D) st) (h : wp m P st) (hf : ∀ a st', M st st' → P a st' → wp (f a) Q st') :
    wp (m >>= f) Q st :=
  wp.call (wp.withM hd h) fun a st' h' => hf a st' h'.1 h'.2

def GoodP (A : Prop) (r : ONode) (st : PState) : Prop := D st ∨ GoodO r ∨ (L st ∧ A)

theorem or_drop {d g x a : Prop} (h : d ∨ g ∨ (x ∧ a)) (hn : ¬x) : d ∨ g := h.imp_right fun h => h.resolve_right fun h => hn h.1
theorem or_both {d a b : Prop} (ha : d ∨ a) (hb : d ∨ b) : d ∨ (a ∧ b) := or_and_left.2 ⟨ha, hb⟩

theorem GoodP.mono {A B : Prop} {r : ONode} {st : PState} (h : GoodP A r st) (f : A → B) : GoodP B r st :=
  h.imp_right (Or.imp_right (And.imp_right f))

theorem GoodP.map {A B X : Prop} {r r' : ONode} {st : PState} (h : GoodP A r st) (hx : D st ∨ X) (f : X → GoodO r → GoodO r')
    (g : A → B) : GoodP B r' st := by
  rcases h with d | gr | ⟨l, a⟩
  · exact .inl d
  · exact hx.imp_right fun x => .inl (f x gr)
  · exact .inr (.inr ⟨l, g a⟩)

theorem GoodL.nil : GoodL [] := GoodL_nil.2 trivial
theorem GoodL.one {x : ONode} (h : GoodO x) : GoodL [x] := (GoodL_cons _ _).2 ⟨h, GoodL.nil⟩

/-- `n:`, the infix node without a right operand -/
def openEnded : ONode → Bool
  | some (.infix _ _ none) => true
  | _ => false

theorem OC_of_closed {r : ONode} {st : PState} (h : openEnded r = false) : OC r st :=
  fun t l e => by subst e; exact Bool.noConfusion h

/-- result of a parse function that never leaves a `=>` pending -/
structure RG (r : ONode) (st : PState) : Prop where
  good : D st ∨ GoodO r
  oc : OC r st

/-- result of an expression-level parse function: a `=>` may be left pending, but only after a result that cannot
be a lambda parameter, so that the lambda then records an error -/
structure R (r : ONode) (st : PState) : Prop where
  good : GoodP (PBO r) r st
  oc : OC r st

theorem RG.dirty {r : ONode} {st : PState} (d : D st) : RG r st := ⟨.inl d, fun _ _ _ => .inl d⟩
theorem R.dirty {r : ONode} {st : PState} (d : D st) : R r st := ⟨.inl d, fun _ _ _ => .inl d⟩
theorem RG.of_good {r : ONode} {st : PState} (g : GoodO r) (h : openEnded r = false) : RG r st :=
  ⟨.inr g, OC_of_closed h⟩
theorem RG.toR {r st} (h : RG r st) : R r st := ⟨h.good.imp_right .inl, h.oc⟩
theorem wp.toR {m : PM ONode} {st : PState} (h : wp m RG st) : wp m R st := wp_conseq h fun _ _ => RG.toR

structure PostE (P : Nat) (st : PState) (r : ONode) (st' : PState) : Prop where
  good : GoodP (r = none ∨ (5 ≤ P ∧ PBO r)) r st'
  oc : OC r st'
  noPrefix : lookup prefixRegs st.cur.type = none → st.cur.type ≠ .EOL → r = none ∧ (D st' ∨ L st')

/-- below the precedence of `=>` only the silent nil is left pending -/
theorem PostE.low {P : Nat} {st st' : PState} {r : ONode} (h : PostE P st r st') (hP : P < 5) : GoodP (r = none) r st' :=
  h.good.mono fun h => h.resolve_right fun h => absurd h.1 (Nat.not_le.2 hP)

structure PostLoop (P : Nat) (r : ONode) (st' : PState) : Prop where
  good : GoodP (5 ≤ P ∧ PBO r) r st'
  oc : OC r st'

structure PostS (st : PState) (r : ONode) (st' : PState) : Prop where
  good : GoodP (r = none) r st'
  lambda : st.cur.type = .LAMBDA → D st' ∨ L st'

def PostB (r : Stmts) (st' : PState) : Prop := D st' ∨ GoodS r

theorem noPrefix_spec (st : PState) : wp (noPrefixParseFnError s) (fun _ => D) st := by
  unfold noPrefixParseFnError
  exact wp.errorLine (D.pushErr _ _)

theorem mapPairError_spec (st : PState) : wp (mapPairError s) RG st := by
  unfold mapPairError
  refine wp.getSt ?_
  dsimp only
  split
  · exact wp.setCont (wp.pure (RG.dirty (D.setCont _)))
  · exact wp.call (peekError_spec _ st) fun _ _ d => wp.pure (RG.dirty d)

theorem parseIdentifier_spec (st : PState) : wp (parseIdentifier s) RG st := by
  unfold parseIdentifier parsePostfixExpression
  refine wp.getSt ?_
  split
  · next hl =>
    have hp := postfix_tokens_have_precedence st.peek.type (by rw [hl]; rfl)
    exact wp.next (wp.getSt (wp.pure (RG.of_good ((GoodO_post _ _).2 hp) rfl)))
  · exact wp.pure (RG.of_good ((GoodO_ident _).2 trivial) rfl)

theorem parseFloatLiteral_spec (st : PState) : wp (parseFloatLiteral s) RG st := by
  unfold parseFloatLiteral
  exact wp.getSt <| wp.ite (fun _ => wp.pure (RG.of_good ((GoodO_floatLit _).2 trivial) rfl)) fun _ =>
    wp.errorLine (wp.pushErr (wp.pure (RG.dirty (D.pushErr _ _))))

theorem parseIntegerLiteral_spec (st : PState) : wp (parseIntegerLiteral s) RG st := by
  unfold parseIntegerLiteral
  exact wp.getSt <| wp.ite (fun _ => wp.pure (RG.of_good ((GoodO_intLit _).2 trivial) rfl)) fun _ => parseFloatLiteral_spec st

theorem parseBoolean_spec (st : PState) : wp parseBoolean RG st :=
  wp.getSt (wp.pure (RG.of_good ((GoodO_boolean _).2 trivial) rfl))
theorem parseStringLiteral_spec (st : PState) : wp parseStringLiteral RG st :=
  wp.getSt (wp.pure (RG.of_good ((GoodO_strLit _).2 trivial) rfl))
theorem parseControlExpression_spec (st : PState) : wp parseControlExpression RG st :=
  wp.getSt (wp.pure (RG.of_good ((GoodO_control _).2 trivial) rfl))

theorem parseComment_spec (st : PState) : wp parseComment RG st := by
  unfold parseComment
  refine wp.getSt ?_
  dsimp only
  exact wp.ite
    (fun _ => wp.ite (fun _ => wp.setCont (wp.pure (RG.dirty (D.setCont _)))) fun _ =>
      wp.pure (RG.of_good ((GoodO_comment _ _ _).2 trivial) rfl))
    fun _ => wp.ite (fun _ => trivial) fun _ => wp.pure (RG.of_good ((GoodO_comment _ _ _).2 trivial) rfl)

theorem parameter_spec (st : PState) : wp (parameter s) (fun r _ => GoodO r) st :=
  wp.getSt (wp.pure ((GoodO_ident _).2 trivial))

theorem parseFunctionParametersLoop_spec : ∀ (fuel : Nat) (acc : NList) (st : PState), GoodL acc →
    wp (parseFunctionParametersLoop s fuel acc) (fun r _ => GoodL r) st
  | 0, _, _, _ => trivial
  | n + 1, acc, st, h => by
    unfold parseFunctionParametersLoop
    exact wp.getSt <| wp.ite
      (fun _ => wp.next <| wp.next <| wp.call (parameter_spec _) fun id _ h0 =>
        parseFunctionParametersLoop_spec n _ _ ((GoodL_snoc _ _).2 ⟨h, h0⟩))
      fun _ => wp.pure h

theorem parseFunctionParameters_spec (fuel : Nat) (st : PState) :
    wp (parseFunctionParameters s fuel) (fun r _ => GoodL r.1) st := by
  unfold parseFunctionParameters
  refine wp.getSt <| wp.ite (fun _ => wp.next (wp.pure GoodL.nil)) fun _ => wp.next <|
    wp.call (parameter_spec _) fun id _ h0 => wp.call (parseFunctionParametersLoop_spec fuel _ _ (GoodL.one h0)) fun ids _ h1 =>
    wp.expect (fun _ _ => GoodL.nil) fun _ => ?_
  split
  · exact wp.pure h1
  · exact wp.errorLine (wp.pushErr (wp.pure GoodL.nil))


theorem tbl_prefix_LAMBDA : lookup prefixRegs .LAMBDA = none := by decide
theorem tbl_infix_LAMBDA : lookup infixRegs .LAMBDA = some .parseLambdaExpression := by decide
theorem tbl_precOf_LAMBDA : precOf .LAMBDA = 5 := by decide
theorem tbl_precOf_RBRACKET : precOf .RBRACKET = 1 := by decide
theorem tbl_infixExpr : ∀ t : TokType, lookup infixRegs t = some .parseInfixExpression →
    t ≠ .IDENT ∧ t ≠ .DOTDOT ∧ t ≠ .LAMBDA ∧ (lookupPrec t).isSome = true :=
  fun _ h => lookup_forall (P := fun t v => v = .parseInfixExpression →
    t ≠ .IDENT ∧ t ≠ .DOTDOT ∧ t ≠ .LAMBDA ∧ (lookupPrec t).isSome = true) (by decide) h rfl
theorem tbl_prefixExpr : ∀ t : TokType, lookup prefixRegs t = some .parsePrefixExpression → t ≠ .IDENT ∧ t ≠ .DOTDOT :=
  fun _ h => lookup_forall (P := fun t v => v = .parsePrefixExpression → t ≠ .IDENT ∧ t ≠ .DOTDOT) (by decide) h rfl
theorem tbl_indexExpr : ∀ t : TokType, lookup infixRegs t = some .parseIndexExpression →
    (t = .LBRACKET ∨ t = .DOT) ∧ (lookupPrec t).isSome = true ∧ t ≠ .LAMBDA :=
  fun _ h => lookup_forall (P := fun t v => v = .parseIndexExpression →
    (t = .LBRACKET ∨ t = .DOT) ∧ (lookupPrec t).isSome = true ∧ t ≠ .LAMBDA) (by decide) h rfl
theorem tbl_callExpr : ∀ t : TokType, lookup infixRegs t = some .parseCallExpression → t = .LPAREN :=
  fun _ h => lookup_forall (P := fun t v => v = .parseCallExpression → t = .LPAREN) (by decide) h rfl
theorem tbl_lambdaExpr : ∀ t : TokType, lookup infixRegs t = some .parseLambdaExpression → t = .LAMBDA :=
  fun _ h => lookup_forall (P := fun t v => v = .parseLambdaExpression → t = .LAMBDA) (by decide) h rfl

theorem okParamList_PB {left : ONode} (more : NList) (h : PBO left) : ∃ t, okParamList (left :: more) = some (t, false) := by
  cases left with
  | none => exact absurd h (by simp)
  | some n =>
    obtain ⟨h1, h2⟩ := h
    unfold okParamList
    simp [h1, h2]

theorem okParamList_ok_none {params : NList} : ¬ (okParamList params = none) := okParamList_ne_none params

theorem PBO_tok {n : Node} {t : TokType} (e : n.tok.type = t) (h1 : t ≠ .IDENT := by decide) (h2 : t ≠ .DOTDOT := by decide) :
    PBO (some n) :=
  ⟨e ▸ h1, e ▸ h2⟩

structure AllSpec (s : TokStream) (n : Nat) : Prop where
  pE : ∀ P st, wp (parseExpression s n P) (PostE P st) st
  pLoop : ∀ P left st, GoodP (PBO left) left st → OC left st → wp (parseExpressionLoop s n P left) (PostLoop P) st
  pPre : ∀ fn st, lookup prefixRegs st.cur.type = some fn → wp (prefixDispatch s n fn) R st
  pInf : ∀ fn left st, lookup infixRegs st.cur.type = some fn →
    (D st ∨ GoodO left ∨ (st.cur.type = .LAMBDA ∧ PBO left)) → wp (infixDispatch s n fn left) R st
  pStmt : ∀ st, wp (parseStatement s n) (PostS st) st
  pRet : ∀ st, wp (parseReturnStatement s n) RG st
  pArr : ∀ st, wp (parseArrayLiteral s n) RG st
  pGrp : ∀ st, wp (parseGroupedExpression s n) R st
  pPfx : ∀ st, lookup prefixRegs st.cur.type = some .parsePrefixExpression → wp (parsePrefixExpression s n) R st
  pLam : ∀ left more st, st.cur.type = .LAMBDA → (D st ∨ (GoodL more ∧ (left = none ∨ GoodO left ∨ PBO left))) →
    wp (parseLambdaMulti s n left more) R st
  pInfix : ∀ left st, lookup infixRegs st.cur.type = some .parseInfixExpression → (D st ∨ GoodO left) →
    wp (parseInfixExpression s n left) R st
  pFor : ∀ st, wp (parseForExpression s n) RG st
  pIf : ∀ st, wp (parseIfExpression s n) RG st
  pBlk : ∀ st, wp (parseBlockStatement s n) PostB st
  pBlkLoop : ∀ acc st, (D st ∨ GoodL acc ∨ st.cur.type = .LAMBDA) → wp (parseBlockLoop s n acc) PostB st
  pFn : ∀ st, wp (parseFunctionLiteral s n) RG st
  pBi : ∀ st, wp (parseBuiltin s n) RG st
  pCall : ∀ f st, (D st ∨ GoodO f) → wp (parseCallExpression s n f) RG st
  pList : ∀ e st, e ≠ .LAMBDA → wp (parseExpressionList s n e) (fun r st' => D st' ∨ ∃ l, r = some l ∧ GoodL l) st
  pListLoop : ∀ args st, (D st ∨ GoodL args ∨ L st) →
    wp (parseExpressionListLoop s n args) (fun r st' => D st' ∨ GoodL r ∨ L st') st
  pIdx : ∀ left st, (st.cur.type = .LBRACKET ∨ st.cur.type = .DOT) → (D st ∨ GoodO left) →
    wp (parseIndexExpression s n left) R st
  pMap : ∀ st, wp (parseMapLiteral s n) RG st
  pMapLoop : ∀ tok kvs st, (D st ∨ GoodL kvs) → wp (parseMapLoop s n tok kvs) RG st
  pMac : ∀ st, wp (parseMacroLiteral s n) RG st

/-- the parameter of `x => …` -/
theorem lam_arg {d x A : Prop} {r : ONode} (h : d ∨ GoodO r ∨ (x ∧ A)) (f : A → r = none ∨ PBO r) :
    d ∨ (GoodL [] ∧ (r = none ∨ GoodO r ∨ PBO r)) :=
  h.imp_right fun h => ⟨GoodL.nil, h.elim (fun g => .inr (.inl g)) fun h => (f h.2).imp_right .inr⟩

theorem snoc_arg {args : NList} {x : ONode} {st : PState} (ha : D st ∨ GoodL args) (hx : GoodP (x = none) x st) :
    D st ∨ GoodL (args ++ [x]) ∨ L st := by
  rcases ha with d | ga
  · exact .inl d
  · exact hx.imp_right (Or.imp (fun gx => (GoodL_snoc _ _).2 ⟨ga, gx⟩) And.left)

theorem getD_good {el : Option NList} (h : ∃ l, el = some l ∧ GoodL l) : GoodL (el.getD []) := by
  obtain ⟨l, rfl, g⟩ := h
  exact g

theorem ret_good {t : Tk} {v : ONode} {st : PState} (h : GoodP (v = none) v st) : D st ∨ GoodO (some (.ret t v)) := by
  rcases h with d | g | ⟨_, rfl⟩
  · exact .inl d
  · cases v with
    | none => exact absurd g GoodO_none.1
    | some n => exact .inr ((GoodO_ret_some _ _).2 g)
  · exact .inr ((GoodO_ret_none _).2 trivial)

theorem GoodO_infix {t : Tk} {l r : ONode} (ht : (lookupPrec t.type).isSome = true) (gl : GoodO l) (gr : GoodO r) :
    GoodO (some (.infix t l r)) := by
  cases r with
  | none => exact absurd gr GoodO_none.1
  | some n => exact (GoodO_infix_some _ _ _).2 ⟨ht, gl, gr⟩

theorem GoodO_ifE {t : Tk} {c : ONode} {a alt : Stmts} (gc : GoodO c) (ga : GoodS a) (galt : GoodS alt) :
    GoodO (some (.ifE t c a alt)) := by
  cases alt with
  | none => exact absurd galt GoodS_none.1
  | some l => exact (GoodO_ifE_some _ _ _ _).2 ⟨gc, ga, (GoodS_some _).1 galt⟩

theorem GoodL_mapInsert (kvs : NList) (k v : ONode) (hk : GoodL kvs) (gk : GoodO k) (gv : GoodO v) : GoodL (mapInsert kvs k v) := by
  unfold mapInsert
  cases k with
  | none => exact absurd gk GoodO_none.1
  | some n => exact (GoodL_append _ _).2 ⟨hk, (GoodL_cons _ _).2 ⟨gk, GoodL.one gv⟩⟩

/-- a `key: value` pair followed by `,` or `}`: the value is missing only right before `]` or with `=>` pending -/
theorem pair_good {P : Nat} {t : Tk} {key value : ONode} {st0 st1 : PState} {kvs : NList}
    (h1 : PostE P st0 (some (.infix t key value)) st1) (hP : P < 5) (hk : D st1 ∨ GoodL kvs)
    (hb : st1.peek.type ≠ .RBRACKET) (hl : ¬ L st1) : D st1 ∨ GoodL (mapInsert kvs key value) := by
  cases value with
  | none => exact .inl ((h1.oc t key rfl).resolve_right fun h => h.elim hb hl)
  | some v =>
    refine (or_both hk (or_drop (h1.low hP) hl)).imp_right fun ⟨gk, g⟩ => ?_
    have g := (GoodO_infix_some _ _ _).1 g
    exact GoodL_mapInsert _ _ _ gk g.2.1 g.2.2

theorem lam_params_good {left : ONode} {more : NList} {st : PState}
    (hp : D st ∨ (GoodL more ∧ (left = none ∨ GoodO left ∨ PBO left))) {t : Option Tk}
    (h : okParamList (match (generalizing := false) left with | none => more | some l => some l :: more) = some (t, true)) :
    D st ∨ GoodL (match (generalizing := false) left with | none => more | some l => some l :: more) := by
  refine hp.imp_right fun ⟨gm, hl⟩ => ?_
  cases left with
  | none => exact gm
  | some l =>
    rcases hl with e | gl | pb
    · cases e
    · exact (GoodL_cons _ _).2 ⟨gl, gm⟩
    · obtain ⟨t', ht'⟩ := okParamList_PB more pb
      rw [ht'] at h; cases h

theorem dClosed_expect (e : TokType) (st : PState) : D st → wp (expectPeek s e) (fun _ => D) st :=
  (dClosed s).keeps_expectPeek e st

section steps
variable {n : Nat} (ih : AllSpec s n)
include ih

theorem step_pE (P : Nat) (st : PState) : wp (parseExpression s (n + 1) P) (PostE P st) st := by
  unfold parseExpression
  refine wp.getSt ?_
  split
  · next he => exact wp.setCont (wp.pure ⟨.inl (D.setCont _), OC_of_closed rfl, fun _ h => absurd he h⟩)
  split
  · -- no prefix function: the silent nil, unless `=>` follows
    have done {st' : PState} (h : D st' ∨ L st') : PostE P st none st' :=
      ⟨h.imp_right fun l => .inr ⟨l, .inl rfl⟩, OC_of_closed rfl, fun _ _ => ⟨rfl, h⟩⟩
    exact wp.ite
      (fun _ => wp.ite (fun _ => wp.setCont (wp.pure (done (.inl (D.setCont _))))) fun _ =>
        wp.call (noPrefix_spec st) fun _ _ d => wp.pure (done (.inl d)))
      fun hn => wp.pure (done (.inr (by simpa [L] using hn)))
  · next fn hl =>
    have hnp {r : ONode} {st' : PState} (h : lookup prefixRegs st.cur.type = none) : st.cur.type ≠ .EOL → r = none ∧ (D st' ∨ L st') :=
      nomatch hl.symm.trans h
    refine (ih.pPre fn st hl).call fun r1 st1 h1 => wp.getSt (wp.ite (fun hc => wp.next ?_) fun _ => ?_)
    · simp only [Bool.and_eq_true, decide_eq_true_eq] at hc
      exact wp_conseq (ih.pLam r1 [] _ hc.1 (lam_arg h1.good .inr)) fun r2 _ h2 =>
        ⟨h2.good.mono fun p => .inr ⟨Nat.le_of_eq hc.2.symm, p⟩, h2.oc, hnp⟩
    · exact wp_conseq (ih.pLoop P r1 st1 h1.good h1.oc) fun r2 _ h2 => ⟨h2.good.mono .inr, h2.oc, hnp⟩

theorem step_pLoop (P : Nat) (left : ONode) (st : PState) (hl : GoodP (PBO left) left st) (hoc : OC left st) :
    wp (parseExpressionLoop s (n + 1) P left) (PostLoop P) st := by
  unfold parseExpressionLoop
  -- `left` is returned as it is: if a `=>` is pending, it stays pending for a caller of precedence 5 or more
  have ret (hL : L st → 5 ≤ P) : wp (Pure.pure left) (PostLoop P) st :=
    wp.pure ⟨hl.imp_right (Or.imp_right fun ⟨l, p⟩ => ⟨l, hL l, p⟩), hoc⟩
  refine wp.getSt (wp.ite (fun _ => ?_) fun hc => ret fun l => ?_)
  · dsimp only
    split
    · next hi => exact ret fun l => by rw [show st.peek.type = _ from l, tbl_infix_LAMBDA] at hi; cases hi
    · next fn hi =>
      refine wp.ite (fun h => ret fun l => ?_) fun _ => wp.ite (fun h => ret fun l => ?_) fun _ => wp.next ?_
      · simp [show st.peek.type = _ from l] at h
      · simp [show st.peek.type = _ from l] at h
      · exact (ih.pInf fn left (advance s st) hi hl).call fun r1 st1 h1 => ih.pLoop P r1 st1 h1.good h1.oc
  · simpa [show st.peek.type = _ from l, tbl_precOf_LAMBDA] using hc

theorem step_pPre (fn : PrefixFn) (st : PState) (hl : lookup prefixRegs st.cur.type = some fn) :
    wp (prefixDispatch s (n + 1) fn) R st := by
  unfold prefixDispatch
  cases fn with
  | parseIdentifier => exact (parseIdentifier_spec st).toR
  | parseIntegerLiteral => exact (parseIntegerLiteral_spec st).toR
  | parseFloatLiteral => exact (parseFloatLiteral_spec st).toR
  | parsePrefixExpression => exact ih.pPfx st hl
  | parseBoolean => exact (parseBoolean_spec st).toR
  | parseGroupedExpression => exact ih.pGrp st
  | parseIfExpression => exact (ih.pIf st).toR
  | parseForExpression => exact (ih.pFor st).toR
  | parseControlExpression => exact (parseControlExpression_spec st).toR
  | parseFunctionLiteral => exact (ih.pFn st).toR
  | parseStringLiteral => exact (parseStringLiteral_spec st).toR
  | parseBuiltin => exact (ih.pBi st).toR
  | parseArrayLiteral => exact (ih.pArr st).toR
  | parseMapLiteral => exact (ih.pMap st).toR
  | parseComment => exact (parseComment_spec st).toR
  | parseMacroLiteral => exact (ih.pMac st).toR

theorem step_pInf (fn : InfixFn) (left : ONode) (st : PState) (hl : lookup infixRegs st.cur.type = some fn)
    (hleft : D st ∨ GoodO left ∨ (st.cur.type = .LAMBDA ∧ PBO left)) : wp (infixDispatch s (n + 1) fn left) R st := by
  unfold infixDispatch
  cases fn with
  | parseInfixExpression => exact ih.pInfix left st hl (or_drop hleft (tbl_infixExpr _ hl).2.2.1)
  | parseCallExpression =>
    exact (ih.pCall left st (or_drop hleft fun h => nomatch (tbl_callExpr _ hl).symm.trans h)).toR
  | parseIndexExpression => exact ih.pIdx left st (tbl_indexExpr _ hl).1 (or_drop hleft (tbl_indexExpr _ hl).2.2)
  | parseLambdaExpression => exact ih.pLam left [] st (tbl_lambdaExpr _ hl) (lam_arg hleft .inr)

theorem step_pStmt (st : PState) : wp (parseStatement s (n + 1)) (PostS st) st := by
  unfold parseStatement
  refine wp.getSt (wp.ite (fun hc => wp_conseq (ih.pRet st) fun r _ h => ⟨h.good.imp_right .inl, fun hl => nomatch hc.symm.trans hl⟩)
    fun _ => (ih.pE _ st).call fun r st1 h1 => wp.getSt ?_)
  have hg := h1.low (by decide)
  have hlam (hl : st.cur.type = .LAMBDA) : D st1 ∨ L st1 :=
    (h1.noPrefix (by rw [hl]; exact tbl_prefix_LAMBDA) (by rw [hl]; nofun)).2
  -- a `;` that is skipped is not a pending `=>`
  refine wp.ite (fun hsemi => wp.next (wp.pure ?_)) fun _ => wp.pure ⟨hg, hlam⟩
  have nl : ¬ L st1 := fun l => nomatch hsemi.symm.trans l
  exact ⟨(or_drop hg nl).imp_right .inl, fun hl => .inl ((hlam hl).resolve_right nl)⟩

theorem step_pRet (st : PState) : wp (parseReturnStatement s (n + 1)) RG st := by
  unfold parseReturnStatement
  refine wp.getSt (wp.ite (fun _ => wp.pure (RG.of_good ((GoodO_ret_none _).2 trivial) rfl)) fun _ => wp.next <|
    (ih.pE _ _).call fun v st1 h1 => wp.getSt ?_)
  have hg : RG (some (.ret st.cur.tk v)) st1 := ⟨ret_good (h1.low (by decide)), OC_of_closed rfl⟩
  exact wp.ite (fun _ => wp.next (wp.pure ⟨hg.good, OC_of_closed rfl⟩)) fun _ => wp.pure hg

theorem step_pList (e : TokType) (st : PState) (he : e ≠ .LAMBDA) :
    wp (parseExpressionList s (n + 1) e) (fun r st' => D st' ∨ ∃ l, r = some l ∧ GoodL l) st := by
  unfold parseExpressionList
  refine wp.getSt (wp.ite (fun _ => wp.next (wp.pure (.inr ⟨_, rfl, GoodL.nil⟩))) fun _ => wp.next <|
    (ih.pE _ _).call fun x st1 h1 => (ih.pListLoop [x] st1 (snoc_arg (.inr GoodL.nil) (h1.low (by decide)))).call fun args st2 h2 =>
    wp.expect (fun _ => .inl) fun hp => wp.pure ?_)
  -- the closing token was found, so no `=>` is pending
  exact h2.imp_right fun h => ⟨_, rfl, h.resolve_right fun l => he (hp.symm.trans l)⟩

theorem step_pListLoop (args : NList) (st : PState) (h : D st ∨ GoodL args ∨ L st) :
    wp (parseExpressionListLoop s (n + 1) args) (fun r st' => D st' ∨ GoodL r ∨ L st') st := by
  have K := (dClosed s).all n
  unfold parseExpressionListLoop
  refine wp.getSt (wp.ite (fun hc => wp.next (wp.next ?_)) fun _ => wp.pure h)
  have ha : D st ∨ GoodL args := h.imp_right fun h => h.resolve_right fun l => nomatch hc.symm.trans l
  exact wp.callM (K.parseExpression _ _) (ih.pE _ _) fun x st1 m1 h1 =>
    ih.pListLoop _ st1 (snoc_arg (ha.imp_left m1) (h1.low (by decide)))

theorem step_pArr (st : PState) : wp (parseArrayLiteral s (n + 1)) RG st := by
  unfold parseArrayLiteral
  exact wp.getSt <| (ih.pList .RBRACKET st (by decide)).call fun el st1 h1 =>
    wp.pure ⟨h1.imp_right fun h => (GoodO_array _ _).2 (getD_good h), OC_of_closed rfl⟩

theorem step_pBi (st : PState) : wp (parseBuiltin s (n + 1)) RG st := by
  unfold parseBuiltin
  exact wp.getSt <| wp.expect (fun _ => RG.dirty) fun _ => (ih.pList .RPAREN _ (by decide)).call fun el st2 h2 =>
    wp.pure ⟨h2.imp_right fun h => (GoodO_builtin _ _).2 (getD_good h), OC_of_closed rfl⟩

theorem step_pCall (f : ONode) (st : PState) (hf : D st ∨ GoodO f) : wp (parseCallExpression s (n + 1) f) RG st := by
  have K := (dClosed s).all n
  unfold parseCallExpression
  exact wp.getSt <| wp.callM (K.parseExpressionList _ _ (dClosed_expect _))
    (ih.pList .RPAREN st (by decide)) fun el st1 m1 h1 =>
    wp.pure ⟨(or_both (hf.imp_left m1) h1).imp_right fun ⟨gf, h⟩ => (GoodO_call _ _ _).2 ⟨gf, getD_good h⟩, OC_of_closed rfl⟩

theorem step_pBlk (st : PState) : wp (parseBlockStatement s (n + 1)) PostB st := by
  unfold parseBlockStatement
  exact wp.next (ih.pBlkLoop [] _ (.inr (.inl GoodL.nil)))

theorem step_pBlkLoop (acc : NList) (st : PState) (h : D st ∨ GoodL acc ∨ st.cur.type = .LAMBDA) :
    wp (parseBlockLoop s (n + 1) acc) PostB st := by
  have K := (dClosed s).all n
  unfold parseBlockLoop
  refine wp.getSt (wp.ite (fun _ => wp.ite (fun _ => wp.setCont (wp.pure (.inl (D.setCont _)))) fun _ => ?_) fun hc => wp.pure ?_)
  · refine wp.callM (K.parseStatement _) (ih.pStmt st) fun stmt st1 m1 h1 => wp.next (ih.pBlkLoop (acc ++ [stmt]) _ ?_)
    rcases h with d | ga | hl
    · exact .inl (m1 d)
    · exact snoc_arg (.inr ga) h1.good
    · exact (h1.lambda hl).imp_right .inr
  · -- the block ends at `}` or the end of input, which is not a `=>`
    exact h.imp_right fun h => (GoodS_some _).2 (h.resolve_right fun hl => by simp [hl] at hc)

theorem step_pPfx (st : PState) (hl : lookup prefixRegs st.cur.type = some .parsePrefixExpression) :
    wp (parsePrefixExpression s (n + 1)) R st := by
  unfold parsePrefixExpression
  exact wp.getSt <| wp.next <| (ih.pE _ _).call fun right st1 h1 => wp.pure
    ⟨h1.good.map (.inr trivial) (fun _ => (GoodO_pre _ _).2) fun _ => tbl_prefixExpr _ hl, OC_of_closed rfl⟩

theorem step_pInfix (left : ONode) (st : PState) (hl : lookup infixRegs st.cur.type = some .parseInfixExpression)
    (hleft : D st ∨ GoodO left) : wp (parseInfixExpression s (n + 1) left) R st := by
  have K := (dClosed s).all n
  have ht := tbl_infixExpr _ hl
  unfold parseInfixExpression
  refine wp.getSt (wp.ite (fun hc => ?_) fun _ => wp.next <|
    wp.callM (K.parseExpression _ _) (ih.pE _ _) fun right st1 m1 h1 => wp.pure ⟨?_, fun t l e => ?_⟩)
  · -- `n:` right before `]`
    simp only [Bool.and_eq_true, decide_eq_true_eq] at hc
    exact wp.pure ⟨hleft.imp_right fun g => .inl ((GoodO_infix_none _ _).2 ⟨ht.2.2.2, g, hc.1⟩), fun _ _ _ => .inr (.inl hc.2)⟩
  · exact h1.good.map (hleft.imp_left m1) (GoodO_infix ht.2.2.2) fun _ => PBO_tok rfl ht.1 ht.2.1
  · -- the right operand is missing only in front of a `=>`
    cases e
    exact h1.good.imp_right fun h => .inr (h.resolve_left GoodO_none.1).1

theorem step_pIdx (left : ONode) (st : PState) (hc : st.cur.type = .LBRACKET ∨ st.cur.type = .DOT) (hleft : D st ∨ GoodO left) :
    wp (parseIndexExpression s (n + 1) left) R st := by
  have K := (dClosed s).all n
  have hp : (lookupPrec st.cur.type).isSome = true := by rcases hc with h | h <;> rw [h] <;> rfl
  unfold parseIndexExpression
  refine wp.getSt <| wp.next <| wp.callM (K.parseExpression _ _) (ih.pE _ _) fun idx st1 m1 h1 =>
    wp.ite (fun hd => wp.pure ⟨?_, OC_of_closed rfl⟩) fun _ =>
    wp.expect (fun _ => R.dirty) fun hpk => wp.pure ⟨?_, OC_of_closed rfl⟩
  · exact h1.good.map (hleft.imp_left m1) (fun gl gi => (GoodO_index _ _ _).2 ⟨hp, gl, gi⟩) fun _ => PBO_tok hd
  · -- the `]` was found, so no `=>` is pending
    exact (or_both (hleft.imp_left m1) (or_drop h1.good fun l => nomatch hpk.symm.trans l)).imp_right fun ⟨gl, gi⟩ =>
      .inl ((GoodO_index _ _ _).2 ⟨hp, gl, gi⟩)

theorem step_pLam (left : ONode) (more : NList) (st : PState) (hc : st.cur.type = .LAMBDA)
    (hp : D st ∨ (GoodL more ∧ (left = none ∨ GoodO left ∨ PBO left))) : wp (parseLambdaMulti s (n + 1) left more) R st := by
  have K := (dClosed s).all n
  unfold parseLambdaMulti
  refine wp.getSt ?_
  extract_lets tok params
  have hg (t) (h : okParamList params = some (t, true)) : D st ∨ GoodL params := lam_params_good hp h
  split
  · next h => exact absurd h (okParamList_ne_none _)
  · exact wp.errorLine (wp.pushErr (wp.pure (R.dirty (D.pushErr _ _))))
  · next t h =>
    have hg := hg t h
    refine wp.ite
      (fun _ => wp.next <| wp.callM (K.parseBlockStatement _) (ih.pBlk _) fun body st1 m1 h1 => wp.getSt <|
        wp.ite (fun hcont => wp.pure (R.dirty (.inr hcont))) fun _ => wp.pure ⟨?_, OC_of_closed rfl⟩)
      fun _ => wp.next <| wp.callM (K.parseExpression _ _) (ih.pE _ _) fun body st1 m1 h1 => wp.pure ⟨?_, OC_of_closed rfl⟩
    · exact (or_both (hg.imp_left m1) h1).imp_right fun ⟨gp, gb⟩ => .inl ((GoodO_func _ _ _ _ _ _).2 ⟨gp, gb⟩)
    · exact h1.good.map (hg.imp_left m1) (fun gp gb => (GoodO_func _ _ _ _ _ _).2 ⟨gp, (GoodS_some _).2 (GoodL.one gb)⟩)
        fun _ => PBO_tok hc

theorem step_pGrp (st : PState) : wp (parseGroupedExpression s (n + 1)) R st := by
  have K := (dClosed s).all n
  unfold parseGroupedExpression
  refine wp.next <| (ih.pE _ _).call fun exp st1 h1 => wp.getSt ?_
  have hlow := h1.low (by decide)
  refine wp.ite (fun hl => wp.next ?_) fun _ => wp.ite (fun hcm => wp.next ?_) fun _ =>
    wp.expect (fun _ => R.dirty) fun hpk => wp.pure ?_
  · -- `(x =>`
    exact ih.pLam exp [] _ hl (lam_arg hlow .inl)
  · -- `(x, … ) =>`
    have he : D st1 ∨ GoodO exp := or_drop hlow fun l => nomatch hcm.symm.trans l
    refine wp.callM (K.parseExpressionList _ _ (dClosed_expect _)) (ih.pList .RPAREN _ (by decide)) fun el st2 m2 h2 => ?_
    cases el with
    | none => exact wp.pure (R.dirty (h2.resolve_right nofun))
    | some el =>
      exact wp.expect (fun _ => R.dirty) fun hpk => ih.pLam exp el _ hpk <|
        (or_both (h2.imp_right getD_good) (he.imp_left m2)).imp_right fun ⟨gl, ge⟩ => ⟨gl, .inr (.inl ge)⟩
  · -- `( x )`: neither a `=>` nor a `]` follows
    have nl : ¬ L st1 := fun l => nomatch hpk.symm.trans l
    exact ⟨(or_drop hlow nl).imp_right .inl, fun t l e => .inl ((h1.oc t l e).resolve_right fun h =>
      h.elim (fun h => nomatch hpk.symm.trans h) nl)⟩

/-- the tail `{ block }` shared by `for`, `if`/`else`, `func` and `macro`, stated on the desugared `do` block;
`X` is what is known of the part parsed before it -/
theorem block_tail_good {st' : PState} (f : Stmts → ONode) {X : Prop} (hx : st'.peek.type = .LBRACE → D st' ∨ X)
    (hf : ∀ b, X → GoodS b → GoodO (f b)) (hn : ∀ b, openEnded (f b) = false) :
    wp (expectPeek s .LBRACE >>= fun ok => if (!ok) = true then Pure.pure none else
      parseBlockStatement s n >>= fun body => Parser.getSt >>= fun st =>
      if st.cont = true then Pure.pure none else Pure.pure (f body)) RG st' :=
  wp.expect (fun _ => RG.dirty) fun hpk =>
    wp.callM (((dClosed s).all n).parseBlockStatement _) (ih.pBlk _) fun body _ m2 h2 => wp.getSt <|
      wp.ite (fun hc => wp.pure (RG.dirty (.inr hc))) fun _ =>
        wp.pure ⟨(or_both ((hx hpk).imp_left m2) h2).imp_right fun ⟨x, gb⟩ => hf body x gb, OC_of_closed (hn body)⟩

omit ih in
/-- the condition of `for`/`if`: with `{` next, no `=>` is pending -/
theorem cond_good {P : Nat} {st0 st1 : PState} {c : ONode} (h1 : PostE P st0 c st1) (hP : P < 5)
    (hpk : st1.peek.type = .LBRACE) : D st1 ∨ GoodO c :=
  or_drop (h1.low hP) fun l => nomatch hpk.symm.trans l

theorem step_pFor (st : PState) : wp (parseForExpression s (n + 1)) RG st := by
  unfold parseForExpression
  exact wp.getSt <| wp.next <| (ih.pE _ _).call fun c st1 h1 =>
    block_tail_good ih _ (cond_good h1 (by decide)) (fun b gc gb => (GoodO_forE _ _ _).2 ⟨gc, gb⟩) fun _ => rfl

theorem step_pIf (st : PState) : wp (parseIfExpression s (n + 1)) RG st := by
  have K := (dClosed s).all n
  unfold parseIfExpression
  refine wp.getSt <| wp.next <| (ih.pE _ _).call fun c st1 h1 => wp.expect (fun _ => RG.dirty) fun hpk =>
    wp.callM (K.parseBlockStatement _) (ih.pBlk _) fun cons st3 m3 h3 => wp.getSt ?_
  have hcc : D st3 ∨ (GoodO c ∧ GoodS cons) := or_both ((cond_good h1 (by decide) hpk).imp_left m3) h3
  refine wp.ite (fun hcont => wp.pure (RG.dirty (.inr hcont))) fun _ => wp.ite (fun _ => wp.next (wp.getSt ?_)) fun _ =>
    wp.pure ⟨hcc.imp_right fun ⟨gc, gs⟩ => (GoodO_ifE_none _ _ _).2 ⟨gc, gs⟩, OC_of_closed rfl⟩
  refine wp.ite
    (fun _ => wp.next <| wp.callM (K.parseIfExpression _) (ih.pIf _) fun alt st4 m4 h4 => wp.pure ⟨?_, OC_of_closed rfl⟩)
    fun _ => block_tail_good ih _ (fun _ => hcc) (fun alt ⟨gc, gs⟩ ga => GoodO_ifE gc gs ga) fun _ => rfl
  exact (or_both (hcc.imp_left m4) h4.good).imp_right fun ⟨⟨gc, gs⟩, ga⟩ => (GoodO_ifE_some _ _ _ _).2 ⟨gc, gs, GoodL.one ga⟩

omit ih in
/-- the head `( parameters )` shared by `func` and `macro` -/
theorem params_good {st0 : PState} {k : NList × Bool → PM ONode} (hk : ∀ pv st2, GoodL pv.1 → wp (k pv) RG st2) :
    wp (expectPeek s .LPAREN >>= fun ok => if (!ok) = true then Pure.pure none else parseFunctionParameters s n >>= k) RG st0 :=
  wp.expect (fun _ => RG.dirty) fun _ => wp.call (parseFunctionParameters_spec n _) hk

theorem step_pFn (st : PState) : wp (parseFunctionLiteral s (n + 1)) RG st := by
  unfold parseFunctionLiteral
  exact wp.getSt <| wp.call (wp_trivial _ _) fun name _ _ => params_good fun (params, _) _ h2 =>
    block_tail_good ih _ (fun _ => .inr h2) (fun b gp gb => (GoodO_func _ _ _ _ _ _).2 ⟨gp, gb⟩) fun _ => rfl

theorem step_pMac (st : PState) : wp (parseMacroLiteral s (n + 1)) RG st := by
  unfold parseMacroLiteral
  exact wp.getSt <| params_good fun (params, _) _ h2 =>
    block_tail_good ih _ (fun _ => .inr h2) (fun b gp gb => (GoodO_macroLit _ _ _).2 ⟨gp, gb⟩) fun _ => rfl

theorem step_pMap (st : PState) : wp (parseMapLiteral s (n + 1)) RG st := by
  unfold parseMapLiteral
  exact wp.getSt (ih.pMapLoop _ [] st (.inr GoodL.nil))

theorem step_pMapLoop (tok : Tk) (kvs : NList) (st : PState) (hk : D st ∨ GoodL kvs) :
    wp (parseMapLoop s (n + 1) tok kvs) RG st := by
  have K := (dClosed s).all n
  unfold parseMapLoop
  refine wp.getSt (wp.ite (fun _ => wp.next (wp.getSt ?_)) fun _ => wp.expect (fun _ => RG.dirty) fun _ =>
    wp.pure ⟨hk.imp_right (GoodO_mapLit _ _).2, OC_of_closed rfl⟩)
  refine wp.ite (fun hcont => wp.pure (RG.dirty (.inr hcont))) fun _ =>
    wp.callM (K.parseExpression _ _) (ih.pE _ _) fun kv st1 m1 h1 => ?_
  split
  · -- a pair: what follows it is `,` or `}`
    have ins {t : TokType} (hpk : st1.peek.type = t) (h1' : t ≠ .RBRACKET := by decide) (h2' : t ≠ .LAMBDA := by decide) :=
      pair_good h1 (by decide) (hk.imp_left m1) (hpk ▸ h1') fun l => h2' (hpk.symm.trans l)
    refine wp.ite (fun _ => wp.getSt <| wp.ite (fun _ => wp.expect (fun _ => RG.dirty) fun hpk => ?_) fun hnb => ?_)
      fun _ => mapPairError_spec st1
    · exact ih.pMapLoop tok _ _ (ins hpk)
    · exact ih.pMapLoop tok _ st1 (ins (t := .RBRACE) (by simpa using hnb))
  · exact mapPairError_spec st1

end steps

theorem allSpec_zero : AllSpec s 0 := by
  constructor <;> intros <;> exact trivial

theorem allSpec_succ {n : Nat} (ih : AllSpec s n) : AllSpec s (n + 1) where
  pE := step_pE ih
  pLoop := step_pLoop ih
  pPre := step_pPre ih
  pInf := step_pInf ih
  pStmt := step_pStmt ih
  pRet := step_pRet ih
  pArr := step_pArr ih
  pGrp := step_pGrp ih
  pPfx := step_pPfx ih
  pLam := step_pLam ih
  pInfix := step_pInfix ih
  pFor := step_pFor ih
  pIf := step_pIf ih
  pBlk := step_pBlk ih
  pBlkLoop := step_pBlkLoop ih
  pFn := step_pFn ih
  pBi := step_pBi ih
  pCall := step_pCall ih
  pList := step_pList ih
  pListLoop := step_pListLoop ih
  pIdx := step_pIdx ih
  pMap := step_pMap ih
  pMapLoop := step_pMapLoop ih
  pMac := step_pMac ih

theorem allSpec (s : TokStream) : ∀ n, AllSpec s n
  | 0 => allSpec_zero
  | n + 1 => allSpec_succ (allSpec s n)

theorem parseProgramLoop_good (s : TokStream) : ∀ (fuel : Nat) (acc : NList) (st : PState), (D st ∨ GoodL acc) →
    wp (parseProgramLoop s fuel acc) (fun r st' => D st' ∨ GoodL r) st
  | 0, _, _, _ => trivial
  | n + 1, acc, st, h => by
    unfold parseProgramLoop
    refine wp.getSt (wp.ite (fun _ => ?_) fun _ => wp.pure h)
    refine wp.callM (((dClosed s).all n).parseStatement st) ((allSpec s n).pStmt st) fun stmt st1 m1 h1 => ?_
    cases stmt with
    | none => exact wp.pure (h.imp_left m1)
    | some x =>
      exact wp.next <| parseProgramLoop_good s n _ _ <|
        (or_both (h.imp_left m1) (h1.good.imp_right fun h => h.resolve_right fun h => nomatch h.2)).imp_right (GoodL_snoc _ _).2

theorem parseProgramLoop_spec (s : TokStream) : ∀ (fuel : Nat) (acc : NList) (st : PState), (D st ∨ GoodL acc) →
    wp (parseProgramLoop s fuel acc) (fun r st' => M st st' ∧ (D st' ∨ GoodL r)) st :=
  fun fuel acc st h => wp.withM ((dClosed s).parseProgramLoop fuel acc st) (parseProgramLoop_good s fuel acc st h)

/-- **C08, what the printer is handed**: a parse without errors and without continuation request returns a tree
with no missing child in which every operator token has a precedence — for EVERY token stream and fuel. -/
theorem parseProgram_good (s : TokStream) (fuel : Nat) (r : ParseResult) (h : parseProgram s fuel = .ok r)
    (he : r.errors = 0) (hc : r.cont = false) : noNilL r.program = true ∧ precOKL r.program = true := by
  have hs := parseProgramLoop_good s fuel [] (init s) (.inr GoodL.nil)
  unfold parseProgram at h
  unfold wp at hs
  cases hp : parseProgramLoop s fuel [] (init s) with
  | goPanic p => rw [hp] at h; cases h
  | outOfFuel => rw [hp] at h; cases h
  | ok res =>
    obtain ⟨prog, st⟩ := res
    rw [hp] at h hs
    simp only [Res.ok.injEq] at h
    subst h
    simp only at he hc
    rcases hs with d | g
    · rcases d with d | d
      · exact absurd (List.length_eq_zero_iff.mp he) d
      · rw [hc] at d; cases d
    · exact g

end Grol.Parser
