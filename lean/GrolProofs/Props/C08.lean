import GrolProofs.ParseNoPanic
import GrolProofs.PrintNoPanic
import GrolProofs.StreamWF
import GrolProofs.ParseGood
import GrolProofs.ParseTerm
import GrolProofs.LexStreamEnd
/-
C08 — the front end is total on arbitrary bytes (parser and printer halves; the lexer half and
the composition `bytes → TokStream` belong to the lexer component).

Proved here, for the Lean model of parser/parser.go and of the PrettyPrint methods of ast/ast.go
(tied to the Go code by the `parse` correspondence suite):
  * `C08.parser_never_panics`   for EVERY token stream satisfying the two lexer facts `StreamWF`
                                 and EVERY fuel, `parseProgram` is not a Go panic;
  * `C08.printer_never_panics`  a program without missing children whose operator tokens have a
                                 precedence prints without panic in all four modes;
  * `C08.partial`               the two combined: statement of C08 at a stream, under `C08.Safe`.
  * `C08.parse_good`            for EVERY token stream and fuel: no error and no continuation ⇒ the tree
                                 has no missing child and every operator token has a precedence;
  * `C08.front_end_total`       the three combined, `C08.StatementAt` for every well-formed stream and fuel
                                 (no `Safe` hypothesis left).
  * `C08.terminates`            when the repeated end marker is EOF or EOL (`EndOK`), fuel ≥ 7·(tokens + 2) is never
                                 exhausted (`GrolProofs/ParseTerm.lean`);
  * `C08.statement`             `C08.Statement`: all of the above; `C08.statement_lexer` instantiates it with the
                                 token stream of the lexer MODEL, for which `StreamWF` and `EndOK` are theorems.
Nothing of the parser/printer half is left unproved.  (The bound 7·(n+2) is sufficient, not tight: the driver
runs with 4·n + 64, which was never exhausted on any case.)
-/
namespace Grol.C08
open Grol Grol.Parser Grol.Printer Grol.Generated

/-- C08 at one token stream and one fuel -/
def StatementAt (tbl : Nat → Bool) (s : TokStream) (fuel : Nat) : Prop :=
  (∀ site, parseProgram s fuel ≠ .goPanic site) ∧
  (∀ r, parseProgram s fuel = .ok r → r.errors = 0 → r.cont = false →
     noNilL r.program = true ∧
     ∀ compact allParens e, printProgram tbl r.program compact allParens ≠ .error e)

/-- the repeated end marker of the stream is EOF or EOL (third lexer fact; without it — an end marker that is,
say, a comma — the Go parser itself would loop for ever) -/
def EndOK (s : TokStream) : Prop := s.eof.type = .EOF ∨ s.eof.type = .EOL

/-- the full statement: every well-formed stream, every fuel; and a fuel LINEAR in the number of tokens suffices -/
def Statement : Prop :=
  ∀ tbl s, StreamWF s → EndOK s →
    (∀ fuel, StatementAt tbl s fuel) ∧ ∀ fuel, 7 * (s.toks.length + 2) ≤ fuel → parseProgram s fuel ≠ .outOfFuel

/-- the parser's output meets the printer's precondition: the hypothesis of `partial`, discharged by `safe_always` -/
def Safe (s : TokStream) (fuel : Nat) : Bool :=
  match parseProgram s fuel with
  | .ok r => !(r.errors == 0 && !r.cont) || (noNilL r.program && precOKL r.program)
  | _ => true

theorem parser_never_panics (s : TokStream) (hwf : StreamWF s) (fuel : Nat) (site : PanicSite) :
    parseProgram s fuel ≠ .goPanic site :=
  parseProgram_no_panic s hwf fuel site

theorem printer_never_panics (tbl : Nat → Bool) (prog : NList) (compact allParens : Bool)
    (hn : noNilL prog = true) (hp : precOKL prog = true) (e : PrintPanic) :
    printProgram tbl prog compact allParens ≠ .error e :=
  printProgram_no_panic tbl prog compact allParens hn hp e

theorem «partial» (tbl : Nat → Bool) (s : TokStream) (hwf : StreamWF s) (fuel : Nat) (hs : Safe s fuel = true) :
    StatementAt tbl s fuel := by
  refine ⟨parser_never_panics s hwf fuel, fun r hr he hc => ?_⟩
  unfold Safe at hs
  rw [hr] at hs
  simp only [he, hc, beq_self_eq_true, Bool.not_false, Bool.and_self, Bool.not_true, Bool.false_or,
    Bool.and_eq_true] at hs
  exact ⟨hs.1, fun c a e => printer_never_panics tbl r.program c a hs.1 hs.2 e⟩

/-- **C08, what the printer is handed**: for EVERY token stream and fuel, a parse that reports no error and
requests no continuation returns a tree without missing children in which every operator token has a
precedence (`GrolProofs/ParseGood.lean`: every nil-returning parse path records an error or sets
continuation; the `… =>` look-ahead, which returns nil silently, always ends in an error or in a tree
that does not contain the nil). -/
theorem parse_good (s : TokStream) (fuel : Nat) (r : ParseResult) (h : parseProgram s fuel = .ok r)
    (he : r.errors = 0) (hc : r.cont = false) : noNilL r.program = true ∧ precOKL r.program = true :=
  parseProgram_good s fuel r h he hc

theorem safe_always (s : TokStream) (fuel : Nat) : Safe s fuel = true := by
  unfold Safe
  cases h : parseProgram s fuel with
  | goPanic p => rfl
  | outOfFuel => rfl
  | ok r =>
    by_cases hc : r.errors = 0 ∧ r.cont = false
    · have := parse_good s fuel r h hc.1 hc.2
      simp [hc.1, hc.2, this.1, this.2]
    · by_cases he : r.errors = 0
      · have : r.cont = true := by cases hcc : r.cont <;> simp_all
        simp [he, this]
      · simp [he]

/-- **C08, parser + printer, without the termination clause**: on a stream satisfying the two lexer
facts, for every fuel, the parser does not panic, and an error-free continuation-free result has no
missing child and prints without panic in all four modes. -/
theorem front_end_total (tbl : Nat → Bool) (s : TokStream) (hwf : StreamWF s) (fuel : Nat) : StatementAt tbl s fuel :=
  «partial» tbl s hwf fuel (safe_always s fuel)

/-- **C08, termination clause** with an explicit linear bound: 7 units of fuel per token (more than the longest chain
of calls of the model that consumes no token); no hypothesis other than the end marker being EOF or EOL -/
theorem terminates (s : TokStream) (he : EndOK s) (fuel : Nat) (hf : 7 * (s.toks.length + 2) ≤ fuel) :
    parseProgram s fuel ≠ .outOfFuel :=
  parseProgram_terminates s he fuel hf

/-- **C08 for the parser and the printer**: the full statement -/
theorem statement : Statement :=
  fun tbl s hwf he => ⟨fun fuel => front_end_total tbl s hwf fuel, fun fuel hf => terminates s he fuel hf⟩

theorem parse_returns (s : TokStream) (hwf : StreamWF s) (he : EndOK s) :
    ∃ r, parseProgram s (7 * (s.toks.length + 2)) = .ok r := by
  cases h : parseProgram s (7 * (s.toks.length + 2)) with
  | ok r => exact ⟨r, rfl⟩
  | goPanic p => exact absurd h (parser_never_panics s hwf _ p)
  | outOfFuel => exact absurd h (terminates s he _ (Nat.le_refl _))

/-- corollary for the streams of the LEXER MODEL (`LexStream.tokStream`, every input, both modes, any
classification of number literals): both stream hypotheses are theorems there -/
theorem statement_lexer (tbl : Nat → Bool) (nc : Grol.Token.Tok → NumClass) (input : Array UInt8) (lineMode : Bool) :
    let s := LexStream.tokStream nc input lineMode
    (∀ fuel, StatementAt tbl s fuel) ∧ ∀ fuel, 7 * (s.toks.length + 2) ≤ fuel → parseProgram s fuel ≠ .outOfFuel :=
  statement tbl _ (LexStream.lexer_streamWF nc input lineMode) (LexStream.tokStream_eof nc input lineMode)

/-! ### non-vacuity: a concrete stream (`a - (b - c)`) is well-formed, safe, and parses to a tree -/

def exampleStream : TokStream :=
  { toks := [ { type := .IDENT, lit := [97], posAfter := 1 }, { type := .MINUS, lit := [45], posBefore := 1, posAfter := 3, hadWs := true },
              { type := .LPAREN, lit := [40], posBefore := 3, posAfter := 5, hadWs := true }, { type := .IDENT, lit := [98], posBefore := 5, posAfter := 6 },
              { type := .MINUS, lit := [45], posBefore := 6, posAfter := 8, hadWs := true }, { type := .IDENT, lit := [99], posBefore := 8, posAfter := 10, hadWs := true },
              { type := .RPAREN, lit := [41], posBefore := 10, posAfter := 11 }, { type := .EOF, lit := [], posBefore := 11, posAfter := 12 } ],
    eof := { type := .EOF, lit := [], posBefore := 12, posAfter := 13 }, inputLen := 11 }

example : StreamWF exampleStream := streamWF_of_b (by decide +kernel)
example : Safe exampleStream 20 = true := by decide +kernel
example : (match parseProgram exampleStream 20 with | .ok r => r.program.length | _ => 0) = 1 := by decide +kernel
example : StatementAt isPrintTable exampleStream 20 := «partial» _ _ (streamWF_of_b (by decide +kernel)) _ (by decide +kernel)
example : EndOK exampleStream := Or.inl rfl
example : parseProgram exampleStream (7 * (exampleStream.toks.length + 2)) ≠ .outOfFuel :=
  terminates _ (Or.inl rfl) _ (Nat.le_refl _)
/-- the bound is not vacuous the other way either: with too little fuel the model does run out -/
example : (match parseProgram exampleStream 3 with | .outOfFuel => true | _ => false) = true := by decide +kernel

end Grol.C08
