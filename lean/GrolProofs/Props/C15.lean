import Grol.Parser
import Grol.ParseSuite
import GrolProofs.StreamWF
/-
C15 — line mode ≡ file mode (parts 1 and 2; part 3, chunked evaluation, is not covered here: it
belongs to the evaluator/session component).

The statement is relative to a lexer (no lexer model in this component): `lexFile`/`lexLine` map a
source text to the token stream of the two lexer modes.  Parts 1 and 2 are FALSE of the code as it
stands; the witnesses below are kernel-evaluated facts about the parser model on the token streams
the REAL lexer produces (re-derived from the real code on every run by the known-finding replay of
the `parse15` suite).  Part 1 for programs outside the recorded class is proved in `Props/C15Sim.lean`
(`same_tree_partial`: a simulation between the two runs, which differ only in the end marker), at the
token-stream level; that the lexer model's line-mode stream is `asLine` of its file-mode stream is
`Props/C15Lexed.lean`.
-/
namespace Grol.C15
open Grol Grol.Wire Grol.Parser Grol.Generated Grol.Front

def result (s : TokStream) (fuel : Nat) : Option ParseResult :=
  match parseProgram s fuel with
  | .ok r => some r
  | _ => none

def valid (s : TokStream) (fuel : Nat) : Bool :=
  match result s fuel with
  | some r => r.errors == 0 && !r.cont
  | none => false

/-- part 1 at one source: file mode accepts ⇒ line mode gives the same tree, no error, no continuation -/
def SameTreeAt (lexFile lexLine : Bytes → TokStream) (fuel : Nat) (src : Bytes) : Prop :=
  valid (lexFile src) fuel = true →
    valid (lexLine src) fuel = true ∧
    (result (lexLine src) fuel).map (fun r => dumpProgram false false r.program) =
      (result (lexFile src) fuel).map (fun r => dumpProgram false false r.program)

/-- part 2 at one source and cut: the cut lies inside an open construct (`Front.cutKind`, the
decidable predicate the driver evaluates) ⇒ line mode on the prefix asks for more input, no error -/
def PrefixAt (lexFile lexLine : Bytes → TokStream) (fuel : Nat) (src : Bytes) (k : Nat) : Prop :=
  valid (lexFile src) fuel = true → (cutKind src (lexFile src).toks k).isSome = true →
    ∃ r, result (lexLine (src.take k)) fuel = some r ∧ r.cont = true ∧ r.errors = 0

def Statement (lexFile lexLine : Bytes → TokStream) : Prop :=
  ∀ src, ∃ fuel, SameTreeAt lexFile lexLine fuel src ∧ ∀ k, PrefixAt lexFile lexLine fuel src k

/-! ### witnesses (token streams of the real lexer) -/

/-- real lexer, file mode, on the whole program `x "abc"` -/
def unclosedString.whole : TokStream :=
  { toks := [
    { type := .IDENT, lit := [120], posBefore := 0, posAfter := 1, hadWs := false, hadNl := false, lastNl := 0, num := .na },
    { type := .STRING, lit := [97, 98, 99], posBefore := 1, posAfter := 7, hadWs := true, hadNl := false, lastNl := 0, num := .na },
    { type := .EOF, lit := [], posBefore := 7, posAfter := 8, hadWs := false, hadNl := false, lastNl := 0, num := .na } ],
    eof := { type := .EOF, lit := [], posBefore := 8, posAfter := 9, hadWs := false, hadNl := false, lastNl := 0, num := .na }, inputLen := 7 }

/-- real lexer, file mode, on `x "abc` -/
def unclosedString.file : TokStream :=
  { toks := [
    { type := .IDENT, lit := [120], posBefore := 0, posAfter := 1, hadWs := false, hadNl := false, lastNl := 0, num := .na },
    { type := .EOF, lit := [], posBefore := 1, posAfter := 7, hadWs := true, hadNl := false, lastNl := 0, num := .na } ],
    eof := { type := .EOF, lit := [], posBefore := 7, posAfter := 8, hadWs := false, hadNl := false, lastNl := 0, num := .na }, inputLen := 6 }

/-- real lexer, line mode, on `x "abc` -/
def unclosedString.line : TokStream :=
  { toks := [
    { type := .IDENT, lit := [120], posBefore := 0, posAfter := 1, hadWs := false, hadNl := false, lastNl := 0, num := .na },
    { type := .EOL, lit := [], posBefore := 1, posAfter := 7, hadWs := true, hadNl := false, lastNl := 0, num := .na } ],
    eof := { type := .EOL, lit := [], posBefore := 7, posAfter := 8, hadWs := false, hadNl := false, lastNl := 0, num := .na }, inputLen := 6 }

/-- real lexer, file mode, on the whole program `[() => 1]` -/
def emptyParens.whole : TokStream :=
  { toks := [
    { type := .LBRACKET, lit := [91], posBefore := 0, posAfter := 1, hadWs := false, hadNl := false, lastNl := 0, num := .na },
    { type := .LPAREN, lit := [40], posBefore := 1, posAfter := 2, hadWs := false, hadNl := false, lastNl := 0, num := .na },
    { type := .RPAREN, lit := [41], posBefore := 2, posAfter := 3, hadWs := false, hadNl := false, lastNl := 0, num := .na },
    { type := .LAMBDA, lit := [61, 62], posBefore := 3, posAfter := 6, hadWs := true, hadNl := false, lastNl := 0, num := .na },
    { type := .INT, lit := [49], posBefore := 6, posAfter := 8, hadWs := true, hadNl := false, lastNl := 0, num := .int },
    { type := .RBRACKET, lit := [93], posBefore := 8, posAfter := 9, hadWs := false, hadNl := false, lastNl := 0, num := .na },
    { type := .EOF, lit := [], posBefore := 9, posAfter := 10, hadWs := false, hadNl := false, lastNl := 0, num := .na } ],
    eof := { type := .EOF, lit := [], posBefore := 10, posAfter := 11, hadWs := false, hadNl := false, lastNl := 0, num := .na }, inputLen := 9 }

/-- real lexer, file mode, on `[()` -/
def emptyParens.file : TokStream :=
  { toks := [
    { type := .LBRACKET, lit := [91], posBefore := 0, posAfter := 1, hadWs := false, hadNl := false, lastNl := 0, num := .na },
    { type := .LPAREN, lit := [40], posBefore := 1, posAfter := 2, hadWs := false, hadNl := false, lastNl := 0, num := .na },
    { type := .RPAREN, lit := [41], posBefore := 2, posAfter := 3, hadWs := false, hadNl := false, lastNl := 0, num := .na },
    { type := .EOF, lit := [], posBefore := 3, posAfter := 4, hadWs := false, hadNl := false, lastNl := 0, num := .na } ],
    eof := { type := .EOF, lit := [], posBefore := 4, posAfter := 5, hadWs := false, hadNl := false, lastNl := 0, num := .na }, inputLen := 3 }

/-- real lexer, line mode, on `[()` -/
def emptyParens.line : TokStream :=
  { toks := [
    { type := .LBRACKET, lit := [91], posBefore := 0, posAfter := 1, hadWs := false, hadNl := false, lastNl := 0, num := .na },
    { type := .LPAREN, lit := [40], posBefore := 1, posAfter := 2, hadWs := false, hadNl := false, lastNl := 0, num := .na },
    { type := .RPAREN, lit := [41], posBefore := 2, posAfter := 3, hadWs := false, hadNl := false, lastNl := 0, num := .na },
    { type := .EOL, lit := [], posBefore := 3, posAfter := 4, hadWs := false, hadNl := false, lastNl := 0, num := .na } ],
    eof := { type := .EOL, lit := [], posBefore := 4, posAfter := 5, hadWs := false, hadNl := false, lastNl := 0, num := .na }, inputLen := 3 }

/-- real lexer, file mode, on the whole program `/*/ x */` -/
def fakeComment.whole : TokStream :=
  { toks := [
    { type := .BLOCKCOMMENT, lit := [47, 42, 47, 32, 120, 32, 42, 47], posBefore := 0, posAfter := 8, hadWs := false, hadNl := false, lastNl := 0, num := .na },
    { type := .EOF, lit := [], posBefore := 8, posAfter := 9, hadWs := false, hadNl := false, lastNl := 0, num := .na } ],
    eof := { type := .EOF, lit := [], posBefore := 9, posAfter := 10, hadWs := false, hadNl := false, lastNl := 0, num := .na }, inputLen := 8 }

/-- real lexer, file mode, on `/*/` -/
def fakeComment.file : TokStream :=
  { toks := [
    { type := .BLOCKCOMMENT, lit := [47, 42, 47], posBefore := 0, posAfter := 3, hadWs := false, hadNl := false, lastNl := 0, num := .na },
    { type := .EOF, lit := [], posBefore := 3, posAfter := 4, hadWs := false, hadNl := false, lastNl := 0, num := .na } ],
    eof := { type := .EOF, lit := [], posBefore := 4, posAfter := 5, hadWs := false, hadNl := false, lastNl := 0, num := .na }, inputLen := 3 }

/-- real lexer, line mode, on `/*/` -/
def fakeComment.line : TokStream :=
  { toks := [
    { type := .BLOCKCOMMENT, lit := [47, 42, 47], posBefore := 0, posAfter := 3, hadWs := false, hadNl := false, lastNl := 0, num := .na },
    { type := .EOL, lit := [], posBefore := 3, posAfter := 4, hadWs := false, hadNl := false, lastNl := 0, num := .na } ],
    eof := { type := .EOL, lit := [], posBefore := 4, posAfter := 5, hadWs := false, hadNl := false, lastNl := 0, num := .na }, inputLen := 3 }

/-- real lexer, file mode, on `func(){` -/
def openBlock.file : TokStream :=
  { toks := [
    { type := .FUNC, lit := [102, 117, 110, 99], posBefore := 0, posAfter := 4, hadWs := false, hadNl := false, lastNl := 0, num := .na },
    { type := .LPAREN, lit := [40], posBefore := 4, posAfter := 5, hadWs := false, hadNl := false, lastNl := 0, num := .na },
    { type := .RPAREN, lit := [41], posBefore := 5, posAfter := 6, hadWs := false, hadNl := false, lastNl := 0, num := .na },
    { type := .LBRACE, lit := [123], posBefore := 6, posAfter := 7, hadWs := false, hadNl := false, lastNl := 0, num := .na },
    { type := .EOF, lit := [], posBefore := 7, posAfter := 8, hadWs := false, hadNl := false, lastNl := 0, num := .na } ],
    eof := { type := .EOF, lit := [], posBefore := 8, posAfter := 9, hadWs := false, hadNl := false, lastNl := 0, num := .na }, inputLen := 7 }

/-- real lexer, line mode, on `func(){` -/
def openBlock.line : TokStream :=
  { toks := [
    { type := .FUNC, lit := [102, 117, 110, 99], posBefore := 0, posAfter := 4, hadWs := false, hadNl := false, lastNl := 0, num := .na },
    { type := .LPAREN, lit := [40], posBefore := 4, posAfter := 5, hadWs := false, hadNl := false, lastNl := 0, num := .na },
    { type := .RPAREN, lit := [41], posBefore := 5, posAfter := 6, hadWs := false, hadNl := false, lastNl := 0, num := .na },
    { type := .LBRACE, lit := [123], posBefore := 6, posAfter := 7, hadWs := false, hadNl := false, lastNl := 0, num := .na },
    { type := .EOL, lit := [], posBefore := 7, posAfter := 8, hadWs := false, hadNl := false, lastNl := 0, num := .na } ],
    eof := { type := .EOL, lit := [], posBefore := 8, posAfter := 9, hadWs := false, hadNl := false, lastNl := 0, num := .na }, inputLen := 7 }

/-- `x "abc"` is valid; on its prefix `x "abc` (cut just before the closing quote) line mode returns
the one-statement program `x`: no continuation — the unclosed string is silently dropped -/
theorem witness_unclosed_string_after_statement :
    valid unclosedString.whole 40 = true ∧ cutKind [120, 32, 34, 97, 98, 99, 34] unclosedString.whole.toks 6 = some "in-string"
    ∧ (result unclosedString.line 40).map (fun r => (r.errors, r.cont, r.program.length)) = some (0, false, 1) := by
  decide +kernel

/-- `[() => 1]` is valid; on its prefix `[()` line mode asks for more input and reports no error (a refutation
witness before grol's parser fix "line mode asks for more input after () at the end of a line") -/
theorem fixed_empty_lambda_parameter_list :
    valid emptyParens.whole 40 = true ∧ (cutKind [91, 40, 41, 32, 61, 62, 32, 49, 93] emptyParens.whole.toks 3).isSome = true
    ∧ (result emptyParens.line 40).map (fun r => (r.errors, r.cont)) = some (0, true) := by
  decide +kernel

/-- `/*/ x */` is valid; on its prefix `/*/`, an unclosed block comment whose text ends in `*/`, line mode asks
for more input and reports no error (a refutation witness before grol's parser fix "the unterminated block comment
/*/ is not taken for a closed one") -/
theorem fixed_unclosed_comment_ending_in_star_slash :
    valid fakeComment.whole 40 = true ∧ cutKind [47, 42, 47, 32, 120, 32, 42, 47] fakeComment.whole.toks 3 = some "in-comment"
    ∧ (result fakeComment.line 40).map (fun r => (r.errors, r.cont)) = some (0, true) := by
  decide +kernel

/-- part 1: file mode accepts `func(){` (block still open at the end of the input) without any error,
line mode asks for more input -/
theorem witness_file_mode_accepts_unclosed_block :
    valid openBlock.file 40 = true ∧ (result openBlock.line 40).map (fun r => (r.errors, r.cont)) = some (0, true) := by
  decide +kernel

example : StreamWF openBlock.line := streamWF_of_b (by decide)

end Grol.C15
