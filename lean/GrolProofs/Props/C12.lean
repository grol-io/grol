import GrolProofs.CmpModel
/-
C12 — ordering and equality are coherent and total.

Statements about the model `Grol.Obj.cmp / equals / opLt … / minLoop` of object.go `Cmp`, `Equals`,
eval.go `evalInfixExpression` and the `min`/`max` extensions (tied to /repo by the `cmp`
correspondence suite).  Quantifier: all data values `a b c` (`isData`: any nesting of nil, booleans,
int64, every float64 bit pattern, strings, errors, functions, extensions, quotes, registers, arrays
and maps; excluded are RETURN and MACRO objects, which a program cannot hold and on which `Cmp`
panics by design).
-/
namespace Grol.Obj
open Grol.Ord

theorem typeEqual_comm (x y : Nat) : typeEqual x y = typeEqual y x := by
  rw [Bool.eq_iff_iff]
  simp only [typeEqual, isIntType, Bool.or_eq_true, Bool.and_eq_true, beq_iff_eq]
  omega

section
variable (a b c : Obj) (ha : isData a = true) (hb : isData b = true) (hc : isData c = true)
include ha hb

/-- comparing two values never panics and yields −1, 0 or 1 -/
theorem C12.no_panic : ∃ r, cmp a b = .ok r ∧ (r = -1 ∨ r = 0 ∨ r = 1) :=
  ⟨cmpI a b, cmp_eq a b ha hb, (cmpI_PW a).sign b⟩

/-- `cmp b a = − cmp a b` (antisymmetric up to equivalence) -/
theorem C12.antisymm : ∃ r, cmp a b = .ok r ∧ cmp b a = .ok (-r) :=
  ⟨cmpI a b, cmp_eq a b ha hb, by rw [cmp_eq b a hb ha, (cmpI_PW a).anti b]⟩

/-- the order is total -/
theorem C12.total : opLe a b = .ok true ∨ opLe b a = .ok true := by
  simp only [opLe, cmp_eq a b ha hb, cmp_eq b a hb ha, Outcome.map]
  have := total' cmpI_PW a b
  rcases this with h | h
  · left; simp [h]
  · right; simp [h]

/-- the four comparison operators are the three-way comparison and are mutually consistent:
`a<b ⇔ b>a`, `a<=b ⇔ b>=a`, `a<=b ⇔ ¬ a>b`, `a>=b ⇔ ¬ a<b`, `a!=b ⇔ ¬ a==b`; none panics -/
theorem C12.operators :
    ∃ lt le gt ge eq : Bool,
      opLt a b = .ok lt ∧ opLe a b = .ok le ∧ opGt a b = .ok gt ∧ opGe a b = .ok ge ∧ opEq a b = .ok eq
      ∧ opNe a b = .ok (!eq) ∧ opGt b a = .ok lt ∧ opGe b a = .ok le ∧ opLt b a = .ok gt ∧ opLe b a = .ok ge
      ∧ opEq b a = .ok eq
      ∧ le = !gt ∧ ge = !lt ∧ (eq = true → le = true ∧ ge = true) ∧ (lt = true → le = true) := by
  have hs := (cmpI_PW a).sign b
  have hanti := (cmpI_PW a).anti b
  have hte : typeEqual b.typ a.typ = typeEqual a.typ b.typ := typeEqual_comm _ _
  simp only [opLt, opLe, opGt, opGe, opEq, opNe, equals, cmp_eq a b ha hb, cmp_eq b a hb ha, Outcome.map, hanti, hte]
  -- all that is left speaks of the sign `cmpI a b` and of the type test: six closed cases
  generalize cmpI a b = r at hs
  generalize typeEqual a.typ b.typ = t
  cases t <;> refine ⟨_, _, _, _, _, rfl, rfl, rfl, rfl, rfl, ?_⟩
  all_goals rcases hs with rfl | rfl | rfl <;> decide

/-- `==` implies order-equivalence -/
theorem C12.equals_cmp (h : equals a b = .ok true) : cmp a b = .ok 0 := by
  simp only [equals, cmp_eq a b ha hb, Outcome.map] at h
  split at h
  · cases h
  · rw [cmp_eq a b ha hb]; simpa using h

/-- `==` is symmetric -/
theorem C12.equals_symm : equals a b = equals b a := by
  have hanti := (cmpI_PW a).anti b
  have hte : typeEqual b.typ a.typ = typeEqual a.typ b.typ := typeEqual_comm _ _
  simp only [equals, cmp_eq a b ha hb, cmp_eq b a hb ha, Outcome.map, hanti, hte]
  split
  · rfl
  · congr 1; rw [Bool.eq_iff_iff]; simp only [beq_iff_eq]; omega

include hc

/-- `<=` is transitive -/
theorem C12.trans (h1 : opLe a b = .ok true) (h2 : opLe b c = .ok true) : opLe a c = .ok true := by
  simp only [opLe, cmp_eq a b ha hb, cmp_eq b c hb hc, cmp_eq a c ha hc, Outcome.map, Outcome.ok.injEq, decide_eq_true_eq] at *
  exact le_trans' cmpI_PW a b c h1 h2

/-- `<` is transitive -/
theorem C12.lt_trans (h1 : opLt a b = .ok true) (h2 : opLt b c = .ok true) : opLt a c = .ok true := by
  simp only [opLt, cmp_eq a b ha hb, cmp_eq b c hb hc, cmp_eq a c ha hc, Outcome.map, Outcome.ok.injEq, beq_iff_eq] at *
  exact (cmpI_PW a).lt b c h1 h2

/-- order-equivalent values are interchangeable in every comparison -/
theorem C12.cmp_congr (h : cmp a b = .ok 0) : cmp a c = cmp b c ∧ cmp c a = cmp c b := by
  rw [cmp_eq a b ha hb] at h
  injection h with h
  rw [cmp_eq a c ha hc, cmp_eq b c hb hc, cmp_eq c a hc ha, cmp_eq c b hc hb, (cmpI_PW a).eqL b c h, (cmpI_PW c).eqR a b h]
  exact ⟨rfl, rfl⟩

/-- `==` is transitive -/
theorem C12.equals_trans (h1 : equals a b = .ok true) (h2 : equals b c = .ok true) : equals a c = .ok true := by
  have e1 := C12.equals_cmp a b ha hb h1
  have e2 := C12.equals_cmp b c hb hc h2
  have e3 : cmp a c = .ok 0 := by rw [(C12.cmp_congr a b c ha hb hc e1).1]; exact e2
  simp only [equals, Outcome.map] at h1 h2 ⊢
  have t1 : typeEqual a.typ b.typ = true := by
    cases h : typeEqual a.typ b.typ
    · simp [h] at h1
    · rfl
  have t2 : typeEqual b.typ c.typ = true := by
    cases h : typeEqual b.typ c.typ
    · simp [h] at h2
    · rfl
  have t3 : typeEqual a.typ c.typ = true := by
    simp only [typeEqual, isIntType, Bool.or_eq_true, Bool.and_eq_true, beq_iff_eq] at t1 t2 ⊢
    omega
  simp [t3, e3]

end

/-- reflexive; a value equals (`==`) a copy of itself -/
theorem C12.refl (a : Obj) (ha : isData a = true) : cmp a a = .ok 0 ∧ equals a a = .ok true := by
  have h : cmp a a = .ok 0 := by rw [cmp_eq a a ha ha, (cmpI_PW a).refl]
  refine ⟨h, ?_⟩
  simp [equals, typeEqual, h, Outcome.map]

/-- `min(a, b)` / `max(a, b)` (b not expanded) return one of the operands, which is `<=` / `>=` both -/
theorem C12.min_max (a b : Obj) (ha : isData a = true) (hb : isData b = true) :
    (∃ m, minLoop a [b] = .ok m ∧ (m = a ∨ m = b) ∧ opLe m a = .ok true ∧ opLe m b = .ok true)
    ∧ (∃ m, maxLoop a [b] = .ok m ∧ (m = a ∨ m = b) ∧ opGe m a = .ok true ∧ opGe m b = .ok true) := by
  have hs := (cmpI_PW a).sign b
  have hanti := (cmpI_PW a).anti b
  have raa := (cmpI_PW a).refl
  have rbb := (cmpI_PW b).refl
  constructor
  · simp only [minLoop, cmp_eq b a hb ha, hanti]
    by_cases h : -cmpI a b < 0
    · rw [if_pos h]
      refine ⟨b, rfl, Or.inr rfl, ?_, ?_⟩ <;> simp only [opLe, cmp_eq b a hb ha, cmp_eq b b hb hb, Outcome.map, hanti, rbb] <;> simp <;> omega
    · rw [if_neg h]
      refine ⟨a, rfl, Or.inl rfl, ?_, ?_⟩ <;> simp only [opLe, cmp_eq a a ha ha, cmp_eq a b ha hb, Outcome.map, raa] <;> simp <;> omega
  · simp only [maxLoop, cmp_eq b a hb ha, hanti]
    by_cases h : -cmpI a b > 0
    · rw [if_pos h]
      refine ⟨b, rfl, Or.inr rfl, ?_, ?_⟩ <;> simp only [opGe, cmp_eq b a hb ha, cmp_eq b b hb hb, Outcome.map, hanti, rbb] <;> simp <;> omega
    · rw [if_neg h]
      refine ⟨a, rfl, Or.inl rfl, ?_, ?_⟩ <;> simp only [opGe, cmp_eq a a ha ha, cmp_eq a b ha hb, Outcome.map, raa] <;> simp <;> omega

/-! ### the defect of grol's comparison before its repair (`cmp.Compare(float64(i), f)`), and non-vacuity -/

/-- `cmp.Compare(float64(i), f)`, the unfixed comparison, is not transitive:
x = 2^53+1, y = 2^53 (float), z = 2^53: x ≤ y, y ≤ z but x > z -/
theorem C12.legacy_int_float_not_transitive :
    cmpIntFloatLegacy 9007199254740993 ⟨0x4340000000000000⟩ ≤ 0
    ∧ -(cmpIntFloatLegacy 9007199254740992 ⟨0x4340000000000000⟩) ≤ 0
    ∧ cmpInt 9007199254740993 9007199254740992 = 1 := by decide +kernel

/-- with the exact comparison the same three values are ordered consistently -/
example : cmp (int 9007199254740993) (float ⟨0x4340000000000000⟩) = .ok 1
    ∧ cmp (float ⟨0x4340000000000000⟩) (int 9007199254740992) = .ok 0
    ∧ cmp (int 9007199254740993) (int 9007199254740992) = .ok 1 := by decide +kernel

example : isData (map [(arr [int 1, float ⟨0x7ff8000000000001⟩], quote [1]), (str [0xff], reg 5)]) = true := by decide +kernel
example : cmp (quote [113]) (quote [113]) = .ok 0 := by decide +kernel
example : cmp (arr [float ⟨0⟩, nil]) (arr [float ⟨0x8000000000000000⟩, nil]) = .ok 0 := by decide +kernel
example : equals (int 1) (float ⟨0x3ff0000000000000⟩) = .ok false ∧ cmp (int 1) (float ⟨0x3ff0000000000000⟩) = .ok 0 := by
  decide +kernel
/-- the excluded values really panic in the model, as in the code -/
example : cmp (mac []) (mac []) = .panic "Unexpected type in Cmp: MACRO" := by decide +kernel

end Grol.Obj
