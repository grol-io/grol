import GrolProofs.LexNext
import GrolProofs.LexString
import GrolProofs.LexLines
import GrolProofs.LexTrim
import Grol.LexSuite
/-
C16 — the lexer is lossless: tokens tile the input.

Statements about the model `Grol.Lexer` / `Grol.Token` (tied to /repo/lexer/lexer.go and
token/token.go by the `lex` correspondence suite, which also evaluates the executable statement
`Grol.LexSuite.statement` on the real lexer's observations).  Quantifiers: every lexer state `s`
(any input bytes, any position, both modes) — in particular every state reached from
`State.new input lineMode`.

`start s := (skipWhitespace s).pos` is where the token returned by `next s` begins,
`(next s).2.pos` where it ends; the next call starts from `(next s).2`, so the position before
token i+1 *is* the end of token i.
-/
namespace Grol.Lexer
open Grol.Token Grol.Token.TType Grol.LexSuite

def start (s : State) : Nat := (skipWhitespace s).pos

/-- the token is the end marker (`EOLT` / `EOFT`) -/
def isMarker (t : Tok) : Prop := t.src = .eoleof

theorem next_spec (s : State) : CoreSpec (skipWhitespace s) (next s) := nextCore_spec _

/-- every token is either the end marker of the mode or a well-formed token spanning
`[start, end)`; the end marker is only returned on a NUL byte / at the end of the input, or
where an unterminated string starts -/
theorem C16.cases (s : State) :
    ((next s).1 = eolEof s.lineMode ∧ start s ≤ (next s).2.pos ∧ peekAt s.input (next s).2.pos = 0
        ∧ ((next s).2.pos = start s ∨ peekAt s.input (start s) = 34 ∨ peekAt s.input (start s) = 96))
    ∨ TokOK s.input (start s) (next s).1 (next s).2.pos := by
  have h := (next_spec s).2
  have sk := skipWhitespace_spec s
  rw [sk.input, sk.mode] at h
  exact h

/-- (1) progress: a token that is not the end marker consumes at least one byte and ends inside
the input -/
theorem C16.progress (s : State) (h : ¬ isMarker (next s).1) :
    start s < (next s).2.pos ∧ (next s).2.pos ≤ s.input.size := by
  cases C16.cases s with
  | inl m => exact absurd (by rw [m.1]; rfl) h
  | inr ok => exact ⟨ok.lt, ok.le⟩

/-- (2) tiling: the bytes between the position before the call and the start of the token are
whitespace, the token starts on a non-whitespace byte, ends at or after its start, and the
call leaves input and mode unchanged (so the next token is cut from the same bytes, starting
where this one ended) -/
theorem C16.tiling (s : State) :
    s.pos ≤ start s
    ∧ (∀ i, s.pos ≤ i → i < start s → isWhiteSpace (peekAt s.input i) = true)
    ∧ isWhiteSpace (peekAt s.input (start s)) = false
    ∧ start s ≤ (next s).2.pos
    ∧ (next s).2.input = s.input ∧ (next s).2.lineMode = s.lineMode := by
  have sk := skipWhitespace_spec s
  have h := next_spec s
  have e : (next s).2.input = s.input ∧ (next s).2.lineMode = s.lineMode := by
    rw [h.1]; exact ⟨sk.input, sk.mode⟩
  refine ⟨sk.ge, sk.gap, sk.stop, ?_, e⟩
  cases C16.cases s with
  | inl m => exact m.2.1
  | inr ok => exact Nat.le_of_lt ok.lt

/-- the whitespace flags reported after the call are those computed by `skipWhitespace` -/
theorem C16.flags (s : State) :
    (next s).2.hadWhitespace = (skipWhitespace s).hadWhitespace
    ∧ (next s).2.hadNewline = (skipWhitespace s).hadNewline := by
  have h := (next_spec s).1
  rw [h]; exact ⟨rfl, rfl⟩

/-- (3a) the literal of an operator, identifier, keyword, number or block-comment token is
exactly the bytes it spans -/
theorem C16.literal_span (s : State) (h : ¬ isMarker (next s).1)
    (hk : (next s).1.src = .char1 ∨ (next s).1.src = .char2 ∨ (next s).1.src = .lookup ∨
      ((next s).1.src = .intern ∧ ((next s).1.type = INT ∨ (next s).1.type = FLOAT ∨ (next s).1.type = BLOCKCOMMENT))) :
    (next s).1.lit = spanL s.input (start s) (next s).2.pos := by
  cases C16.cases s with
  | inl m => exact absurd (by rw [m.1]; rfl) h
  | inr ok => exact ok.lit hk

/-- (3b) a string token spans an opening quote … the same closing quote -/
theorem C16.string_span (s : State) (h1 : (next s).1.src = .intern) (h2 : (next s).1.type = STRING) :
    start s + 2 ≤ (next s).2.pos ∧ (next s).2.pos ≤ s.input.size
    ∧ (peekAt s.input (start s) = 34 ∨ peekAt s.input (start s) = 96)
    ∧ peekAt s.input ((next s).2.pos - 1) = peekAt s.input (start s) := by
  cases C16.cases s with
  | inl m => rw [m.1] at h1; cases h1
  | inr ok => exact ⟨(ok.str h1 h2).1, ok.le, (ok.str h1 h2).2⟩

/-- (3c) a line comment spans `//` up to, not including, the next newline / NUL / end of input,
and its literal is that span with trailing space runes removed -/
theorem C16.linecomment_span (s : State) (h1 : (next s).1.src = .intern) (h2 : (next s).1.type = LINECOMMENT) :
    (next s).1.lit = trimSpaceRight (spanL s.input (start s) (next s).2.pos)
    ∧ peekAt s.input (start s) = 47 ∧ peekAt s.input (start s + 1) = 47
    ∧ (∀ i, start s + 1 ≤ i → i < (next s).2.pos → notEOL (peekAt s.input i) = true)
    ∧ notEOL (peekAt s.input (next s).2.pos) = false := by
  cases C16.cases s with
  | inl m => rw [m.1] at h1; cases h1
  | inr ok => exact ok.lc h1 h2

/-- (3d) a block comment spans `/*` … `*/`, or `/*` … up to a NUL byte / the end of the input
when it is not closed -/
theorem C16.blockcomment_span (s : State) (h1 : (next s).1.src = .intern) (h2 : (next s).1.type = BLOCKCOMMENT) :
    peekAt s.input (start s) = 47 ∧ peekAt s.input (start s + 1) = 42 ∧
      ((start s + 4 ≤ (next s).2.pos ∧ peekAt s.input ((next s).2.pos - 2) = 42 ∧ peekAt s.input ((next s).2.pos - 1) = 47)
        ∨ peekAt s.input (next s).2.pos = 0) := by
  cases C16.cases s with
  | inl m => rw [m.1] at h1; cases h1
  | inr ok => exact ok.bc h1 h2

/-- the lexer never returns a nil pointer and never hits a slice-bounds panic -/
theorem C16.no_nil_no_panic (s : State) : (next s).1.src ≠ .nil ∧ (next s).1.src ≠ .panic := by
  cases C16.cases s with
  | inl m => rw [m.1]; exact ⟨by simp [eolEof], by simp [eolEof]⟩
  | inr ok =>
    have wf := ok.wf
    unfold Tok.WF at wf
    constructor <;> (intro h; rw [h] at wf; exact wf)

/-! ### (4) the end marker is sticky -/

/-- `case 0` of the `switch`: the end marker, and the position goes back onto the NUL byte -/
theorem nextSwitch_zero (nc : UInt8) (s : State) : nextSwitch 0 nc s = (s.eolEof, { s with pos := s.pos - 1 }) := rfl

/-- on a byte that is not whitespace nothing is skipped -/
theorem start_eq_pos (s : State) (h : isWhiteSpace (peekAt s.input s.pos) = false) : start s = s.pos := by
  have sk := skipWhitespace_spec s
  apply Classical.byContradiction
  intro hne
  have := sk.gap s.pos (Nat.le_refl _) (Nat.lt_of_le_of_ne sk.ge (Ne.symm hne))
  rw [h] at this
  cases this

/-- on a NUL byte / at the end of the input the call returns the end marker of the mode and does not move -/
theorem next_at_zero (s : State) (h : peekAt s.input s.pos = 0) :
    (next s).1 = eolEof s.lineMode ∧ (next s).2.pos = s.pos := by
  have sk := skipWhitespace_spec s
  have hpos : (skipWhitespace s).pos = s.pos := start_eq_pos s (by rw [h]; rfl)
  have h0 : (skipWhitespace s).readChar.1 = 0 := by rw [readChar_fst, sk.input, hpos, h]
  unfold next nextCore
  rw [h0, nextSwitch_zero]
  exact ⟨congrArg eolEof sk.mode, hpos⟩

theorem next_of_zero (s : State) (h : peekAt s.input s.pos = 0) : isMarker (next s).1 := by
  rw [(next_at_zero s h).1]; rfl

/-- the end marker returned is the one of the mode, and the state then stands on a NUL byte / at the end -/
theorem marker_eq (s : State) (h : isMarker (next s).1) :
    (next s).1 = eolEof s.lineMode ∧ peekAt s.input (next s).2.pos = 0 := by
  cases C16.cases s with
  | inl m => exact ⟨m.1, m.2.2.1⟩
  | inr ok => exact absurd h ok.notMarker

/-- once the end marker has been returned, the next call returns it again and does not move -/
theorem C16.sticky_step (s : State) (h : isMarker (next s).1) :
    (next (next s).2).1 = (next s).1 ∧ (next (next s).2).2.pos = (next s).2.pos := by
  have t := C16.tiling s
  have z := next_at_zero (next s).2 (by rw [t.2.2.2.2.1]; exact (marker_eq s h).2)
  rw [z.1, t.2.2.2.2.2, (marker_eq s h).1]
  exact ⟨rfl, z.2⟩

def iter : Nat → State → State
  | 0, s => s
  | k + 1, s => iter k (next s).2

theorem iter_succ' (k : Nat) (s : State) : iter (k + 1) s = (next (iter k s)).2 := by
  induction k generalizing s with
  | zero => rfl
  | succ k ih => exact ih (next s).2

/-- the calls cut their tokens from the same bytes, in the same mode -/
theorem iter_same (s : State) : ∀ k, (iter k s).input = s.input ∧ (iter k s).lineMode = s.lineMode
  | 0 => ⟨rfl, rfl⟩
  | k + 1 => by
    have t := C16.tiling (iter k s)
    rw [iter_succ', t.2.2.2.2.1, t.2.2.2.2.2]
    exact iter_same s k

/-- (4) stickiness: after the first end marker every further call returns it -/
theorem C16.sticky (s : State) (h : isMarker (next s).1) (k : Nat) :
    (next (iter k s)).1 = (next s).1 ∧ (next (iter k s)).2.pos = (next s).2.pos := by
  induction k with
  | zero => exact ⟨rfl, rfl⟩
  | succ k ih =>
    rw [iter_succ']
    have hm : isMarker (next (iter k s)).1 := by unfold isMarker; rw [ih.1]; exact h
    have st := C16.sticky_step (iter k s) hm
    exact ⟨st.1.trans ih.1, st.2.trans ih.2⟩

/-! ### (1') the end marker is reached within n+1 tokens -/

theorem marker_within_aux : ∀ (m : Nat) (s : State), s.pos ≤ s.input.size → s.input.size - s.pos ≤ m →
    ∃ k, k ≤ m ∧ isMarker (next (iter k s)).1 := by
  intro m
  induction m with
  | zero =>
    intro s h1 h2
    refine ⟨0, Nat.le_refl _, ?_⟩
    apply Classical.byContradiction
    intro hm
    have p := C16.progress s hm
    have t := C16.tiling s
    omega
  | succ m ih =>
    intro s h1 h2
    by_cases hm : isMarker (next s).1
    · exact ⟨0, Nat.zero_le _, hm⟩
    · have p := C16.progress s hm
      have t := C16.tiling s
      obtain ⟨k, hk, hk2⟩ := ih (next s).2 (by rw [t.2.2.2.2.1]; exact p.2) (by rw [t.2.2.2.2.1]; omega)
      exact ⟨k + 1, by omega, hk2⟩

/-- (1') lexing an input of `n` bytes returns the end marker after at most `n` other tokens,
i.e. within `n+1` calls; the driver's fuel `n + 5` therefore always shows the marker and three
further calls -/
theorem C16.marker_within (input : Array UInt8) (lineMode : Bool) :
    ∃ k, k ≤ input.size ∧ isMarker (next (iter k (State.new input lineMode))).1 :=
  marker_within_aux input.size (State.new input lineMode) (Nat.zero_le _) (by simp [State.new])

/-- all tokens before the first end marker lie inside the input, in order: positions never
decrease from call to call -/
theorem C16.monotone (s : State) : s.pos ≤ (next s).2.pos := by
  have t := C16.tiling s; omega

/-- every token returned by the lexer is well-formed (the hypothesis of `C16.InterningStatement`) -/
theorem C16.next_wf (s : State) : (next s).1.WF := by
  cases C16.cases s with
  | inl m => rw [m.1]; unfold Tok.WF eolEof; cases s.lineMode <;> simp
  | inr ok => exact ok.wf

/-! ### (5) keywords never lex as identifiers -/

theorem keywords_not_ident : ∀ p ∈ keywords, p.2 ≠ IDENT := by decide
theorem cTokens_not_ident : ∀ p ∈ cTokens, p.2 ≠ IDENT := by decide
theorem c2Tokens_not_ident : ∀ p ∈ c2Tokens, p.2 ≠ IDENT := by decide

/-- `LookupIdent` on a keyword never yields IDENT -/
theorem C16.lookupIdent_keyword (w : Bytes) (ty : TType) (h : keywords.lookup w = some ty) :
    (lookupIdent w).type = ty ∧ (lookupIdent w).type ≠ IDENT := by
  have e : (lookupIdent w).type = ty := by unfold lookupIdent; rw [h]
  exact ⟨e, by rw [e]; exact keywords_not_ident _ (lookup_mem _ _ _ h)⟩

theorem ident_src : ∀ s, IDENT ∈ srcTypes s → s = .lookup := by
  intro s; cases s <;> decide

/-- (5) a token of type IDENT returned by the lexer is never spelled like a keyword -/
theorem C16.keywords_never_ident (s : State) (h : (next s).1.type = IDENT) :
    keywords.lookup (next s).1.lit = none := by
  have wf := C16.next_wf s
  have hsrc := ident_src _ (h ▸ wf.type_mem)
  unfold Tok.WF at wf
  rw [hsrc] at wf
  cases hl : keywords.lookup (next s).1.lit with
  | none => rfl
  | some ty =>
    rw [hl] at wf
    exact absurd (wf.symm.trans h) (keywords_not_ident _ (lookup_mem _ _ _ hl))

/-! ### (6) interning -/

/-- `idx` is the library's `idxOf`, whose lemmas give what follows -/
theorem idx_eq_idxOf (k : Key) : ∀ tb : Table, idx k tb = tb.idxOf k
  | [] => rfl
  | x :: xs => by
    rw [idx, List.idxOf_cons, idx_eq_idxOf k xs]
    by_cases h : x = k
    · rw [if_pos h, beq_iff_eq.2 h]; rfl
    · rw [if_neg h, beq_eq_false_iff_ne.2 h]; rfl

theorem idx_lt_iff (k : Key) (tb : Table) : idx k tb < tb.length ↔ k ∈ tb := by
  rw [idx_eq_idxOf]; exact List.idxOf_lt_length_iff

theorem idx_append (k : Key) (ext tb : Table) (h : k ∈ tb) : idx k (tb ++ ext) = idx k tb := by
  rw [idx_eq_idxOf, idx_eq_idxOf, List.idxOf_append, if_pos h]

theorem idx_append_new (k : Key) (tb : Table) (h : k ∉ tb) : idx k (tb ++ [k]) = tb.length := by
  rw [idx_eq_idxOf, List.idxOf_append, if_neg h, List.idxOf_cons_self, Nat.zero_add]

theorem idx_inj {T : Table} {k1 k2 : Key} (m1 : k1 ∈ T) (m2 : k2 ∈ T) (h : idx k1 T = idx k2 T) : k1 = k2 := by
  rw [idx_eq_idxOf, idx_eq_idxOf] at h
  have e1 : T[T.idxOf k1]? = some k1 := by
    rw [List.getElem?_eq_getElem (List.idxOf_lt_length_of_mem m1), List.getElem_idxOf]
  have e2 : T[T.idxOf k2]? = some k2 := by
    rw [List.getElem?_eq_getElem (List.idxOf_lt_length_of_mem m2), List.getElem_idxOf]
  rw [h, e2] at e1
  exact (Option.some.inj e1).symm

/-- `Intern`: the pointer returned is the slot of the *first* occurrence of the key in the
resulting table, which extends the old one -/
theorem intern_spec (tb : Table) (k : Key) :
    (intern tb k).1 = .slot (idx k (intern tb k).2) ∧ k ∈ (intern tb k).2 ∧ ∃ ext, (intern tb k).2 = tb ++ ext := by
  unfold intern
  simp only []
  by_cases h : idx k tb < tb.length
  · simp only [h, ↓reduceIte]
    exact ⟨by first | trivial | rfl, (idx_lt_iff k tb).mp h, [], by simp⟩
  · simp only [h, ↓reduceIte]
    have hn : k ∉ tb := fun e => h ((idx_lt_iff k tb).mpr e)
    exact ⟨by rw [idx_append_new k tb hn], by simp, [k], rfl⟩

/-- (6) interning uniqueness: whatever was interned in between (`ext`), interning `k2` after
`k1` returns the same pointer iff the keys `(type, literal)` are equal -/
theorem C16.intern_unique (tb : Table) (k1 k2 : Key) (ext : Table) :
    (intern ((intern tb k1).2 ++ ext) k2).1 = (intern tb k1).1 ↔ k2 = k1 := by
  obtain ⟨p1, m1, _⟩ := intern_spec tb k1
  obtain ⟨p2, m2, e2, he2⟩ := intern_spec ((intern tb k1).2 ++ ext) k2
  rw [p1, p2]
  have hm1 : k1 ∈ (intern ((intern tb k1).2 ++ ext) k2).2 := by
    rw [he2]; simp [m1]
  have i1 : idx k1 (intern ((intern tb k1).2 ++ ext) k2).2 = idx k1 (intern tb k1).2 := by
    rw [he2, List.append_assoc]; exact idx_append k1 _ _ m1
  rw [← i1]
  exact ⟨fun h => idx_inj m2 hm1 (Ptr.slot.inj h), fun h => by rw [h]⟩

/-- the interning table built by `Init` holds every keyword and two-character operator once -/
theorem C16.initTable_nodup : initTable.Nodup := by decide +kernel

/-- full interning statement over a whole token stream (any well-formed tokens, any table that
extends the one built by `Init`): two calls return the same pointer iff type and literal agree -/
def C16.InterningStatement : Prop :=
  ∀ (ts : List Tok), (∀ t ∈ ts, t.WF) → ∀ (ext : Table) (i j : Nat) (hi : i < ts.length) (hj : j < ts.length),
    ((resolveAll (initTable ++ ext) ts)[i]? = (resolveAll (initTable ++ ext) ts)[j]?
      ↔ (ts[i].type, ts[i].lit) = (ts[j].type, ts[j].lit))

/-- the `Intern` calls alone (every value token: numbers, strings, comments, illegal bytes,
non-keyword identifiers), with anything interned in between; a special case of `C16.interning` below -/
theorem C16.interning_partial (tb : Table) (k1 k2 : Key) (ext : Table) :
    (intern ((intern tb k1).2 ++ ext) k2).1 = (intern tb k1).1 ↔ k2 = k1 :=
  C16.intern_unique tb k1 k2 ext

/-! ### towards the full interning statement: what each pointer denotes -/

def key (t : Tok) : Key := (t.type, t.lit)

/-- what pointer a well-formed token denotes in (any extension of) table `T` -/
def PtrDen (T : Table) (t : Tok) (p : Ptr) : Prop :=
  match t.src with
  | .eoleof => p = (if t.type = EOL then Ptr.eolt else Ptr.eoft)
  | .char1 => ∃ c, t.lit = [c] ∧ p = Ptr.c1 c
  | .char2 => p = Ptr.slot (idx (key t) T) ∧ key t ∈ T
  | .intern => p = Ptr.slot (idx (key t) T) ∧ key t ∈ T
  | .lookup => p = Ptr.slot (idx (key t) T) ∧ key t ∈ T
  | .nil => False
  | .panic => False

theorem PtrDen.ext {T : Table} {t : Tok} {p : Ptr} (h : PtrDen T t p) (e : Table) : PtrDen (T ++ e) t p := by
  unfold PtrDen at *
  split <;> simp_all [idx_append]

theorem kw_mem_init (w : Bytes) (ty : TType) (h : keywords.lookup w = some ty) : (ty, w) ∈ initTable := by
  have := lookup_mem _ _ _ h
  unfold initTable
  exact List.mem_append_left _ (List.mem_map.mpr ⟨(w, ty), this, rfl⟩)

theorem c2_mem_init (a b : UInt8) (ty : TType) (h : c2Tokens.lookup (a, b) = some ty) : (ty, [a, b]) ∈ initTable := by
  have := lookup_mem _ _ _ h
  unfold initTable
  exact List.mem_append_right _ (List.mem_map.mpr ⟨((a, b), ty), this, rfl⟩)

theorem resolve_den (ext : Table) (t : Tok) (wf : t.WF) :
    ∃ e, (resolve (initTable ++ ext) t).2 = initTable ++ ext ++ e
      ∧ PtrDen (initTable ++ ext ++ e) t (resolve (initTable ++ ext) t).1 := by
  unfold Tok.WF at wf
  unfold resolve PtrDen
  split at wf
  · rename_i hs; simp only [hs]; exact ⟨[], by simp, by first | trivial | rfl⟩
  · rename_i hs; simp only [hs]
    obtain ⟨c, hc, _⟩ := wf
    exact ⟨[], by simp, c, hc, by first | trivial | rfl | (rw [hc])⟩
  · rename_i hs; simp only [hs]
    obtain ⟨a, b, hl, hc⟩ := wf
    have hm : key t ∈ initTable := by unfold key; rw [hl]; exact c2_mem_init a b _ hc
    refine ⟨[], by simp, ?_, by simp [hm]⟩
    simp only [List.append_nil]
    rw [idx_append _ _ _ hm]; rfl
  · rename_i hs; simp only [hs]
    obtain ⟨p, m, e, he⟩ := intern_spec (initTable ++ ext) (t.type, t.lit)
    exact ⟨e, he, by rw [← he]; exact p, by rw [← he]; exact m⟩
  · rename_i hs; simp only [hs]
    cases hl : keywords.lookup t.lit with
    | some ty =>
      rw [hl] at wf; simp only [Option.getD] at wf
      have hm : key t ∈ initTable := by unfold key; rw [wf]; exact kw_mem_init _ _ hl
      refine ⟨[], by simp, ?_, by simp [hm]⟩
      simp only [List.append_nil]
      rw [idx_append _ _ _ hm]; unfold key; rw [wf]
    | none =>
      rw [hl] at wf; simp only [Option.getD] at wf
      obtain ⟨p, m, e, he⟩ := intern_spec (initTable ++ ext) (IDENT, t.lit)
      have hk : key t = (IDENT, t.lit) := by unfold key; rw [wf]
      exact ⟨e, he, by rw [← he, hk]; exact p, by rw [← he, hk]; exact m⟩
  · exact wf.elim
  · exact wf.elim

/-! ### (6) the full interning statement -/

theorem resolveAll_length : ∀ (ts : List Tok) (tb : Table), (resolveAll tb ts).length = ts.length := by
  intro ts
  induction ts with
  | nil => intro tb; rfl
  | cons t ts ih => intro tb; simp [resolveAll, ih]

/-- every pointer of the stream denotes its token's key in one final table -/
theorem resolveAll_den : ∀ (ts : List Tok) (ext : Table), (∀ t ∈ ts, t.WF) →
    ∃ e, ∀ (i : Nat) (t : Tok) (p : Ptr), ts[i]? = some t → (resolveAll (initTable ++ ext) ts)[i]? = some p →
      PtrDen (initTable ++ ext ++ e) t p := by
  intro ts
  induction ts with
  | nil => intro ext _; exact ⟨[], fun i t p h => by simp at h⟩
  | cons t ts ih =>
    intro ext wf
    obtain ⟨e1, he1, hd1⟩ := resolve_den ext t (wf t List.mem_cons_self)
    obtain ⟨e2, h2⟩ := ih (ext ++ e1) (fun u hu => wf u (List.mem_cons_of_mem _ hu))
    refine ⟨e1 ++ e2, ?_⟩
    intro i u p hu hp
    have assoc : initTable ++ ext ++ (e1 ++ e2) = initTable ++ ext ++ e1 ++ e2 := by simp
    cases i with
    | zero =>
      simp only [List.getElem?_cons_zero, Option.some.injEq] at hu
      subst hu
      simp only [resolveAll, List.getElem?_cons_zero, Option.some.injEq] at hp
      subst hp
      rw [assoc]
      exact hd1.ext e2
    | succ j =>
      simp only [List.getElem?_cons_succ] at hu
      simp only [resolveAll, List.getElem?_cons_succ] at hp
      rw [he1, List.append_assoc] at hp
      have := h2 j u p hu hp
      rw [assoc, List.append_assoc initTable ext e1]
      exact this

/-- 0 = end marker, 1 = single-character constant, 2 = token held by the interning map -/
def kind (t : Tok) : Nat :=
  match t.src with
  | .eoleof => 0
  | .char1 => 1
  | _ => 2

def isC1Type (ty : TType) : Bool := (cTokens.map (·.2)).contains ty

/-- the same classification read off the type alone -/
def tcls (ty : TType) : Nat := if ty = EOL ∨ ty = EOF then 0 else if isC1Type ty then 1 else 2

theorem srcTypes_cls : ∀ s, ∀ ty ∈ srcTypes s, tcls ty = kind ⟨ty, [], s⟩ := by
  intro s; cases s <;> decide +kernel

theorem wf_cls (t : Tok) (wf : t.WF) : tcls t.type = kind t :=
  srcTypes_cls t.src _ wf.type_mem

/-- normal form of `PtrDen` by kind -/
theorem den_norm {T : Table} {t : Tok} {p : Ptr} (wf : t.WF) (h : PtrDen T t p) :
    (kind t = 0 ∧ t.lit = [] ∧ p = (if t.type = EOL then Ptr.eolt else Ptr.eoft))
    ∨ (kind t = 1 ∧ ∃ c, t.lit = [c] ∧ cTokens.lookup c = some t.type ∧ p = Ptr.c1 c)
    ∨ (kind t = 2 ∧ p = Ptr.slot (idx (key t) T) ∧ key t ∈ T) := by
  unfold Tok.WF at wf
  unfold PtrDen at h
  unfold kind
  split at wf
  · rename_i hs; simp only [hs] at h ⊢; exact Or.inl ⟨trivial, wf.2, h⟩
  · rename_i hs; simp only [hs] at h ⊢
    obtain ⟨c, hc, hl⟩ := wf
    obtain ⟨c', hc', hp⟩ := h
    have : c' = c := by rw [hc] at hc'; injection hc' with h1; exact h1.symm
    subst this
    exact Or.inr (Or.inl ⟨trivial, c', hc, hl, hp⟩)
  · rename_i hs; simp only [hs] at h ⊢; exact Or.inr (Or.inr ⟨trivial, h⟩)
  · rename_i hs; simp only [hs] at h ⊢; exact Or.inr (Or.inr ⟨trivial, h⟩)
  · rename_i hs; simp only [hs] at h ⊢; exact Or.inr (Or.inr ⟨trivial, h⟩)
  · exact wf.elim
  · exact wf.elim

/-- the kind of token a pointer was made for -/
def pkind : Ptr → Nat
  | .eolt => 0 | .eoft => 0 | .c1 _ => 1 | _ => 2

theorem den_pkind {T : Table} {t : Tok} {p : Ptr} (wf : t.WF) (h : PtrDen T t p) : pkind p = kind t := by
  rcases den_norm wf h with ⟨k, _, e⟩ | ⟨k, c, _, _, e⟩ | ⟨k, e, _⟩ <;> rw [k, e]
  · split <;> rfl
  · rfl
  · rfl

theorem tcls_zero {ty : TType} (h : tcls ty = 0) : ty = EOL ∨ ty = EOF := by
  unfold tcls at h
  by_cases e : ty = EOL ∨ ty = EOF
  · exact e
  · rw [if_neg e] at h; split at h <;> cases h

/-- in one table, two well-formed tokens denote the same pointer iff type and literal agree: either
side makes the two tokens of one kind, and within a kind the pointer is read off the key -/
theorem den_inj {T : Table} {t1 t2 : Tok} {p1 p2 : Ptr} (w1 : t1.WF) (w2 : t2.WF)
    (d1 : PtrDen T t1 p1) (d2 : PtrDen T t2 p2) : p1 = p2 ↔ key t1 = key t2 := by
  have c1 := wf_cls t1 w1
  have c2 := wf_cls t2 w2
  suffices h : kind t1 = kind t2 → (p1 = p2 ↔ key t1 = key t2) from
    ⟨fun e => (h (by rw [← den_pkind w1 d1, ← den_pkind w2 d2, e])).1 e,
     fun e => (h (by rw [← c1, ← c2, show t1.type = t2.type from congrArg Prod.fst e])).2 e⟩
  intro hk
  unfold key
  rcases den_norm w1 d1 with ⟨k1, l1, e1⟩ | ⟨k1, a, la, ha, e1⟩ | ⟨k1, e1, m1⟩
  · rcases den_norm w2 d2 with ⟨k2, l2, e2⟩ | ⟨k2, _⟩ | ⟨k2, _⟩
    · rw [e1, e2, l1, l2]
      rcases tcls_zero (c1.trans k1) with h1 | h1 <;> rcases tcls_zero (c2.trans k2) with h2 | h2 <;>
        simp [h1, h2]
    · omega
    · omega
  · rcases den_norm w2 d2 with ⟨k2, _⟩ | ⟨k2, b, lb, hb, e2⟩ | ⟨k2, _⟩
    · omega
    · rw [e1, e2, la, lb]
      constructor
      · intro h
        have h := Ptr.c1.inj h
        rw [h, hb] at ha
        rw [Option.some.inj ha, h]
      · intro h
        rw [(List.cons.inj (congrArg Prod.snd h)).1]
    · omega
  · rcases den_norm w2 d2 with ⟨k2, _⟩ | ⟨k2, _⟩ | ⟨k2, e2, m2⟩
    · omega
    · omega
    · rw [e1, e2]
      exact ⟨fun h => idx_inj m1 m2 (Ptr.slot.inj h), fun h => by rw [show key t1 = key t2 from h]⟩

/-- (6) interning, full statement: over any stream of well-formed tokens (every token the lexer
returns is one: `C16.next_wf`), resolved against any table that extends the one built by `Init`,
two calls return the same pointer iff type and literal are equal -/
theorem C16.interning : C16.InterningStatement := by
  intro ts wf ext i j hi hj
  obtain ⟨e, hd⟩ := resolveAll_den ts ext wf
  have li : i < (resolveAll (initTable ++ ext) ts).length := by rw [resolveAll_length]; exact hi
  have lj : j < (resolveAll (initTable ++ ext) ts).length := by rw [resolveAll_length]; exact hj
  have di := hd i ts[i] _ (List.getElem?_eq_getElem hi) (List.getElem?_eq_getElem li)
  have dj := hd j ts[j] _ (List.getElem?_eq_getElem hj) (List.getElem?_eq_getElem lj)
  have := den_inj (wf _ (List.getElem_mem hi)) (wf _ (List.getElem_mem hj)) di dj
  rw [List.getElem?_eq_getElem li, List.getElem?_eq_getElem lj]
  constructor
  · intro h; injection h with h; exact this.mp h
  · intro h; rw [this.mpr h]

/-- the pointers of the tokens returned by `k` successive calls of the lexer, from any state -/
theorem C16.interning_lexer (s : State) (k : Nat) (ext : Table) (i j : Nat) (hi : i < k) (hj : j < k) :
    let ts := (List.range k).map fun n => (next (iter n s)).1
    ((resolveAll (initTable ++ ext) ts)[i]? = (resolveAll (initTable ++ ext) ts)[j]?
      ↔ ((next (iter i s)).1.type, (next (iter i s)).1.lit) = ((next (iter j s)).1.type, (next (iter j s)).1.lit)) := by
  intro ts
  have wf : ∀ t ∈ ts, t.WF := by
    intro t ht
    obtain ⟨n, _, rfl⟩ := List.mem_map.mp ht
    exact C16.next_wf _
  have hi' : i < ts.length := by simp [ts]; exact hi
  have hj' : j < ts.length := by simp [ts]; exact hj
  have := C16.interning ts wf ext i j hi' hj'
  simpa [ts] using this

/-! ### (3b') string literal = unescape(content) -/

/-- `NextToken` on a quote against the statement's decoder, run on the text after the quote: where the
decoder returns a value the token is that STRING and ends where the decoder stopped; where it says
"not terminated" the end marker is returned -/
theorem next_on_quote (s : State) (hq : peekAt s.input (start s) = 34 ∨ peekAt s.input (start s) = 96) :
    match specString (peekAt s.input (start s) == 34) (peekAt s.input (start s)) (s.input.size + 1)
        (restL s.input (start s + 1)) with
    | some (v, m) => next s = (internTok STRING v, { skipWhitespace s with pos := start s + 1 + m })
    | none => isMarker (next s).1 := by
  have sk := skipWhitespace_spec s
  obtain ⟨S, hS⟩ : ∃ S : State, S = { skipWhitespace s with pos := (skipWhitespace s).pos + 1 } := ⟨_, rfl⟩
  have e : next s = quoteCase (peekAt s.input (start s)) S := by
    rw [hS, ← sk.input]; exact nextSwitch_quote _ _ _ (by rw [readChar_fst, sk.input]; exact hq)
  have ag := readString_eq_spec S _ hq (by rw [hS]; exact Nat.le_add_left 1 _)
  rw [show S.input = s.input by rw [hS]; exact sk.input, show S.pos = start s + 1 by rw [hS]; rfl] at ag
  rw [e]
  unfold quoteCase
  split <;> rename_i h <;> rw [h] at ag
  · rw [show readString S _ = _ from ag, hS]; rfl
  · rw [show (readString S _).2.1 = false from ag]; rfl

/-- (3b') string literal = unescape(content), by proof: for a STRING token the statement's own
decoder, run exactly as `LexSuite.checkTok` runs it (same quote, same fuel, same bytes), returns
the token's literal and the token's length after the opening quote -/
theorem C16.string_literal (s : State) (h1 : (next s).1.src = .intern) (h2 : (next s).1.type = STRING) :
    specString (peekAt s.input (start s) == 34) (peekAt s.input (start s)) (s.input.size + 1)
        ((s.input.extract (start s + 1) s.input.size).toList)
      = some ((next s).1.lit, (next s).2.pos - start s - 1) := by
  have nq := next_on_quote s (C16.string_span s h1 h2).2.2.1
  show specString _ _ _ (restL s.input (start s + 1)) = _
  split at nq <;> rename_i h
  · rw [h, nq]
    exact congrArg (fun m => some (_, m)) (by show _ = start s + 1 + _ - start s - 1; omega)
  · rw [show (next s).1.src = .eoleof from nq] at h1
    cases h1

/-- … and where the lexer returns the end marker on a quote, that decoder says "not terminated"
(the `checkMarker` clause of the executable statement) -/
theorem C16.unterminated_string (s : State) (hm : isMarker (next s).1)
    (hq : peekAt s.input (start s) = 34 ∨ peekAt s.input (start s) = 96) :
    specString (peekAt s.input (start s) == 34) (peekAt s.input (start s)) (s.input.size + 1)
        ((s.input.extract (start s + 1) s.input.size).toList) = none := by
  have nq := next_on_quote s hq
  show specString _ _ _ (restL s.input (start s + 1)) = _
  split at nq <;> rename_i h
  · rw [nq] at hm
    cases hm
  · exact h

/-! ### (7) line bookkeeping: `lastNewLine`, `lineNumber`, `hadNewline`, `hadWhitespace` -/

/-- `next` keeps the line invariant: `lastNewLine ≤ pos`, `lastNewLine ≤ len(input)`, `lastNewLine`
is 0 or just after a newline byte, `1 ≤ lineNumber ≤ 1 + #newlines before pos` -/
theorem C16.lineInv_next (s : State) (h : LineInv s) : LineInv (next s).2 := by
  have h1 := (skipWhitespace_flags s).1 h
  have sp := next_spec s
  have t := C16.tiling s
  rw [sp.1]
  exact h1.advance t.2.2.2.1

theorem C16.lineInv_iter (s : State) (h : LineInv s) (k : Nat) : LineInv (iter k s) := by
  induction k with
  | zero => exact h
  | succ k ih => rw [iter_succ']; exact C16.lineInv_next _ ih

/-- after every call, from the initial state of either mode: `LastNewLine() ≤ min Pos() len(input)`
(the first hypothesis of the parser's `StreamWF`) -/
theorem C16.lastNewLine_le (input : Array UInt8) (lineMode : Bool) (k : Nat) :
    (next (iter k (State.new input lineMode))).2.lastNewLine
      ≤ min (next (iter k (State.new input lineMode))).2.pos input.size := by
  have h := C16.lineInv_next _ (C16.lineInv_iter _ (LineInv.new input lineMode) k)
  have := h.le_pos
  have := h.le_size
  rw [(C16.tiling _).2.2.2.2.1, (iter_same _ k).1] at this
  exact Nat.le_min.mpr ⟨h.le_pos, this⟩

/-- the flags after the call say exactly what lies between the previous token and this one -/
theorem C16.flags_exact (s : State) :
    ((next s).2.hadWhitespace = true ↔ s.pos < start s)
    ∧ ((next s).2.hadNewline = true ↔ ∃ i, s.pos ≤ i ∧ i < start s ∧ peekAt s.input i = 10) := by
  have f := C16.flags s
  have k := skipWhitespace_flags s
  rw [f.1, f.2]
  exact ⟨k.2.1, k.2.2⟩

theorem linecomment_src : ∀ s, LINECOMMENT ∈ srcTypes s → s = .intern := by
  intro s; cases s <;> decide

/-- a line comment is followed by a token with `HadNewline()`, or by the end marker (the second
hypothesis of the parser's `StreamWF`) -/
theorem C16.after_linecomment (s : State) (h : (next s).1.type = LINECOMMENT) :
    (next (next s).2).2.hadNewline = true ∨ isMarker (next (next s).2).1 := by
  have hsrc := linecomment_src _ (h ▸ (C16.next_wf s).type_mem)
  have lc := C16.linecomment_span s hsrc h
  have t := C16.tiling s
  have hstop := lc.2.2.2.2
  have : peekAt s.input (next s).2.pos = 10 ∨ peekAt s.input (next s).2.pos = 0 := by
    unfold notEOL at hstop
    simp only [Bool.and_eq_false_imp, bne_iff_ne, ne_eq, bne_eq_false_iff_eq] at hstop
    by_cases h10 : peekAt s.input (next s).2.pos = 10
    · exact Or.inl h10
    · exact Or.inr (hstop h10)
  rcases this with h10 | h0
  · left
    rw [(C16.flags_exact (next s).2).2]
    have sk := skipWhitespace_spec (next s).2
    refine ⟨(next s).2.pos, Nat.le_refl _, ?_, by rw [t.2.2.2.2.1]; exact h10⟩
    unfold start
    have hstp := sk.stop
    rw [t.2.2.2.2.1] at hstp
    apply Classical.byContradiction
    intro hn
    have : (skipWhitespace (next s).2).pos = (next s).2.pos := by have := sk.ge; omega
    rw [this, h10] at hstp
    revert hstp; decide
  · right
    exact next_of_zero _ (by rw [t.2.2.2.2.1]; exact h0)

/-- `lineNumber` is *not* "1 + number of newlines before pos": newlines inside strings and block
comments are not counted (only `skipWhitespace` counts).  Input: a backquoted string holding a
newline, then `x`: after both tokens `lineNumber` is still 1 although a newline lies before `pos`. -/
example : (iter 2 (State.new #[96, 10, 96, 32, 120] false)).lineNumber = 1
    ∧ countNL #[96, 10, 96, 32, 120] (iter 2 (State.new #[96, 10, 96, 32, 120] false)).pos = 1 := by
  decide +kernel

/-! ### (3c') line-comment literal = TrimSpace(span) in the statement's sense; literals that end a line -/

/-- the literal of a LINECOMMENT token passes the statement's `isTrimOf` check on its span (and by
`isTrimOf_iff` it is the only literal that does) -/
theorem C16.linecomment_literal (s : State) (h1 : (next s).1.src = .intern) (h2 : (next s).1.type = LINECOMMENT) :
    isTrimOf (next s).1.lit (spanOf s.input (start s) (next s).2.pos) = true := by
  rw [(C16.linecomment_span s h1 h2).1]
  exact isTrimOf_trimSpaceRight _

theorem mem_spanL {input : Array UInt8} {a b : Nat} {x : UInt8} (h : x ∈ spanL input a b) :
    ∃ i, a ≤ i ∧ i < b ∧ x = peekAt input i := by
  obtain ⟨i, hi⟩ := List.mem_iff_getElem?.mp h
  rw [spanL_getElem?] at hi
  split at hi
  · rename_i hlt
    refine ⟨a + i, by omega, by omega, ?_⟩
    unfold peekAt; rw [hi]; rfl
  · cases hi

theorem getLast?_mem {l : Bytes} {x : UInt8} (h : l.getLast? = some x) : x ∈ l := by
  rw [List.getLast?_eq_getElem?] at h
  exact List.mem_iff_getElem?.mpr ⟨_, h⟩

/-- a non-empty span without newline bytes: non-empty, last byte is not a newline -/
theorem span_litOK {input : Array UInt8} {a b : Nat} (h1 : a < b) (h2 : b ≤ input.size)
    (hn : ∀ i, a ≤ i → i < b → peekAt input i ≠ 10) :
    spanL input a b ≠ [] ∧ (spanL input a b).getLast? ≠ some 10 := by
  constructor
  · intro h
    have := congrArg List.length h
    rw [spanL_length] at this
    simp at this; omega
  · intro h
    obtain ⟨i, hi1, hi2, hx⟩ := mem_spanL (getLast?_mem h)
    exact hn i hi1 hi2 hx.symm

theorem spaces_head_ne_slash {l : Bytes} (h : Spaces l) : l[0]? ≠ some 47 := by
  cases h with
  | nil => simp
  | cons q l' hq _ =>
    have hne := seq_ne_nil q hq
    have hh := seq_head_ne_slash q hq
    cases q with
    | nil => exact absurd rfl hne
    | cons a t => simpa using hh

theorem cTokens_key_nl : ∀ p ∈ cTokens, p.1 ≠ 10 := by decide
theorem c2Tokens_key_nl : ∀ p ∈ c2Tokens, p.1.2 ≠ 10 := by decide

/-- operators, identifiers, keywords, numbers and line comments have a non-empty literal that does
not end in a newline byte (what the printer needs of the last token of a line) -/
theorem C16.literal_ends_line (s : State)
    (hk : (next s).1.src = .char1 ∨ (next s).1.src = .char2 ∨ (next s).1.src = .lookup ∨
      ((next s).1.src = .intern ∧ ((next s).1.type = INT ∨ (next s).1.type = FLOAT ∨ (next s).1.type = LINECOMMENT))) :
    (next s).1.lit ≠ [] ∧ (next s).1.lit.getLast? ≠ some 10 := by
  cases C16.cases s with
  | inl m =>
    rw [m.1] at hk
    simp [eolEof] at hk
  | inr ok =>
    have wf := ok.wf
    rcases hk with h | h | h | ⟨h, hty⟩
    · unfold Tok.WF at wf; rw [h] at wf
      obtain ⟨c, hl, hc⟩ := wf
      rw [hl]
      exact ⟨by simp, by simp; exact cTokens_key_nl _ (lookup_mem _ _ _ hc)⟩
    · unfold Tok.WF at wf; rw [h] at wf
      obtain ⟨a, b, hl, hc⟩ := wf
      rw [hl]
      exact ⟨by simp, by simp; exact c2Tokens_key_nl _ (lookup_mem _ _ _ hc)⟩
    · rw [ok.lit (Or.inr (Or.inr (Or.inl h)))]
      exact span_litOK ok.lt ok.le (ok.nonl (Or.inl h))
    · rcases hty with hty | hty | hty
      · rw [ok.lit (Or.inr (Or.inr (Or.inr ⟨h, Or.inl hty⟩)))]
        exact span_litOK ok.lt ok.le (ok.nonl (Or.inr ⟨h, Or.inl hty⟩))
      · rw [ok.lit (Or.inr (Or.inr (Or.inr ⟨h, Or.inr (Or.inl hty)⟩)))]
        exact span_litOK ok.lt ok.le (ok.nonl (Or.inr ⟨h, Or.inr hty⟩))
      · obtain ⟨hl, h47, h47', hall, _⟩ := ok.lc h hty
        obtain ⟨suf, hs, he, _⟩ := trimSpaceRight_spec (spanL s.input (start s) (next s).2.pos)
        rw [← hl] at he
        -- no newline in the span
        have hn : ∀ i, start s ≤ i → i < (next s).2.pos → peekAt s.input i ≠ 10 := by
          intro i hi1 hi2
          by_cases hi : i = start s
          · rw [hi, h47]; decide
          · have := hall i (by omega) hi2
            intro h10; rw [h10] at this; revert this; decide
        constructor
        · intro hnil
          rw [hnil, List.nil_append] at he
          -- the span would be a run of space runes, but it starts with '/'
          have hsp : Spaces (spanL s.input (start s) (next s).2.pos) := by rw [he]; exact hs
          have hhead : (spanL s.input (start s) (next s).2.pos)[0]? = some 47 := by
            rw [spanL_getElem?]
            have := ok.lt; have := ok.le
            rw [if_pos (by omega)]
            have hlt : start s < s.input.size := by omega
            simp only [Nat.add_zero]
            rw [Array.getElem?_eq_getElem hlt]
            rw [peekAt_of_lt hlt] at h47
            rw [h47]
          exact spaces_head_ne_slash hsp hhead
        · intro hlast
          have hm := getLast?_mem hlast
          have : (10 : UInt8) ∈ spanL s.input (start s) (next s).2.pos := by rw [he]; exact List.mem_append_left _ hm
          obtain ⟨i, hi1, hi2, hx⟩ := mem_spanL this
          exact hn i hi1 hi2 hx.symm

/-! ### non-vacuity: the three repaired inputs, evaluated by the kernel -/

def lexTypes (input : List UInt8) (lineMode : Bool) (k : Nat) : List (TType × Bytes × Nat) :=
  (List.range k).map fun i =>
    let r := next (iter i (State.new input.toArray lineMode))
    (r.1.type, r.1.lit, r.2.pos)

/-- `1e+ x` : INT "1" ends at 1, then `e`, `+`, `x`, EOF (was: INT "1" ending at 3) -/
example : lexTypes [49, 101, 43, 32, 120] false 5 =
    [(INT, [49], 1), (IDENT, [101], 2), (PLUS, [43], 3), (IDENT, [120], 5), (EOF, [], 5)] := by decide +kernel

/-- `.5.` : FLOAT ".5" ends at 2, then DOT (was: FLOAT "." ending at 2) -/
example : lexTypes [46, 53, 46] false 3 = [(FLOAT, [46, 53], 2), (DOT, [46], 3), (EOF, [], 3)] := by decide +kernel

/-- `a\0b` in line mode: IDENT, then EOL for ever (was: a, EOL, b, EOL) -/
example : lexTypes [97, 0, 98] true 4 = [(IDENT, [97], 1), (EOL, [], 1), (EOL, [], 1), (EOL, [], 1)] := by decide +kernel

/-- keywords and identifiers -/
example : lexTypes [105, 102, 32, 105, 102, 102] false 3 = [(IF, [105, 102], 2), (IDENT, [105, 102, 102], 6), (EOF, [], 6)] := by
  decide +kernel

end Grol.Lexer
