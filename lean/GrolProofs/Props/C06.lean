import GrolProofs.EnvConst
import GrolProofs.CallRun
/-
C06 — arrays and maps are values: no aliasing, at any size.

The full statement (`C06.Statement`) speaks about the IMPLEMENTATION: its observations equal those
of the value-semantic model on every session.  It is false of the code for large containers (the open
classes `large-array-index-assignment-aliases` and `large-map-set-delete-aliases` of known_findings.json,
replayed on every run by the `values` suite); the Go
heap is not modelled in Lean, so there is no `decide`d refutation witness here — the refutation is
the replayed witness on the real interpreter.  What is proved below is that the MODEL the
implementation is compared with has the three properties the statement names:
(1) a write to one name changes no other name (frame lemmas), (2) `x + y` — every infix operator — has
no effect on the state at all, (3) the operator layer does not depend on the small/large thresholds.
-/
namespace Grol.E

/-- full statement: for every session, every configuration of the implementation observes what the
model observes (`implObs` is the real interpreter: not a Lean object; checked by the `values` suite) -/
def C06.Statement (implObs : Cfg → List Node → List (Except String String)) : Prop :=
  ∀ (cfg : Cfg) (progs : List Node),
    implObs cfg progs = (progs.foldl (fun (acc : St × List (Except String String)) p =>
      let (st', r) := runInput acc.1 p
      (st', acc.2 ++ [r.map fun o => o.render])) (initState cfg, [])).2

theorem readOnly_mustBeOk (n : Int) : ReadOnly (mustBeOk n) := by
  unfold mustBeOk; exact ReadOnly.ite (ReadOnly.stop _) (ReadOnly.pure _)

theorem readOnly_evalIntegerInfix (op : String) (l r : Int64) : ReadOnly (evalIntegerInfix op l r) := by
  rcases evalIntegerInfix_shape op l r with ⟨v, h⟩ | ⟨n, v, h⟩ <;> rw [h]
  · exact ReadOnly.pure _
  · exact ReadOnly.bind (readOnly_mustBeOk _) fun _ => ReadOnly.pure _

theorem readOnly_evalFloatInfix (op : String) (l r : Obj) : ReadOnly (evalFloatInfix op l r) := by
  unfold evalFloatInfix
  split
  · split <;> first | exact ReadOnly.pure _ | exact ReadOnly.stop _
  · exact ReadOnly.pure _

theorem readOnly_evalStringInfix (op : String) (l : Grol.Wire.Bytes) (r : Obj) : ReadOnly (evalStringInfix op l r) := by
  unfold evalStringInfix
  split
  · exact ReadOnly.bind (readOnly_mustBeOk _) fun _ => ReadOnly.pure _
  · split
    · exact ReadOnly.pure _
    · exact ReadOnly.bind (readOnly_mustBeOk _) fun _ => by split <;> exact ReadOnly.pure _
  · exact ReadOnly.pure _

theorem readOnly_evalArrayInfix (op : String) (l : List Obj) (r : Obj) : ReadOnly (evalArrayInfix op l r) := by
  unfold evalArrayInfix
  split
  · split
    · exact ReadOnly.pure _
    · split
      · exact ReadOnly.pure _
      · exact ReadOnly.bind (readOnly_mustBeOk _) fun _ => by split <;> exact ReadOnly.pure _
  · split
    · exact ReadOnly.bind (readOnly_mustBeOk _) fun _ => ReadOnly.pure _
    · exact ReadOnly.bind (readOnly_valueOf _) fun _ => ReadOnly.pure _
  · exact ReadOnly.pure _

theorem readOnly_equalsM (a b : Obj) : ReadOnly (equalsM a b) := by
  unfold equalsM
  split
  · exact ReadOnly.pure _
  · exact ReadOnly.bind (readOnly_valueOf _) fun _ => ReadOnly.bind (readOnly_valueOf _) fun _ =>
      ReadOnly.bind (ReadOnly.liftR _) fun _ => ReadOnly.pure _

theorem readOnly_cmpM (a b : Obj) : ReadOnly (cmpM a b) := by
  unfold cmpM
  exact ReadOnly.bind (readOnly_valueOf _) fun _ => ReadOnly.bind (readOnly_valueOf _) fun _ => ReadOnly.liftR _

/-- **C06 (2)**: `x + y` — every infix operator on evaluated operands — returns a value (or an error
object, or stops) and leaves the whole state as it was: no operand, no binding, nothing is modified. -/
theorem evalInfixOp_readOnly (op : String) (l r : Obj) : ReadOnly (evalInfixOp op l r) := by
  have heq (g : Bool → Obj) : ReadOnly (equalsM l r >>= fun b => pure (g b)) :=
    ReadOnly.bind (readOnly_equalsM _ _) fun _ => ReadOnly.pure _
  have hcmp (g : Int → Obj) : ReadOnly (cmpM l r >>= fun c => pure (g c)) :=
    ReadOnly.bind (readOnly_cmpM _ _) fun _ => ReadOnly.pure _
  unfold evalInfixOp
  split
  · exact heq _
  · exact heq _
  · exact hcmp _
  · exact hcmp _
  · exact hcmp _
  · exact hcmp _
  · exact ReadOnly.pure _
  · exact ReadOnly.pure _
  · split
    · exact readOnly_evalIntegerInfix _ _ _
    · exact readOnly_evalFloatInfix _ _ _
    · exact readOnly_evalFloatInfix _ _ _
    · exact readOnly_evalStringInfix _ _ _
    · exact readOnly_evalArrayInfix _ _ _
    · split
      · exact ReadOnly.bind ReadOnly.get fun _ => ReadOnly.bind (ReadOnly.liftR _) fun x => ReadOnly.pure _
      · exact ReadOnly.pure _
    · exact ReadOnly.pure _

theorem C06.plus_has_no_effect (l r : Obj) (st : St) : stateAfter (evalInfixOp "PLUS" l r) st = st :=
  evalInfixOp_readOnly "PLUS" l r st

/-- store level: writing name `b` leaves what every other name `a` reads unchanged -/
theorem C06.write_frame (s : List (String × Obj)) (a b : String) (v : Obj) (h : a ≠ b) :
    lookupStore (setStore s b v) a = lookupStore s a := lookupStore_setStore_ne s b a v h

theorem C06.delete_frame (s : List (String × Obj)) (a b : String) (h : a ≠ b) :
    lookupStore (delStore s b) a = lookupStore s a := lookupStore_delStore_ne s b a h

/-- what name `a` is bound to in frame `e'` (raw entry: value or reference) -/
def entry (st : St) (e' : Nat) (a : String) : Option Obj :=
  match st.frames[e']? with
  | some f => lookupStore f.store a
  | none => none

/-- state level: `create` of name `b` in frame `e` (`SetNoChecks(…, create=true)`, the binding of
parameters and of `:=`) leaves the entry of every other name, in every frame, unchanged — and
the entries of `b` itself in every OTHER frame -/
theorem C06.envCreate_frame (e : Nat) (b : String) (v : Obj) (st : St) (e' : Nat) (a : String)
    (h : a ≠ b ∨ e' ≠ e) : entry (run (envCreate e b v) st).2 e' a = entry st e' a := by
  unfold envCreate
  rw [run_bind]
  have hro := readOnly_valueOf v st
  split
  next v' st1 hv =>
    rw [hv] at hro; simp only at hro; subst hro
    have hrb : run (rootBindsFunc b) st1 = (.ok (rootFnOf st1 b), st1) := rfl
    rw [run_bind, hrb]
    dsimp only
    rw [run_bind, run_modifyFrame]
    cases hf : st1.frames[e]? with
    | none => rfl
    | some f =>
      obtain ⟨hlt, hfe⟩ := Array.getElem?_eq_some_iff.mp hf
      simp only [run_pure]
      unfold entry
      simp only [Array.getElem?_setIfInBounds]
      by_cases he : e = e'
      · subst he
        rcases h with h | h
        · simp [hlt, hfe, lookupStore_setStore_ne _ _ _ _ h]
        · exact absurd rfl h
      · simp [he]
  next err st1 hv => rw [hv] at hro; simp only at hro; subst hro; rfl

/-- index assignment and deletion build NEW values: the old list is a value like any other -/
theorem C06.index_assignment_builds_new_value (els : List Obj) (i : Nat) (v : Obj) (j : Nat) (h : j ≠ i) :
    (els.set i v)[j]? = els[j]? := by
  simp [List.getElem?_set, Ne.symm h]

/-- `Map.Set`: the resulting pair list is the same whatever `maxSmallMap` is and whichever
representation (`big`) the map had; the thresholds only decide the `big` flag -/
theorem C06.mapSet_threshold_independent (c1 c2 : Cfg) (b1 b2 : Bool) (kvs : List (Obj × Obj)) (k v : Obj) :
    (mapSet c1 b1 kvs k v).map Prod.snd = (mapSet c2 b2 kvs k v).map Prod.snd := by
  unfold mapSet
  cases hfind : mapFind kvs k with
  | error e => rfl
  | ok r =>
    obtain ⟨found, i⟩ := r
    cases found <;> rfl

-- `mapDelete`, `mapGet`, `mapFind`, `objFirst` take no configuration at all; `objRest` and slicing use
-- `maxSmallMap` only for the `big` flag of the result.

/-- `hashable` (the only other consumer of the thresholds) is consulted by the memoization cache only:
with the cache off a lookup never reads it -/
theorem C06.thresholds_only_feed_cache (key : String) (args : List Obj) (st : St) (h : st.cfg.cacheOn = false) :
    run (cacheGet key args) st = (.ok none, st) := by
  rw [run_cacheGet, cacheLookup_off h]

end Grol.E
