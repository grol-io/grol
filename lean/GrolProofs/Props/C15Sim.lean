import GrolProofs.Props.C15Pres
/-
C15 part 1, what holds of it (as stated it is FALSE of the code, `Props/C15.lean`): the line-mode run from `lineSt st`
mirrors the file-mode run from `st` unless the file-mode run is `Bad` (`Props/C15Pres.lean` has the states and `Bad`).

The two runs execute the same code, on `s` and on `asLine s`; what they read from their states differs only where the
type of a token is compared with EOF or EOL (`lineTok_type`, `lineTok_endtest`, …), and such a test comes out differently
only when the token is an end marker.  So the proof is a congruence: `Sim` is closed under the constructs of the parser
monad (`Sim.bind`, `Sim.get`, `Sim.next`, `Sim.ite`), the four ways a run turns `Bad` relate it to anything
(`Sim.setCont`, `Sim.error`, `Sim.peekError`, `Sim.noPrefix`), and the script for a function follows its body.
-/
namespace Grol.Parser
open Grol.Generated

variable {s : TokStream} {K : Nat}

theorem app_bind_getSt (f : PState → PM β) (st' : PState) : (getSt >>= f) st' = f st' st' := rfl
theorem app_bind_nextToken (s : TokStream) (f : Unit → PM β) (st' : PState) : (nextToken s >>= f) st' = f () (advance s st') := rfl
theorem app_bind_pure (a : α) (f : α → PM β) (st' : PState) : ((pure a : PM α) >>= f) st' = f a st' := rfl
theorem app_pure (a : α) (st' : PState) : (pure a : PM α) st' = .ok (a, st') := rfl
theorem app_nextToken (s : TokStream) (st' : PState) : nextToken s st' = .ok ((), advance s st') := rfl
theorem app_ite (c : Prop) [Decidable c] (a b : PM α) (st' : PState) :
    (if c then a else b) st' = if c then a st' else b st' := by split <;> rfl
theorem app_bind_of_eq {m : PM α} {f : α → PM β} {st' : PState} {b : α} {stm' : PState} (h : m st' = .ok (b, stm')) :
    (m >>= f) st' = f b stm' := by
  show PM.bind m f st' = _
  unfold PM.bind; rw [h]

/-- `m'` run from `lineSt st` mirrors `m` run from `st`: same value, `lineSt` of the same state — unless the run of `m`
ends `Bad`, which it does when it starts `Bad`.  The standing assumptions (`EndAt`, `Inv`) are part of the relation, so
that the rules below carry no side conditions. -/
def Sim (s : TokStream) (K : Nat) (st : PState) (m m' : PM α) : Prop :=
  EndAt s K → Inv s st →
    wp m (fun a st1 => Inv s st1 ∧ (Bad K st1 ∨ (¬ Bad K st ∧ m' (lineSt st) = .ok (a, lineSt st1)))) st

variable {st : PState}

theorem Sim.pureOf {a a' : α} (h : ¬ Bad K st → a' = a) : Sim s K st (pure a) (pure a') :=
  fun _ hi => ⟨hi, (Classical.em (Bad K st)).imp_right fun hb => ⟨hb, by rw [h hb]; rfl⟩⟩

theorem Sim.pure {a : α} : Sim s K st (pure a) (pure a) := .pureOf fun _ => rfl

theorem Sim.outOfFuel {m' : PM α} : Sim s K st outOfFuel m' := fun _ _ => trivial
theorem Sim.goPanic {p} {m' : PM α} : Sim s K st (goPanic p) m' := fun _ _ => trivial

theorem Sim.bad {m m' : PM α} (h : Inv s st → wp m (PB s K) st) : Sim s K st m m' :=
  fun _ hi => wp_conseq (h hi) fun _ _ h => ⟨h.1, Or.inl h.2⟩

theorem Sim.bind {m m' : PM α} {f f' : α → PM β} (h : Sim s K st m m') (k : ∀ a st1, Sim s K st1 (f a) (f' a)) :
    Sim s K st (m >>= f) (m' >>= f') := by
  intro hE hi
  rw [wp_bind]
  refine wp_conseq (h hE hi) ?_
  rintro a st1 ⟨hi1, hb⟩
  refine wp_conseq (k a st1 hE hi1) ?_
  rintro b st2 ⟨hi2, hb2 | ⟨hn1, e2⟩⟩
  · exact ⟨hi2, Or.inl hb2⟩
  · rcases hb with hb | ⟨hn, e1⟩
    · exact absurd hb hn1
    · exact ⟨hi2, Or.inr ⟨hn, by rw [app_bind_of_eq e1]; exact e2⟩⟩

/-- At `getSt` the line-mode body is given `lineSt st`; unless `st` is `Bad` its current token is no end marker
(`cur_real`), so the body may be given the state whose `cur` is not retyped: a test on `cur` then reads alike in the two
bodies, also a test against EOF or EOL. -/
theorem Sim.get {f f' : PState → PM β} (h : Sim s K st (f st) (f' { lineSt st with cur := st.cur })) :
    Sim s K st (getSt >>= f) (getSt >>= f') := by
  intro hE hi
  refine wp_conseq (m := f st) (h hE hi) ?_
  rintro a st1 ⟨hi1, hb⟩
  refine ⟨hi1, hb.imp_right fun ⟨hn, e⟩ => ⟨hn, ?_⟩⟩
  have hc : ({ lineSt st with cur := st.cur } : PState) = lineSt st := by
    show _ = { lineSt st with cur := lineTok st.cur }
    rw [lineTok_self (cur_real hE hi hn)]
  rw [hc] at e
  exact e

theorem Sim.next {f f' : Unit → PM β} (h : Sim s K (advance s st) (f ()) (f' ())) :
    Sim s K st (nextToken s >>= f) (nextToken (asLine s) >>= f') := by
  intro hE hi
  refine wp_conseq (h hE (inv_adv hi)) ?_
  rintro b st2 ⟨hi2, hb2 | ⟨hn1, e2⟩⟩
  · exact ⟨hi2, Or.inl hb2⟩
  · refine ⟨hi2, Or.inr ⟨fun hb => hn1 (BadI.adv (s := s) ⟨hi, hb⟩).2, ?_⟩⟩
    rw [← advance_lineSt] at e2
    exact e2

theorem Sim.ite {c : Prop} [Decidable c] {a b a' b' : PM α} (ht : Sim s K st a a') (he : Sim s K st b b') :
    Sim s K st (if c then a else b) (if c then a' else b') := by
  split
  · exact ht
  · exact he

/-- for a test of `peek` against EOL, which the two runs decide differently at the end marker (`line_norm` leaves it
alone): the line-mode side is not split, so each file-mode branch has to mirror all of it — both end `Bad` -/
theorem Sim.iteL {c : Prop} [Decidable c] {a b m' : PM α} (ht : Sim s K st a m') (he : Sim s K st b m') :
    Sim s K st (if c then a else b) m' := by
  split
  · exact ht
  · exact he

theorem Sim.setCont {a : α} {m' : PM α} : Sim s K st (setCont >>= fun _ => Pure.pure a) m' := .bad fun hi => BadI.setCont hi

theorem Sim.error {e : ErrKind} {a : α} {m' : PM α} : Sim s K st (errorLine s >>= fun _ => pushErr e >>= fun _ => Pure.pure a) m' :=
  .bad fun hi => by rw [wp_bind]; exact errorLine_wp _ _ _ (BadI.pushErr e hi)

theorem lineTok_endtest (x : Bool) (t : Tok) :
    ((x && (lineTok t).type != .EOF) && (lineTok t).type != .EOL) = ((x && t.type != .EOF) && t.type != .EOL) := by
  rcases lineTok_type_cases t with ⟨h, h'⟩ | ⟨_, h⟩
  · rw [h, h']; cases x <;> rfl
  · rw [h]
theorem lineTok_endtest2 (X : Prop) (t : Tok) :
    ((X ∨ (lineTok t).type = .EOF) ∨ (lineTok t).type = .EOL) = ((X ∨ t.type = .EOF) ∨ t.type = .EOL) := by
  rcases lineTok_type_cases t with ⟨h, h'⟩ | ⟨_, h⟩
  · rw [h, h']; simp
  · rw [h]

/-- after `getSt` the line-mode body reads `lineSt st`: rewrite what it reads into what the file-mode body reads -/
macro "line_norm" : tactic => `(tactic| (dsimp only [lineSt_cur, lineSt_peek, lineSt_prev, lineSt_cont, lineSt_nextNewline,
  lineSt_prevNewline, advance_cur, advance_prev, Option.map_some]; simp only [lineTok_type, lineTok_bne, lineTok_endtest,
  lineTok_endtest2, lineTok_prec, lineTok_prefix, lineTok_infix, lineTok_postfix, lineTok_hadWs, lineTok_lit, lineTok_num,
  ne_eq, reduceCtorEq, not_false_eq_true, *]))

theorem Sim.peekError {t : TokType} {a : α} {m' : PM α} :
    Sim s K st (peekError s t >>= fun _ => Pure.pure a) m' :=
  .bad fun hi => wp.call (peekError_bad t st hi) fun _ _ h => wp.pure h

theorem Sim.noPrefix {a : α} {m' : PM α} : Sim s K st (noPrefixParseFnError s >>= fun _ => Pure.pure a) m' :=
  .bad fun hi => by
    unfold noPrefixParseFnError
    exact wp.call (P := PB s K) (wp.errorLine (BadI.pushErr _ hi)) fun _ _ h => wp.pure h

theorem expectPeek_sim (t : TokType) (st : PState) (h1 : t ≠ .EOF := by decide) (h2 : t ≠ .EOL := by decide) :
    Sim s K st (expectPeek s t) (expectPeek (asLine s) t) := by
  unfold expectPeek
  refine .get ?_
  line_norm
  exact .ite (.next .pure) (.iteL .setCont .peekError)

/-- `if !p.expectPeek(t) { return a }` -/
theorem Sim.expect (t : TokType) {a : α} {m m' : PM α} (k : ∀ st1, Sim s K st1 m m')
    (h1 : t ≠ .EOF := by decide) (h2 : t ≠ .EOL := by decide) :
    Sim s K st (expectPeek s t >>= fun b => if (!b) = true then Pure.pure a else m)
      (expectPeek (asLine s) t >>= fun b => if (!b) = true then Pure.pure a else m') :=
  .bind (expectPeek_sim t st h1 h2) fun _ st1 => .ite .pure (k st1)

theorem mapPairError_sim (st : PState) : Sim s K st (mapPairError s) (mapPairError (asLine s)) := by
  unfold mapPairError
  exact .get (.iteL .setCont .peekError)

theorem parseComment_sim (st : PState) : Sim s K st parseComment parseComment := by
  unfold parseComment
  refine .get ?_
  line_norm
  exact .ite (.ite .setCont .pure) (.ite .goPanic .pure)

theorem parseIdentifier_sim (st : PState) : Sim s K st (parseIdentifier s) (parseIdentifier (asLine s)) := fun hE hi => by
  -- after `nextToken` the previous token is the old current one: no end marker unless the run is `Bad`
  have hc : ¬ Bad K (advance s st) → lineTok st.cur = st.cur := fun hb =>
    lineTok_self (cur_real hE hi fun h => hb (BadI.adv (s := s) ⟨hi, h⟩).2)
  refine (?_ : Sim s K st _ _) hE hi
  unfold parseIdentifier parsePostfixExpression
  refine .get ?_
  line_norm
  split
  · refine .next (.get ?_)
    dsimp only [lineSt_prev, advance_prev, Option.map_some]
    exact .pureOf fun hb => by rw [hc hb]
  · exact .pure

theorem parseFloatLiteral_sim (st : PState) : Sim s K st (parseFloatLiteral s) (parseFloatLiteral (asLine s)) := by
  unfold parseFloatLiteral
  exact .get (.ite .pure .error)

theorem parseIntegerLiteral_sim (st : PState) : Sim s K st (parseIntegerLiteral s) (parseIntegerLiteral (asLine s)) := by
  unfold parseIntegerLiteral
  exact .get (.ite .pure (parseFloatLiteral_sim st))

theorem parseBoolean_sim (st : PState) : Sim s K st parseBoolean parseBoolean := by
  unfold parseBoolean; exact .get .pure
theorem parseStringLiteral_sim (st : PState) : Sim s K st parseStringLiteral parseStringLiteral := by
  unfold parseStringLiteral; exact .get .pure
theorem parseControlExpression_sim (st : PState) : Sim s K st parseControlExpression parseControlExpression := by
  unfold parseControlExpression; exact .get .pure
theorem parameter_sim (st : PState) : Sim s K st (parameter s) (parameter (asLine s)) := by
  unfold parameter; exact .get .pure

theorem parseFunctionParametersLoop_sim : ∀ (fuel : Nat) (acc : NList) (st : PState),
    Sim s K st (parseFunctionParametersLoop s fuel acc) (parseFunctionParametersLoop (asLine s) fuel acc)
  | 0, _, _ => by unfold parseFunctionParametersLoop; exact .outOfFuel
  | n + 1, acc, st => by
    unfold parseFunctionParametersLoop
    refine .get ?_
    line_norm
    exact .ite (.next <| .next <| .bind (parameter_sim _) fun _ _ => parseFunctionParametersLoop_sim n _ _) .pure

theorem parseFunctionParameters_sim (fuel : Nat) (st : PState) :
    Sim s K st (parseFunctionParameters s fuel) (parseFunctionParameters (asLine s) fuel) := by
  unfold parseFunctionParameters
  refine .get ?_
  line_norm
  refine .ite (.next .pure) <| .next <| .bind (parameter_sim _) fun _ _ =>
    .bind (parseFunctionParametersLoop_sim fuel _ _) fun ids _ => .expect .RPAREN fun _ => ?_
  split
  · exact .pure
  · exact .error

structure AllSim (s : TokStream) (K : Nat) (n : Nat) : Prop where
  pE : ∀ P st, Sim s K st (parseExpression s n P) (parseExpression (asLine s) n P)
  pLoop : ∀ P left st, Sim s K st (parseExpressionLoop s n P left) (parseExpressionLoop (asLine s) n P left)
  pPre : ∀ fn st, Sim s K st (prefixDispatch s n fn) (prefixDispatch (asLine s) n fn)
  pInf : ∀ fn left st, Sim s K st (infixDispatch s n fn left) (infixDispatch (asLine s) n fn left)
  pStmt : ∀ st, Sim s K st (parseStatement s n) (parseStatement (asLine s) n)
  pRet : ∀ st, Sim s K st (parseReturnStatement s n) (parseReturnStatement (asLine s) n)
  pArr : ∀ st, Sim s K st (parseArrayLiteral s n) (parseArrayLiteral (asLine s) n)
  pGrp : ∀ st, Sim s K st (parseGroupedExpression s n) (parseGroupedExpression (asLine s) n)
  pPfx : ∀ st, Sim s K st (parsePrefixExpression s n) (parsePrefixExpression (asLine s) n)
  pLam : ∀ left more st, Sim s K st (parseLambdaMulti s n left more) (parseLambdaMulti (asLine s) n left more)
  pInfix : ∀ left st, Sim s K st (parseInfixExpression s n left) (parseInfixExpression (asLine s) n left)
  pFor : ∀ st, Sim s K st (parseForExpression s n) (parseForExpression (asLine s) n)
  pIf : ∀ st, Sim s K st (parseIfExpression s n) (parseIfExpression (asLine s) n)
  pBlk : ∀ st, Sim s K st (parseBlockStatement s n) (parseBlockStatement (asLine s) n)
  pBlkLoop : ∀ acc st, Sim s K st (parseBlockLoop s n acc) (parseBlockLoop (asLine s) n acc)
  pFn : ∀ st, Sim s K st (parseFunctionLiteral s n) (parseFunctionLiteral (asLine s) n)
  pBi : ∀ st, Sim s K st (parseBuiltin s n) (parseBuiltin (asLine s) n)
  pCall : ∀ f st, Sim s K st (parseCallExpression s n f) (parseCallExpression (asLine s) n f)
  pList : ∀ e st, e ≠ .EOF → e ≠ .EOL → Sim s K st (parseExpressionList s n e) (parseExpressionList (asLine s) n e)
  pListLoop : ∀ args st, Sim s K st (parseExpressionListLoop s n args) (parseExpressionListLoop (asLine s) n args)
  pIdx : ∀ left st, Sim s K st (parseIndexExpression s n left) (parseIndexExpression (asLine s) n left)
  pMap : ∀ st, Sim s K st (parseMapLiteral s n) (parseMapLiteral (asLine s) n)
  pMapLoop : ∀ tok kvs st, Sim s K st (parseMapLoop s n tok kvs) (parseMapLoop (asLine s) n tok kvs)
  pMac : ∀ st, Sim s K st (parseMacroLiteral s n) (parseMacroLiteral (asLine s) n)

theorem allSim_zero : AllSim s K 0 where
  pE _ _ := .outOfFuel
  pLoop _ _ _ := .outOfFuel
  pPre _ _ := .outOfFuel
  pInf _ _ _ := .outOfFuel
  pStmt _ := .outOfFuel
  pRet _ := .outOfFuel
  pArr _ := .outOfFuel
  pGrp _ := .outOfFuel
  pPfx _ := .outOfFuel
  pLam _ _ _ := .outOfFuel
  pInfix _ _ := .outOfFuel
  pFor _ := .outOfFuel
  pIf _ := .outOfFuel
  pBlk _ := .outOfFuel
  pBlkLoop _ _ := .outOfFuel
  pFn _ := .outOfFuel
  pBi _ := .outOfFuel
  pCall _ _ := .outOfFuel
  pList _ _ _ _ := .outOfFuel
  pListLoop _ _ := .outOfFuel
  pIdx _ _ := .outOfFuel
  pMap _ := .outOfFuel
  pMapLoop _ _ _ := .outOfFuel
  pMac _ := .outOfFuel

/-- Each script follows the body of its function: `.get` at `getSt` (then `line_norm`), `.next` at `nextToken`, `.bind`
with the statement for the callee at a call, `.expect` at `if !expectPeek`, `.ite` at a test that both runs make
alike, `.iteL` at one they do not. -/
theorem allSim_succ {n : Nat} (ih : AllSim s K n) : AllSim s K (n + 1) where
  pE P st := by
    unfold parseExpression
    refine .get ?_
    line_norm
    refine .ite .setCont ?_
    split
    · exact .ite (.iteL .setCont .noPrefix) .pure
    · refine .bind (ih.pPre _ _) fun _ _ => .get ?_
      line_norm
      exact .ite (.next (ih.pLam _ _ _)) (ih.pLoop _ _ _)
  pLoop P left st := by
    unfold parseExpressionLoop
    refine .get ?_
    line_norm
    refine .ite ?_ .pure
    split
    · exact .pure
    · exact .ite .pure <| .ite .pure <| .next <| .bind (ih.pInf _ _ _) fun _ _ => ih.pLoop _ _ _
  pPre fn st := by
    unfold prefixDispatch
    exact match fn with
      | .parseIdentifier => parseIdentifier_sim st
      | .parseIntegerLiteral => parseIntegerLiteral_sim st
      | .parseFloatLiteral => parseFloatLiteral_sim st
      | .parsePrefixExpression => ih.pPfx st
      | .parseBoolean => parseBoolean_sim st
      | .parseGroupedExpression => ih.pGrp st
      | .parseIfExpression => ih.pIf st
      | .parseForExpression => ih.pFor st
      | .parseControlExpression => parseControlExpression_sim st
      | .parseFunctionLiteral => ih.pFn st
      | .parseStringLiteral => parseStringLiteral_sim st
      | .parseBuiltin => ih.pBi st
      | .parseArrayLiteral => ih.pArr st
      | .parseMapLiteral => ih.pMap st
      | .parseComment => parseComment_sim st
      | .parseMacroLiteral => ih.pMac st
  pInf fn left st := by
    unfold infixDispatch
    exact match fn with
      | .parseInfixExpression => ih.pInfix left st
      | .parseCallExpression => ih.pCall left st
      | .parseIndexExpression => ih.pIdx left st
      | .parseLambdaExpression => ih.pLam left [] st
  pStmt st := by
    unfold parseStatement
    refine .get <| .ite (ih.pRet _) <| .bind (ih.pE _ _) fun _ _ => .get ?_
    line_norm
    exact .ite (.next .pure) .pure
  pRet st := by
    unfold parseReturnStatement
    refine .get ?_
    simp only [Bool.or_eq_true, decide_eq_true_eq]
    line_norm
    refine .ite .pure <| .next <| .bind (ih.pE _ _) fun _ _ => .get ?_
    line_norm
    exact .ite (.next .pure) .pure
  pArr st := by
    unfold parseArrayLiteral
    exact .get <| .bind (ih.pList _ _ (by decide) (by decide)) fun _ _ => .pure
  pGrp st := by
    unfold parseGroupedExpression
    refine .next <| .bind (ih.pE _ _) fun _ _ => .get ?_
    line_norm
    refine .ite (.next (ih.pLam _ _ _)) <| .ite (.next <| .bind (ih.pList _ _ (by decide) (by decide)) fun el _ => ?_) <|
      .expect .RPAREN fun _ => .pure
    cases el
    · exact .pure
    · exact .expect .LAMBDA fun _ => ih.pLam _ _ _
  pPfx st := by
    unfold parsePrefixExpression
    exact .get <| .next <| .bind (ih.pE _ _) fun _ _ => .pure
  pLam left more st := by
    unfold parseLambdaMulti
    refine .get ?_
    line_norm
    split
    · exact .goPanic
    · exact .error
    · exact .ite (.next <| .bind (ih.pBlk _) fun _ _ => .get <| .ite .pure .pure) <|
        .next <| .bind (ih.pE _ _) fun _ _ => .pure
  pInfix left st := by
    unfold parseInfixExpression
    refine .get ?_
    line_norm
    exact .ite .pure <| .next <| .bind (ih.pE _ _) fun _ _ => .pure
  pFor st := by
    unfold parseForExpression
    exact .get <| .next <| .bind (ih.pE _ _) fun _ _ => .expect .LBRACE fun _ =>
      .bind (ih.pBlk _) fun _ _ => .get <| .ite .pure .pure
  pIf st := by
    unfold parseIfExpression
    refine .get <| .next <| .bind (ih.pE _ _) fun _ _ => .expect .LBRACE fun _ => .bind (ih.pBlk _) fun _ _ => .get ?_
    line_norm
    refine .ite .pure <| .ite (.next <| .get ?_) .pure
    line_norm
    exact .ite (.next <| .bind (ih.pIf _) fun _ _ => .pure) <| .expect .LBRACE fun _ =>
      .bind (ih.pBlk _) fun _ _ => .get <| .ite .pure .pure
  pBlk st := by
    unfold parseBlockStatement
    exact .next (ih.pBlkLoop _ _)
  pBlkLoop acc st := by
    unfold parseBlockLoop
    exact .get <| .ite (.ite .setCont <| .bind (ih.pStmt _) fun _ _ => .next (ih.pBlkLoop _ _)) .pure
  pFn st := by
    unfold parseFunctionLiteral
    refine .get ?_
    line_norm
    exact .bind (.ite (.next <| .get .pure) .pure) fun _ _ => .expect .LPAREN fun _ =>
      .bind (parseFunctionParameters_sim _ _) fun ⟨_, _⟩ _ => .expect .LBRACE fun _ =>
        .bind (ih.pBlk _) fun _ _ => .get <| .ite .pure .pure
  pBi st := by
    unfold parseBuiltin
    exact .get <| .expect .LPAREN fun _ => .bind (ih.pList _ _ (by decide) (by decide)) fun _ _ => .pure
  pCall f st := by
    unfold parseCallExpression
    exact .get <| .bind (ih.pList _ _ (by decide) (by decide)) fun _ _ => .pure
  pList e st he1 he2 := by
    unfold parseExpressionList
    refine .get ?_
    line_norm
    exact .ite (.next .pure) <| .next <| .bind (ih.pE _ _) fun _ _ => .bind (ih.pListLoop _ _) fun _ _ =>
      .expect e (fun _ => .pure) he1 he2
  pListLoop args st := by
    unfold parseExpressionListLoop
    refine .get ?_
    line_norm
    exact .ite (.next <| .next <| .bind (ih.pE _ _) fun _ _ => ih.pListLoop _ _) .pure
  pIdx left st := by
    unfold parseIndexExpression
    exact .get <| .next <| .bind (ih.pE _ _) fun _ _ => .ite .pure <| .expect .RBRACKET fun _ => .pure
  pMap st := by
    unfold parseMapLiteral
    exact .get <| ih.pMapLoop _ _ _
  pMapLoop tok kvs st := by
    unfold parseMapLoop
    refine .get ?_
    line_norm
    refine .ite (.next <| .get <| .ite .pure <| .bind (ih.pE _ _) fun kv _ => ?_) <| .expect .RBRACE fun _ => .pure
    split
    · refine .ite (.get ?_) (mapPairError_sim _)
      line_norm
      exact .ite (.expect .COMMA fun _ => ih.pMapLoop _ _ _) (ih.pMapLoop _ _ _)
    · exact mapPairError_sim _
  pMac st := by
    unfold parseMacroLiteral
    exact .get <| .expect .LPAREN fun _ => .bind (parseFunctionParameters_sim _ _) fun ⟨_, _⟩ _ => .expect .LBRACE fun _ =>
      .bind (ih.pBlk _) fun _ _ => .get <| .ite .pure .pure

theorem allSim : ∀ n, AllSim s K n
  | 0 => allSim_zero
  | n + 1 => allSim_succ (allSim n)

/-- No top-level statement of the file-mode run ends with the end marker as its current token (`idx < K + 2` at the exit
of every `parseStatement` call of `ParseProgram`'s loop).  A block loop that stops on EOF instead of `}` makes the end
marker current, and the position never goes back, so this excludes the recorded class
`file-mode-accepts-unclosed-block` (`C15.excluded_class`).  That it excludes nothing else that file mode accepts without
error is not proved. -/
def stmtsClosed (s : TokStream) (K : Nat) : Nat → PState → Bool
  | 0, _ => true
  | n + 1, st =>
    if st.cur.type != .EOF && st.cur.type != .EOL then
      match parseStatement s n st with
      | .ok (none, st1) => decide (st1.idx < K + 2)
      | .ok (some _, st1) => decide (st1.idx < K + 2) && stmtsClosed s K n (advance s st1)
      | _ => true
    else true

theorem wp_iff (m : PM α) (Q : α → PState → Prop) (st : PState) : wp m Q st ↔ ∀ a st', m st = .ok (a, st') → Q a st' := by
  unfold wp
  cases m st with
  | ok r => obtain ⟨a, st'⟩ := r; exact ⟨fun h _ _ e => (by cases e; exact h), fun h => h _ _ rfl⟩
  | goPanic p => exact ⟨fun _ _ _ e => (by cases e), fun _ => trivial⟩
  | outOfFuel => exact ⟨fun _ _ _ e => (by cases e), fun _ => trivial⟩

theorem parseProgramLoop_sim (hE : EndAt s K) : ∀ (n : Nat) (acc : NList) (st : PState), Inv s st →
    stmtsClosed s K n st = true →
    wp (parseProgramLoop s n acc)
      (fun prog stf => D stf ∨ parseProgramLoop (asLine s) n acc (lineSt st) = .ok (prog, lineSt stf)) st
  | 0, _, _, _, _ => by unfold parseProgramLoop; trivial
  | n + 1, acc, st, hi, hcl => by
    unfold parseProgramLoop
    unfold stmtsClosed at hcl
    rcases lineTok_type_cases st.cur with ⟨h1, h2⟩ | ⟨h1, hc⟩
    · -- both runs stop here: on EOF the one, on EOL the other
      simp only [wp_bind, wp_getSt, wp_ite, app_bind_getSt, lineSt_cur, h1, h2, bne_self_eq_false, Bool.false_and,
        Bool.and_false, Bool.false_eq_true, ↓reduceIte]
      exact Or.inr rfl
    · simp only [wp_bind, wp_getSt, wp_ite, app_bind_getSt, app_ite, lineSt_cur, hc]
      by_cases hcond : (st.cur.type != .EOF && st.cur.type != .EOL) = true
      · simp only [if_pos hcond] at hcl ⊢
        rw [wp_iff]
        intro stmt st1 hp
        rw [hp] at hcl
        obtain ⟨hi1, hbs⟩ := (wp_iff _ _ _).mp ((allSim n).pStmt st hE hi) _ _ hp
        -- `hcl`: the statement did not end on the end marker, so `Bad` is `D`, which the rest of the loop keeps
        cases stmt with
        | none =>
          rcases hbs with (hd | hk) | ⟨_, hs⟩
          · exact Or.inl hd
          · exact absurd (of_decide_eq_true hcl) (by omega)
          · exact Or.inr (by rw [app_bind_of_eq hs]; rfl)
        | some x =>
          rw [Bool.and_eq_true] at hcl
          rcases hbs with (hd | hk) | ⟨_, hs⟩
          · exact wp_conseq (parseProgramLoop_spec s n _ (advance s st1) (Or.inl hd)) fun _ _ h => Or.inl (h.1 hd)
          · exact absurd (of_decide_eq_true hcl.1) (by omega)
          · simp only [app_bind_of_eq hs, app_bind_nextToken, advance_lineSt]
            exact parseProgramLoop_sim hE n _ _ (inv_adv hi1) hcl.2
      · simp only [if_neg hcond]
        exact Or.inr rfl

theorem parseProgram_sim (hE : EndAt s K) (fuel : Nat) (hcl : stmtsClosed s K fuel (init s) = true) (r : ParseResult)
    (h : parseProgram s fuel = .ok r) (he : r.errors = 0) (hc : r.cont = false) : parseProgram (asLine s) fuel = .ok r := by
  have hs := parseProgramLoop_sim hE fuel [] (init s) (inv_init s) hcl
  rw [wp_iff] at hs
  unfold parseProgram at h ⊢
  cases hp : parseProgramLoop s fuel [] (init s) with
  | goPanic p => rw [hp] at h; cases h
  | outOfFuel => rw [hp] at h; cases h
  | ok res =>
    obtain ⟨prog, stf⟩ := res
    rw [hp] at h
    simp only [Res.ok.injEq] at h
    subst h
    simp only at he hc
    rcases hs _ _ hp with hd | hl
    · exfalso
      rcases hd with hd | hd
      · exact hd (List.length_eq_zero_iff.mp he)
      · rw [hc] at hd; cases hd
    · rw [init_asLine, hl]
      rfl

/-- `EndAt` as a `Bool`, for `decide` on concrete streams: beyond `toks` every position reads `s.eof`, so `after` needs
checking up to `toks.length` only -/
def endAtB (s : TokStream) (K : Nat) : Bool :=
  (List.range K).all (fun i => (s.get i).type != .EOF) && decide (s.eof.type = .EOF) &&
  (List.range (s.toks.length + 1 - K)).all (fun d => decide ((s.get (K + d)).type = .EOF))

theorem endAt_of_b (h : endAtB s K = true) : EndAt s K := by
  unfold endAtB at h
  simp only [Bool.and_eq_true, List.all_eq_true, List.mem_range, bne_iff_ne, ne_eq, decide_eq_true_eq] at h
  obtain ⟨⟨h1, h2⟩, h3⟩ := h
  refine ⟨h1, fun i hi => ?_⟩
  by_cases hl : s.toks.length ≤ i
  · rw [get_of_le s hl]; exact h2
  · have := h3 (i - K) (by omega)
    have e : K + (i - K) = i := by omega
    rw [e] at this; exact this

end Grol.Parser

namespace Grol.C15
open Grol Grol.Wire Grol.Parser Grol.Generated

/-- **C15 part 1** at the token-stream level: a program that file mode accepts (no error, no continuation request)
line mode accepts with the same tree.  `s` is the stream of file mode with its first end marker at `K` and nothing but
end markers after it (`hend`; every stream of the lexer model is such, `endAtB_tokStream` in `Props/C15Lexed.lean`);
`asLine s` is the stream of line mode.  `hclosed` excludes the recorded class `file-mode-accepts-unclosed-block`
(`excluded_class`), of which the claim is false.  No assumption on the fuel and none on the lexer facts `StreamWF`. -/
theorem same_tree_partial (s : TokStream) (K fuel : Nat) (hend : endAtB s K = true) (hv : valid s fuel = true)
    (hclosed : stmtsClosed s K fuel (init s) = true) :
    valid (asLine s) fuel = true ∧ (result (asLine s) fuel).map (·.program) = (result s fuel).map (·.program) := by
  unfold valid result at hv
  cases hp : parseProgram s fuel with
  | goPanic p => rw [hp] at hv; cases hv
  | outOfFuel => rw [hp] at hv; cases hv
  | ok r =>
    rw [hp] at hv
    simp only [Bool.and_eq_true, beq_iff_eq, Bool.not_eq_true'] at hv
    have hl := parseProgram_sim (endAt_of_b hend) fuel hclosed r hp hv.1 hv.2
    unfold valid result
    rw [hl, hp]
    simp only [Bool.and_eq_true, beq_iff_eq, Bool.not_eq_true']
    refine ⟨hv, ?_⟩
    first | rfl | trivial

/-- the full token-level statement of part 1 (no `hclosed`): FALSE of the code, `witness_file_mode_accepts_unclosed_block` -/
def SameTreeTokStatement : Prop :=
  ∀ (s : TokStream) (K fuel : Nat), endAtB s K = true → valid s fuel = true →
    valid (asLine s) fuel = true ∧ (result (asLine s) fuel).map (·.program) = (result s fuel).map (·.program)

/-! non-vacuity: file-mode streams that meet the hypotheses (`emptyParens`, `unclosedString`, `openBlock`: recorded from
the real lexer, `Props/C15.lean`), and their line-mode image -/

/-- `if x { y } else { z }` followed by `f(1)`, written by hand: positions left at their defaults -/
def closedBlocks : TokStream :=
  { toks := [
    { type := .IF, lit := [105, 102] }, { type := .IDENT, lit := [120], hadWs := true }, { type := .LBRACE, lit := [123], hadWs := true },
    { type := .IDENT, lit := [121], hadWs := true }, { type := .RBRACE, lit := [125], hadWs := true },
    { type := .ELSE, lit := [101, 108, 115, 101], hadWs := true }, { type := .LBRACE, lit := [123], hadWs := true },
    { type := .IDENT, lit := [122], hadWs := true }, { type := .RBRACE, lit := [125], hadWs := true },
    { type := .IDENT, lit := [102], hadWs := true, hadNl := true }, { type := .LPAREN, lit := [40] },
    { type := .INT, lit := [49], num := .int }, { type := .RPAREN, lit := [41] },
    { type := .EOF, lit := [] } ],
    eof := { type := .EOF, lit := [] }, inputLen := 30 }

example : endAtB closedBlocks 13 = true ∧ valid closedBlocks 40 = true ∧ stmtsClosed closedBlocks 13 40 (init closedBlocks) = true ∧
    (result closedBlocks 40).map (·.program.length) = some 2 := by decide +kernel
example : endAtB emptyParens.whole 6 = true ∧ valid emptyParens.whole 40 = true ∧
    stmtsClosed emptyParens.whole 6 40 (init emptyParens.whole) = true := by decide +kernel
example : endAtB unclosedString.whole 2 = true ∧ valid unclosedString.whole 40 = true ∧
    stmtsClosed unclosedString.whole 2 40 (init unclosedString.whole) = true := by decide +kernel
/-- `asLine` of the file-mode stream of the real lexer is the line-mode stream of the real lexer (on these inputs) -/
example : (asLine openBlock.file).toks = openBlock.line.toks ∧ (asLine openBlock.file).eof = openBlock.line.eof ∧
    (asLine emptyParens.file).toks = emptyParens.line.toks ∧ (asLine fakeComment.file).eof = fakeComment.line.eof := by decide +kernel

/-- `hclosed` fails on the recorded class: `func(){` is accepted by file mode, its only statement ends on the end marker -/
theorem excluded_class : endAtB openBlock.file 4 = true ∧ valid openBlock.file 40 = true ∧
    stmtsClosed openBlock.file 4 40 (init openBlock.file) = false := by decide +kernel

end Grol.C15
