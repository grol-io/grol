import GrolProofs.SaveOrder
import GrolProofs.SaveLines
import GrolProofs.SaveRead
import GrolProofs.SaveQuote
/-
C14 — saved state loads back to the same state.

Model: `Grol.Save` (`SaveGlobals` as a function from the store to lines, every `Inspect` of data
values and functions), tied to object/state.go and object/object.go by the `saveload` suite, which
also evaluates the property itself on the implementation (both ways of loading, second save, calls of
the reloaded functions, length limit, the real save()/load() and AutoSave/AutoLoad files).

What is proved here, for every store (unbounded):
* `sorted_one_per_binding`: the lines are written in bytewise key order, exactly one for each binding
  that is written, and it is that binding's line;
* `one_line`: the printed form of a data value has no newline byte, so a data binding occupies
  exactly one line (`data_binding_line`);
* `limit_skips`: with a length limit a binding's line is either the unlimited line or absent;
* `quote_roundtrip`: for every string of bytes < 0x80 the lexer model's string reader applied to its quoted form
  returns exactly the string and consumes exactly the literal (needs fix db71ff2);
* `int_roundtrip`: the printed form of EVERY int64 evaluates back to it (`-9223372036854775808`
  included, after fix 61e5755).
The full property (`Statement`) needs the composition of the lexer, parser and evaluator models on
the printed text (`readBack`); it is proved for the part `Safe` = integers, booleans, nil, ASCII strings (`partial`), the rest is covered by
the suite only.  See known_findings.json for what is false of the code (functions).
-/
namespace Grol.Save.C14
open Grol.E Grol.Save
open Grol.Wire (Bytes)

/-- (4) lines are sorted by name and there is exactly one per written binding -/
theorem sorted_one_per_binding (fm : Fmt) (maxLen : Nat) (store : List Binding) (out : List (Bytes × Bytes))
    (h : saveGlobals fm maxLen store = .ok out) :
    (sortB store).Perm store ∧ SortedB (sortB store) ∧
    out.map (·.1) = ((sortB store).filter (wrote fm maxLen)).map (·.name) ∧
    (out.map (·.1)).Pairwise (fun a b => nameLe a b = true) ∧
    ∀ p ∈ out, ∃ b ∈ store, p.1 = b.name ∧ saveLine fm maxLen b = .ok (some p.2) := by
  have hs := saveSorted_spec fm maxLen (sortB store) out h
  refine ⟨sortB_perm store, sortB_sorted store, hs.1, ?_, ?_⟩
  · rw [hs.1]
    have hsub : ((sortB store).filter (wrote fm maxLen)).Sublist (sortB store) := List.filter_sublist
    have := (sortB_sorted store).sublist hsub
    exact List.pairwise_map.mpr this
  · intro p hp
    obtain ⟨b, hb, h1, h2⟩ := hs.2 p hp
    exact ⟨b, (sortB_perm store).mem_iff.mp hb, h1, h2⟩

/-- (2) the printed form of a data value contains no newline -/
theorem one_line (fm : Fmt) (hf : fm.OneLine) (v : Obj) (out : Bytes) (hd : isData v = true)
    (h : inspectP fm v = .ok out) : NoNL out :=
  inspectP_noNL fm hf v out hd h

theorem one_line_std (v : Obj) (out : Bytes) (hd : isData v = true) (h : inspectP stdFmt v = .ok out) : NoNL out :=
  one_line stdFmt stdFmt_oneLine v out hd h

/-- a binding written as `name=<printed value>`, the case of `saveLine` for all but two kinds of value -/
def valueLine (fm : Fmt) (maxLen : Nat) (b : Binding) : R (Option Bytes) := do
  let val ← inspectP fm b.val
  if maxLen > 0 && val.length > maxLen then pure none
  else pure (some (b.name ++ [61] ++ val ++ [10]))

theorem saveLine_eq (fm : Fmt) (maxLen : Nat) (b : Binding) : saveLine fm maxLen b =
    if constantName b.name && b.extra then pure none
    else match b.val with
      | .func f => if f.name.map toBytes == some b.name then pure (some (funcInspect f ++ [10])) else valueLine fm maxLen b
      | .ext n =>
        if maxLen > 0 && (toBytes n).length > maxLen then pure none
        else pure (some (b.name ++ [61] ++ toBytes n ++ [10]))
      | _ => valueLine fm maxLen b := rfl

/-- a line is the printed value between name and newline, and the limit did not apply -/
theorem valueLine_some {fm : Fmt} {maxLen : Nat} {b : Binding} {line : Bytes}
    (h : valueLine fm maxLen b = .ok (some line)) :
    (∃ val, inspectP fm b.val = .ok val ∧ line = b.name ++ [61] ++ val ++ [10]) ∧ valueLine fm 0 b = .ok (some line) := by
  unfold valueLine at h ⊢
  cases hi : inspectP fm b.val with
  | error e => rw [hi] at h; cases h
  | ok val =>
    rw [hi] at h
    change (if _ then _ else _) = _ at h
    split at h
    · cases h
    · cases h; exact ⟨⟨val, rfl, rfl⟩, rfl⟩

/-- the line of a data binding is `name=<printed value>\n` with a printed value free of newlines -/
theorem data_binding_line (fm : Fmt) (hf : fm.OneLine) (maxLen : Nat) (b : Binding) (line : Bytes)
    (hd : isData b.val = true) (h : saveLine fm maxLen b = .ok (some line)) :
    ∃ val, inspectP fm b.val = .ok val ∧ NoNL val ∧ line = b.name ++ [61] ++ val ++ [10] := by
  rw [saveLine_eq] at h
  split at h
  · cases h
  · split at h
    · rename_i hb; rw [hb] at hd; cases hd
    · rename_i hb; rw [hb] at hd; cases hd
    · obtain ⟨val, hv, hl⟩ := (valueLine_some h).1
      exact ⟨val, hv, one_line fm hf b.val val hd hv, hl⟩

/-- with a length limit a binding is written in full or not at all: a line written under a limit is
the line written without limit (nothing is ever truncated) -/
theorem limit_skips (fm : Fmt) (maxLen : Nat) (b : Binding) (line : Bytes)
    (h : saveLine fm maxLen b = .ok (some line)) : saveLine fm 0 b = .ok (some line) := by
  rw [saveLine_eq] at h ⊢
  split
  · rename_i hc; rw [if_pos hc] at h; exact h
  · rename_i hc
    rw [if_neg hc] at h
    split
    · rename_i f hb
      simp only [hb] at h
      split
      · rename_i hn; rw [if_pos hn] at h; exact h
      · rename_i hn; rw [if_neg hn] at h; exact (valueLine_some h).2
    · -- written by name: the same text with and without limit
      rename_i n hb
      simp only [hb] at h
      split at h
      · cases h
      · exact h
    · rename_i hf he
      split at h
      · exact (hf _ ‹_›).elim
      · exact (he _ ‹_›).elim
      · exact (valueLine_some h).2

/-- (3) every int64 reads back from its printed form -/
theorem int_roundtrip (i : Int64) : readIntText (intBytes i) = some i := Grol.Save.int_roundtrip i

/-! ### (1) the Quote / readString pair

`quoteBody` is the modelled part of strconv.Quote (bytes < 0x80); `Lexer.readString` is the lexer model's
string reader, called just after the opening quote.  True only after fix db71ff2 (before it
`\\a \\b \\f \\v` decoded to the letters).  Proof (GrolProofs/SaveQuote.lean): `readString` is the statement's
decoder `specString` (C16, `readString_eq_spec`), and the decoder undoes `quoteBody` byte by byte, one case
per shape of `quoteByte` (plain byte, two-byte escape, `\\xHH`; the shapes are read off the 256 bytes). -/

/-- what `readString` returns on `"<quoted s>"<post>`, started after the opening quote:
(decoded bytes, terminated, position after the closing quote) -/
def readQuoted (body post : Bytes) : Bytes × Bool × Nat :=
  let r := Grol.Lexer.readString { input := (34 :: (body ++ 34 :: post)).toArray, pos := 1 } 34
  (r.1, r.2.1, r.2.2.pos)

def QuoteRoundtrip : Prop :=
  ∀ (s body post : Bytes), quoteBody s = some body → readQuoted body post = (s, true, body.length + 2)

/-- (1) for every byte string with all bytes < 0x80 (where `quoteBody` is defined), reading the quoted text
back gives exactly the string and consumes exactly the literal, whatever follows it -/
theorem quote_roundtrip : QuoteRoundtrip := by
  intro s body post hb
  unfold readQuoted Lexer.readString
  rw [show ((34 : UInt8) == 34) = true from rfl, readLoop_quoted hb post _ { input := (34 :: (body ++ 34 :: post)).toArray, pos := 1 } (by simp; omega)
    (Lexer.restL_toArray _ 1), Nat.add_comm 1]

/-- every all-ASCII string has a quoted form -/
theorem quoteBody_ascii (s : Bytes) (h : ∀ b ∈ s, b < 128) : ∃ body, quoteBody s = some body := by
  induction s with
  | nil => exact ⟨[], rfl⟩
  | cons b rest ih =>
    obtain ⟨r, hr⟩ := ih (fun x hx => h x (List.mem_cons_of_mem _ hx))
    obtain ⟨q, hq⟩ := quoteByte_ascii (h b List.mem_cons_self)
    exact ⟨q ++ r, by simp only [quoteBody, hq, hr]⟩

/-- bytes 7, 8, 11, 12 (the repaired escapes), quote, backslash, newline, CR, tab, NUL, DEL, letters -/
example : (quoteBody [7, 8, 11, 12, 34, 92, 10, 13, 9, 0, 127, 65, 120]).map (fun body => readQuoted body [32, 34, 120]) =
    some ([7, 8, 11, 12, 34, 92, 10, 13, 9, 0, 127, 65, 120], true, 30) := by decide +kernel

example : (quoteBody []).map (fun body => readQuoted body []) = some ([], true, 2) := by decide +kernel

/-- the value a fresh session gives to the printed form of a scalar (the part of "load" that is
composed from the models so far: integer literals with the prefix minus, `nil`, `true`, `false`, string
literals through the lexer model's `readString`);
`none` = not composed yet (floats through strconv.ParseFloat, containers and functions through the parser and evaluator models) -/
def readBack (t : Bytes) : Option Obj :=
  if t == nilB then some .null
  else if t == trueB then some (.bool true)
  else if t == falseB then some (.bool false)
  else match readIntText t with
    | some i => some (.int i)
    | none =>
      -- a string literal: the lexer model's reader must consume the whole text
      match t with
      | 34 :: _ =>
        let r := Grol.Lexer.readString { input := t.toArray, pos := 1 } 34
        if r.2.1 && r.2.2.pos == t.length then some (.str r.1) else none
      | _ => none

/-- C14 for data bindings, at full strength: whatever `SaveGlobals` writes for a data binding is one
line `name=text`, and `text` evaluates back to the binding's value -/
def Statement : Prop :=
  ∀ (store : List Binding) (out : List (Bytes × Bytes)), saveGlobals stdFmt 0 store = .ok out →
    ∀ p ∈ out, ∃ b ∈ store, p.1 = b.name ∧
      (isData b.val = true → ∃ text, p.2 = b.name ++ [61] ++ text ++ [10] ∧ NoNL text ∧ readBack text = some b.val)

/-- the part for which the reading side is composed: integers (all of int64), booleans, nil, strings of
bytes below 0x80 -/
def Safe (v : Obj) : Bool :=
  match v with
  | .null | .bool _ | .int _ => true
  | .str s => s.all (· < 128)
  | _ => false

def StatementAt (store : List Binding) : Prop :=
  ∀ (out : List (Bytes × Bytes)), saveGlobals stdFmt 0 store = .ok out →
    ∀ p ∈ out, ∃ b ∈ store, p.1 = b.name ∧
      (isData b.val = true → ∃ text, p.2 = b.name ++ [61] ++ text ++ [10] ∧ NoNL text ∧ readBack text = some b.val)

theorem intBytes_not_keyword (i : Int64) : intBytes i ≠ nilB ∧ intBytes i ≠ trueB ∧ intBytes i ≠ falseB := by
  have key : ∀ l : Bytes, (∃ x ∈ l, 97 ≤ x) → intBytes i ≠ l := by
    intro l ⟨x, hx, h97⟩ heq
    rw [← heq] at hx
    unfold intBytes at hx
    have hdig : ∀ n, x ∈ digitBytes n → False := by
      intro n hm
      unfold digitBytes at hm
      obtain ⟨c, hc, rfl⟩ := List.mem_map.mp hm
      have hd := Nat.isDigit_of_mem_toDigits (by decide) (by decide) hc
      simp only [Char.isDigit, Bool.and_eq_true, decide_eq_true_eq] at hd
      have h57 : c.toNat ≤ 57 := UInt32.le_iff_toNat_le.mp hd.2
      have hb : (c.toNat.toUInt8).toNat = c.toNat := by
        simp [Nat.toUInt8, UInt8.toNat_ofNat']
        omega
      have := UInt8.le_iff_toNat_le.mp h97
      rw [hb] at this
      simp at this
      omega
    split at hx
    · rcases List.mem_cons.mp hx with rfl | hm
      · exact absurd h97 (by decide)
      · exact hdig _ hm
    · exact hdig _ hx
  exact ⟨key nilB ⟨110, by decide, by decide⟩, key trueB ⟨116, by decide, by decide⟩, key falseB ⟨102, by decide, by decide⟩⟩

theorem readBack_printed (v : Obj) (hs : Safe v = true) (text : Bytes) (h : inspectP stdFmt v = .ok text) :
    readBack text = some v := by
  cases v with
  | null => simp [inspectP, pure, Except.pure] at h; subst h; simp [readBack, nilB]
  | bool b =>
    simp [inspectP, pure, Except.pure] at h; subst h
    cases b <;> simp [readBack, nilB, trueB, falseB]
  | int i =>
    simp [inspectP, pure, Except.pure] at h; subst h
    have hk := intBytes_not_keyword i
    simp [readBack, hk.1, hk.2.1, hk.2.2, int_roundtrip]
  | str sv =>
    simp only [Safe, List.all_eq_true, decide_eq_true_eq] at hs
    simp only [inspectP, stdFmt] at h
    obtain ⟨body, hbody⟩ := quoteBody_ascii sv hs
    simp [quoteAscii, hbody, pure, Except.pure] at h
    subst h
    have hq := quote_roundtrip sv body [] hbody
    simp only [readQuoted, Prod.mk.injEq] at hq
    obtain ⟨h1, h2, h3⟩ := hq
    have hint : readIntText (34 :: (body ++ [34])) = none := by
      simp [readIntText, parseDecInt, digitsVal]
    simp only [readBack, nilB, trueB, falseB]
    rw [if_neg (by simp), if_neg (by simp), if_neg (by simp), hint]
    simp only [h1, h2, h3]
    simp
  | _ => simp [Safe] at hs

/-- the property holds for every store whose data bindings are integers, booleans, nil and ASCII strings -/
theorem «partial» (store : List Binding) (hsafe : ∀ b ∈ store, isData b.val = true → Safe b.val = true) :
    StatementAt store := by
  intro out h p hp
  obtain ⟨_, _, _, _, hb⟩ := sorted_one_per_binding stdFmt 0 store out h
  obtain ⟨b, hbs, h1, h2⟩ := hb p hp
  refine ⟨b, hbs, h1, ?_⟩
  intro hd
  obtain ⟨val, hv, hn, hl⟩ := data_binding_line stdFmt stdFmt_oneLine 0 b p.2 hd h2
  exact ⟨val, hl, hn, readBack_printed b.val (hsafe b hbs hd) val hv⟩

/-- non-vacuity: a store with both int64 extremes, a boolean, nil and a lambda -/
def exampleStore : List Binding :=
  [⟨[120], false, .int (Int64.ofInt (-9223372036854775808))⟩, ⟨[97], false, .int 9223372036854775807⟩,
   ⟨[98], false, .bool true⟩, ⟨[110], false, .null⟩, ⟨[115], false, .str [7, 8, 11, 12, 34, 92, 10, 0, 127, 65]⟩,
   ⟨[102], false, .func { name := none, params := [], variadic := false, lambda := true, key := "x=>x", body := .none, env := 0 }⟩]

example : ∀ b ∈ exampleStore, isData b.val = true → Safe b.val = true := by decide

end Grol.Save.C14
