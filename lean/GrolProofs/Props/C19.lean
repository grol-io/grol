import GrolProofs.ConstInvBase
/-
C19 — constants cannot be changed by any path.

`C19.Statement` is the whole-evaluator invariant.  Proved here, for ALL states of the model:
 (1) `createOrSet_constant_refused` (GrolProofs/EnvConst.lean): the checking setter on a bound constant
     with a non-equal value returns an error and changes no value in any frame; `envGet_sameValues`
     states exactly what `Get` may change (reference entries and miss counters, never a value).
 (2) frame lemmas: writes to another name leave the entries of `N` untouched (store level and
     `create`); see also GrolProofs/Props/C06.lean.
 (3) writer lemmas (`ViaSet`): `evalPrefixIncrDecr`, `evalPostfix`, `evalIndexAssignment`,
     `deleteMapEntry` on the identifier `N` change the state only through `Get` (no value change) and
     through ONE final `envSet cur N nv` (= `createOrSet … false`), to which (1) applies.
The whole-evaluator invariant `C19.Statement` (below; TRUE-as-far-as-known, full strength) is proved in
lean/GrolProofs/Props/C19Full.lean for every program without `func NAME(…)` with an all-upper-case
NAME (`Grol.C19.kept`, `Grol.C19.statement_partial`); see the comment on `C19.Statement`.
-/
namespace Grol.E

/-- `N` reads (through `Get` + dereference) as `v` or as an error/stop in state `st` from frame `e` -/
def ReadsAs (st : St) (e : Nat) (N : String) (v : Obj) : Prop :=
  match (run (do let r ← envGet e N; match r with | some o => valueOf o | none => pure (Obj.error "identifier not found")) st).1 with
  | .ok o => o.isError = true ∨ equals o v = .ok true
  | .error _ => True

inductive DelFree : Node → Prop
  | ident (n) : DelFree (.ident n)
  | int (v) : DelFree (.int v)
  | float (b) : DelFree (.float b)
  | str (s) : DelFree (.str s)
  | bool (b) : DelFree (.bool b)
  | none : DelFree .none
  | ctl (k) : DelFree (.ctl k)
  | comment : DelFree .comment
  | post (op n) : DelFree (.post op n)
  | pre (op) {r} : DelFree r → DelFree (.pre op r)
  | inf (op) {l r} : DelFree l → DelFree r → DelFree (.inf op l r)
  | stmts {l} : (∀ x ∈ l, DelFree x) → DelFree (.stmts l)
  | ifE {c a b} : DelFree c → DelFree a → DelFree b → DelFree (.ifE c a b)
  | forE {c b} : DelFree c → DelFree b → DelFree (.forE c b)
  | ret {v} : DelFree v → DelFree (.ret v)
  | builtin (name) {ps} : name ≠ "DEL" → (∀ x ∈ ps, DelFree x) → DelFree (.builtin name ps)
  | fn (name params variadic lambda key) {body} : DelFree body → DelFree (.fn name params variadic lambda key body)
  | call {f args} : DelFree f → (∀ x ∈ args, DelFree x) → DelFree (.call f args)
  | arr {els} : (∀ x ∈ els, DelFree x) → DelFree (.arr els)
  | mapLit {ks vs} : (∀ x ∈ ks, DelFree x) → (∀ x ∈ vs, DelFree x) → DelFree (.mapLit ks vs)
  | idx (tok) {l i} : DelFree l → DelFree i → DelFree (.idx tok l i)

def sessionState (cfg : Cfg) (progs : List Node) : St :=
  progs.foldl (fun s p => (runInput s p).1) (initState cfg)

/-- The whole-evaluator invariant, full strength: in any state a `del`-free session can reach, for every
`del`-free program, every constant name `N` bound DIRECTLY (to a value, not through a reference entry)
in a frame `e` before the evaluation is still bound directly in frame `e` after it, to a value related to
the old one by `Grol.K.Eqv` — the equivalence generated by the one rewrite the checking setter accepts
(`Grol.K.Acc a b`: `cmp a b = 0` and `sameTypes a b`; the closure is taken only because the model's floats
are opaque to the kernel; for integer, boolean, nil and string constants it is equality,
`Grol.C19.kept_rigid`).

PROVED (lean/GrolProofs/Props/C19Full.lean, `Grol.C19.statement_partial`, from `Grol.C19.kept` and
`Grol.C19.session_kept`): the same statement with `Grol.K.okNode` in place of `DelFree`, i.e. for sessions
and programs that, besides containing no `del`, define no `func NAME(…)` whose NAME is all upper case.
MISSING for the full statement: named functions with a constant name — inside the frame of such a function
`Get(NAME)` answers the function itself whatever the store holds, so the proof needs one more invariant
("the binding of NAME visible from that frame is that function").  `del` is excluded by the property itself.

(The statement speaks of direct bindings, not of "N reads as v": a read of an unbound name is an error,
which "reads as" every value, so `N = 5` from a state without `N` would refute that form.) -/
def C19.Statement : Prop :=
  ∀ (cfg : Cfg) (progs : List Node) (fuel : Nat) (prog : Node),
    (∀ p ∈ progs, DelFree p) → DelFree prog →
    ∀ (e : Nat) (N : String) (v : Obj), isConstant N = true → frameVal (sessionState cfg progs) e N = some v →
      ∃ v', frameVal (run (eval fuel prog) (sessionState cfg progs)).2 e N = some v' ∧ Grol.K.Eqv v v'

def ViaSet (e : Nat) (N : String) (x : M α) : Prop :=
  ∀ st, SameValues st (run x st).2 ∨
    ∃ st1 nv, SameValues st st1 ∧ (run x st).2 = (run (envSet e N nv) st1).2

def SvOnly (x : M α) : Prop := ∀ st, SameValues st (run x st).2

theorem SvOnly.of_readOnly {x : M α} (h : ReadOnly x) : SvOnly x := by
  intro st; rw [h st]; exact SameValues.refl _

theorem ViaSet.of_sv {e : Nat} {N : String} {x : M α} (h : SvOnly x) : ViaSet e N x := fun st => .inl (h st)

theorem ViaSet.pure (e : Nat) (N : String) (a : α) : ViaSet e N (pure a : M α) := fun st => .inl (SameValues.refl _)

theorem ViaSet.ite {e : Nat} {N : String} {c : Prop} [Decidable c] {a b : M α} (ha : ViaSet e N a)
    (hb : ViaSet e N b) : ViaSet e N (if c then a else b) := by
  split
  · exact ha
  · exact hb

theorem ViaSet.bind_sv {e : Nat} {N : String} {x : M α} {f : α → M β} (hx : SvOnly x) (hf : ∀ a, ViaSet e N (f a)) :
    ViaSet e N (x >>= f) := by
  intro st
  rw [run_bind]
  have h1 := hx st
  split
  next a st' heq =>
    rw [heq] at h1
    rcases hf a st' with h | ⟨st1, nv, hs, hr⟩
    · exact .inl (h1.trans h)
    · exact .inr ⟨st1, nv, h1.trans hs, hr⟩
  next err st' heq => rw [heq] at h1; exact .inl h1

theorem ViaSet.set_then {e : Nat} {N : String} (nv : Obj) {f : Obj → M β} (hf : ∀ a, ReadOnly (f a)) :
    ViaSet e N (envSet e N nv >>= f) := by
  intro st
  refine .inr ⟨st, nv, SameValues.refl _, ?_⟩
  rw [run_bind]
  split
  next a st' heq => rw [hf a st', heq]
  next err st' heq => rw [heq]

/-- `ViaSet` at one state; a read-only prefix (dereferencing the operands) does not matter -/
theorem via_bind_ro {e : Nat} {N : String} {x : M α} {f : α → M β} {st : St} (hx : ReadOnly x)
    (hf : ∀ a, SameValues st (run (f a) st).2 ∨
      ∃ st1 nv, SameValues st st1 ∧ (run (f a) st).2 = (run (envSet e N nv) st1).2) :
    SameValues st (run (x >>= f) st).2 ∨
      ∃ st1 nv, SameValues st st1 ∧ (run (x >>= f) st).2 = (run (envSet e N nv) st1).2 := by
  rw [run_bind]
  have h := hx st
  split
  next a st' heq => rw [heq] at h; simp only at h; subst h; exact hf a
  next err st' heq => rw [heq] at h; simp only at h; subst h; exact .inl (SameValues.refl _)

theorem svOnly_envGet (e : Nat) (N : String) : SvOnly (envGet e N) := envGet_sameValues e N

theorem svOnly_noteHazard (c : Bool) (k n : String) : SvOnly (noteHazard c k n) := by
  intro st
  unfold noteHazard
  split
  · exact ⟨rfl, fun _ _ => rfl, fun _ => rfl, rfl, rfl, rfl, rfl⟩
  · exact SameValues.refl _

theorem readOnly_isErrorSelect (a b : Obj) (oerr : Obj) :
    ReadOnly (if oerr.isError = true then (Pure.pure a : M Obj) else Pure.pure b) := by
  split <;> exact ReadOnly.pure _

/-- **C19 (3a)** `++N` / `--N` -/
theorem evalPrefixIncrDecr_via (op N : String) (e : Nat) :
    ViaSet e N (do
      match ← envGet e N with
      | none => Pure.pure (err ("identifier not found: " ++ N))
      | some val =>
        let val ← valueOf val
        match incrValue val (if op == "DECR" then -1 else 1) with
        | some nv => envSet e N nv
        | none => Pure.pure (err "can't prefix increment/decrement")) := by
  refine ViaSet.bind_sv (svOnly_envGet _ _) fun r => ?_
  split
  · exact ViaSet.pure _ _ _
  · refine ViaSet.bind_sv (SvOnly.of_readOnly (readOnly_valueOf _)) fun v => ?_
    split
    · next nv _ =>
      intro st
      exact .inr ⟨st, nv, SameValues.refl _, rfl⟩
    · exact ViaSet.pure _ _ _

theorem evalPrefixIncrDecr_eq (op N : String) (st : St) :
    run (evalPrefixIncrDecr op (.ident N)) st = run (do
      match ← envGet st.cur N with
      | none => Pure.pure (err ("identifier not found: " ++ N))
      | some val =>
        let val ← valueOf val
        match incrValue val (if op == "DECR" then -1 else 1) with
        | some nv => envSet st.cur N nv
        | none => Pure.pure (err "can't prefix increment/decrement")) st := by
  unfold evalPrefixIncrDecr curEnv
  simp only [bind_assoc, pure_bind]
  rw [run_bind, run_get]
  rfl

/-- **C19 (3a)** as a statement about the evaluator's function: whatever the state, `++N`/`--N` changes it
only through `Get` and one `envSet cur N nv` -/
theorem evalPrefixIncrDecr_writes_via_set (op N : String) (st : St) :
    SameValues st (run (evalPrefixIncrDecr op (.ident N)) st).2 ∨
    ∃ st1 nv, SameValues st st1 ∧
      (run (evalPrefixIncrDecr op (.ident N)) st).2 = (run (envSet st.cur N nv) st1).2 := by
  rw [evalPrefixIncrDecr_eq]
  exact evalPrefixIncrDecr_via op N st.cur st

theorem run_curEnv_bind (f : Nat → M β) (st : St) : run (curEnv >>= f) st = run (f st.cur) st := by
  unfold curEnv
  simp only [bind_assoc, pure_bind]
  rw [run_bind, run_get]

/-- **C19 (3b)** `N++` / `N--` -/
theorem evalPostfix_writes_via_set (op N : String) (st : St) :
    SameValues st (run (evalPostfix op N) st).2 ∨
    ∃ st1 nv, SameValues st st1 ∧ (run (evalPostfix op N) st).2 = (run (envSet st.cur N nv) st1).2 := by
  unfold evalPostfix
  rw [run_curEnv_bind]
  refine (?_ : ViaSet st.cur N _) st
  refine ViaSet.bind_sv (svOnly_envGet _ _) fun r => ?_
  split
  · exact ViaSet.pure _ _ _
  · refine ViaSet.bind_sv (SvOnly.of_readOnly (readOnly_valueOf _)) fun v => ?_
    dsimp only
    split
    · exact ViaSet.pure _ _ _
    · split
      · exact ViaSet.pure _ _ _
      · exact ViaSet.set_then _ fun oerr => by split <;> exact ReadOnly.pure _

/-- **C19 (3c)** `N[i] = v`, `N.k = v` -/
theorem evalIndexAssignment_writes_via_set (N : String) (index value : Obj) (st : St) :
    SameValues st (run (evalIndexAssignment (.ident N) index value) st).2 ∨
    ∃ st1 nv, SameValues st st1 ∧
      (run (evalIndexAssignment (.ident N) index value) st).2 = (run (envSet st.cur N nv) st1).2 := by
  unfold evalIndexAssignment
  refine via_bind_ro (readOnly_valueOf _) fun index => ?_
  refine via_bind_ro (readOnly_valueOf _) fun value => ?_
  dsimp only
  rw [run_curEnv_bind]
  refine (?_ : ViaSet st.cur N _) st
  refine ViaSet.bind_sv (svOnly_envGet _ _) fun r => ?_
  split
  · exact ViaSet.pure _ _ _
  · refine ViaSet.bind_sv (SvOnly.of_readOnly (readOnly_valueOf _)) fun v => ?_
    split
    · split
      · exact ViaSet.pure _ _ _
      · refine ViaSet.ite (ViaSet.pure _ _ _) ?_
        refine ViaSet.bind_sv (SvOnly.of_readOnly (fun _ => rfl)) fun _ => ?_
        refine ViaSet.bind_sv (svOnly_noteHazard _ _ _) fun _ => ?_
        exact ViaSet.set_then _ fun oerr => by split <;> exact ReadOnly.pure _
    · refine ViaSet.bind_sv (SvOnly.of_readOnly (fun _ => rfl)) fun s => ?_
      refine ViaSet.bind_sv (SvOnly.of_readOnly (ReadOnly.liftR _)) fun x => ?_
      obtain ⟨big', kvs'⟩ := x
      dsimp only
      refine ViaSet.bind_sv (svOnly_noteHazard _ _ _) fun _ => ?_
      exact ViaSet.set_then _ fun oerr => by split <;> exact ReadOnly.pure _
    · exact ViaSet.pure _ _ _

/-- **C19 (3d)** `del(N[i])`, `del(N.k)` -/
theorem deleteMapEntry_writes_via_set (N : String) (index : Obj) (st : St) :
    SameValues st (run (deleteMapEntry (.ident N) index) st).2 ∨
    ∃ st1 nv, SameValues st st1 ∧
      (run (deleteMapEntry (.ident N) index) st).2 = (run (envSet st.cur N nv) st1).2 := by
  unfold deleteMapEntry
  rw [run_curEnv_bind]
  refine (?_ : ViaSet st.cur N _) st
  refine ViaSet.bind_sv (svOnly_envGet _ _) fun r => ?_
  split
  · exact ViaSet.pure _ _ _
  · refine ViaSet.bind_sv (SvOnly.of_readOnly (readOnly_valueOf _)) fun v => ?_
    split
    · refine ViaSet.bind_sv (SvOnly.of_readOnly (ReadOnly.liftR _)) fun x => ?_
      split
      · exact ViaSet.pure _ _ _
      · refine ViaSet.bind_sv (svOnly_noteHazard _ _ _) fun _ => ?_
        exact ViaSet.set_then _ fun oerr => by split <;> exact ReadOnly.pure _
    · exact ViaSet.pure _ _ _

/-- **C19 (1)+(3)** combined for the index writers: if the setter they end in finds the constant bound to a
non-equal value, the write is refused and no value changed since `st1` -/
theorem C19.final_set_refused (e : Nat) (N : String) (nv old : Obj) (st1 st2 : St)
    (hc : isConstant N = true) (hget : run (envGet e N) st1 = (.ok (some old), st2)) (hne : NotEqualsIn st2 old nv) :
    SameValues st1 (run (envSet e N nv) st1).2 :=
  (createOrSet_constant_refused e N nv false st1 st2 old hc hget hne).2

/-- non-vacuity of (1): in the state after `FOO = 3` at top level, `FOO = 4` is refused -/
example :
    let st0 : St := { frames := #[{ store := [("FOO", .int 3)] }] }
    (run (createOrSet 0 "FOO" (.int 4) false) st0).1 = .ok (.error "attempt to change constant FOO") := by
  rfl

end Grol.E
