import GrolProofs.Props.C15Sim
import GrolProofs.LexStream
/-
C15 part 1, the lexer link: the stream of the lexer MODEL in line mode is `asLine` of its stream in file mode, for
EVERY input (NUL bytes, unterminated strings and block comments included: both modes take the same branch there, the
`lineMode` flag is read by `eolEof` only — /repo/lexer/lexer.go `EOLEOF` is the only reader of `l.lineMode`).

Two lexer runs whose states differ only in the flag: `next` commutes with setting the flag (`next_mode`), the only
difference being the type of the end marker (`retype`).  Lifted through `iter`, `markerIdx`, `entry`, `tokStream`.
The only hypothesis is on the external number classifier `nc`: it must give the same class to the two end markers
(it is only ever meant for INT/FLOAT tokens); `nc_hypothesis_needed` shows it cannot be dropped.
-/
namespace Grol.Lexer
open Grol.Token Grol.Token.TType

def setMode (b : Bool) (s : State) : State := { s with lineMode := b }

/-- the end marker becomes the end marker of mode `b`, every other token is unchanged -/
def retype (b : Bool) (t : Token.Tok) : Token.Tok := if t.src = .eoleof then eolEof b else t

theorem retype_of_ne {b : Bool} {t : Token.Tok} (h : t.src ≠ .eoleof) : retype b t = t := by
  unfold retype; rw [if_neg h]

@[simp] theorem retype_eolEof (b c : Bool) : retype b (eolEof c) = eolEof b := by
  unfold retype; exact if_pos rfl

@[simp] theorem retype_ctc (b : Bool) (c : UInt8) : retype b (constantTokenChar c) = constantTokenChar c := by
  apply retype_of_ne; unfold constantTokenChar; split <;> simp [Tok.nil]

@[simp] theorem retype_ctc2 (b : Bool) (c d : UInt8) : retype b (constantTokenChar2 c d) = constantTokenChar2 c d := by
  apply retype_of_ne; unfold constantTokenChar2; split <;> simp [Tok.nil]

@[simp] theorem retype_intern (b : Bool) (t : TType) (l : Bytes) : retype b (internTok t l) = internTok t l :=
  retype_of_ne (by simp [internTok])

@[simp] theorem retype_slice_intern (b : Bool) (t : TType) (o : Option Bytes) :
    retype b (tokOfSlice (internTok t) o) = tokOfSlice (internTok t) o := by
  cases o
  · exact retype_of_ne (by simp [tokOfSlice, Tok.goPanic])
  · exact retype_intern b t _

@[simp] theorem retype_slice_lookup (b : Bool) (o : Option Bytes) :
    retype b (tokOfSlice lookupIdent o) = tokOfSlice lookupIdent o := by
  cases o
  · exact retype_of_ne (by simp [tokOfSlice, Tok.goPanic])
  · exact retype_of_ne (by simp [tokOfSlice, lookupIdent_src])

theorem retype_src (b : Bool) (t : Token.Tok) : (retype b t).src = .eoleof ↔ t.src = .eoleof := by
  unfold retype
  split
  · rename_i h; simp [eolEof, h]
  · exact Iff.rfl

/-! ### every piece of `next` commutes with `setMode` -/

theorem skipWsLoop_mode (b : Bool) : ∀ (f : Nat) (s : State), skipWsLoop f (setMode b s) = setMode b (skipWsLoop f s)
  | 0, s => rfl
  | f + 1, s => by
    unfold skipWsLoop
    simp only []
    have hp : (setMode b s).peekChar = s.peekChar := rfl
    rw [hp]
    split
    · rfl
    · split
      · exact skipWsLoop_mode b f ⟨s.input, s.pos + 1, s.lineMode, true, true, s.pos + 1, s.lineNumber + 1⟩
      · exact skipWsLoop_mode b f { s with hadWhitespace := true, pos := s.pos + 1 }

theorem skipWhitespace_mode (b : Bool) (s : State) : skipWhitespace (setMode b s) = setMode b (skipWhitespace s) :=
  skipWsLoop_mode b (s.input.size - s.pos) { s with hadWhitespace := false, hadNewline := false }

theorem readChar_mode (b : Bool) (s : State) : (setMode b s).readChar = (s.readChar.1, setMode b s.readChar.2) := rfl
theorem readHex_mode (b : Bool) (s : State) : readHex (setMode b s) = ((readHex s).1, setMode b (readHex s).2) := rfl
theorem readUnicode16_mode (b : Bool) (s : State) :
    readUnicode16 (setMode b s) = ((readUnicode16 s).1, setMode b (readUnicode16 s).2) := rfl
theorem readUnicode32_mode (b : Bool) (s : State) :
    readUnicode32 (setMode b s) = ((readUnicode32 s).1, setMode b (readUnicode32 s).2) := rfl

def mode3 {α β : Type} (b : Bool) (r : α × β × State) : α × β × State := (r.1, r.2.1, setMode b r.2.2)

/- `readEscape` and `readNumber` are `if` chains whose conditions never mention the flag: moving the flag into the
branches (`apply_ite`) leaves the same chain on both sides, and each leaf agrees by computation -/
theorem readEscape_mode (b : Bool) (ch : UInt8) (s : State) :
    readEscape ch (setMode b s) = ((readEscape ch s).1, setMode b (readEscape ch s).2) := by
  unfold readEscape
  simp only [apply_ite (fun r : UInt8 × State => (r.1, setMode b r.2))]
  rfl

theorem consBuf_mode3 (b : Bool) (pre : Bytes) (r : Bytes × Bool × State) :
    consBuf pre (mode3 b r) = mode3 b (consBuf pre r) := rfl

theorem readStringLoop_mode (b : Bool) (sep : UInt8) (dq : Bool) : ∀ (f : Nat) (s : State),
    readStringLoop sep dq f (setMode b s) = mode3 b (readStringLoop sep dq f s)
  | 0, s => rfl
  | f + 1, s => by
    unfold readStringLoop
    simp only [readChar_mode, readUnicode16_mode, readUnicode32_mode, readEscape_mode, readStringLoop_mode b sep dq f,
      consBuf_mode3, apply_ite (mode3 b)]
    rfl

theorem readString_mode (b : Bool) (s : State) (sep : UInt8) :
    readString (setMode b s) sep = mode3 b (readString s sep) :=
  readStringLoop_mode b sep _ _ s

theorem readIdentifier_mode (b : Bool) (s : State) :
    readIdentifier (setMode b s) = ((readIdentifier s).1, setMode b (readIdentifier s).2) := rfl
theorem readLineComment_mode (b : Bool) (s : State) :
    readLineComment (setMode b s) = ((readLineComment s).1, setMode b (readLineComment s).2) := rfl
theorem readBlockComment_mode (b : Bool) (s : State) :
    readBlockComment (setMode b s) = ((readBlockComment s).1, setMode b (readBlockComment s).2) := by
  cases s; rfl

theorem readNumber_mode (b : Bool) (s : State) (ch : UInt8) :
    readNumber (setMode b s) ch = mode3 b (readNumber s ch) := by
  unfold readNumber
  simp only [apply_ite (mode3 b)]
  rfl

def lift (b : Bool) (r : Token.Tok × State) : Token.Tok × State := (retype b r.1, setMode b r.2)

theorem lift_mk (b : Bool) (t : Token.Tok) (s : State) : lift b (t, s) = (retype b t, setMode b s) := rfl

/-- the `switch` of `NextToken` in the other mode: same branch, same state up to the flag, same token up to the
type of the end marker -/
theorem nextSwitch_mode (b : Bool) (ch nx : UInt8) (s : State) :
    nextSwitch ch nx (setMode b s) = lift b (nextSwitch ch nx s) := by
  unfold nextSwitch
  simp only [apply_ite (lift b), lift_mk, readLineComment_mode, readBlockComment_mode, readString_mode, readNumber_mode,
    readIdentifier_mode, mode3, retype_ctc, retype_ctc2, retype_intern, retype_slice_intern, retype_slice_lookup,
    retype_eolEof, State.eolEof]
  rfl

theorem nextCore_mode (b : Bool) (s : State) : nextCore (setMode b s) = lift b (nextCore s) :=
  nextSwitch_mode b s.readChar.1 s.readChar.2.peekChar s.readChar.2

/-- **step lemma**: one `NextToken()` call commutes with changing the mode, token by token -/
theorem next_mode (b : Bool) (s : State) : next (setMode b s) = (retype b (next s).1, setMode b (next s).2) := by
  unfold next
  rw [skipWhitespace_mode, nextCore_mode]
  rfl

theorem iter_mode (b : Bool) : ∀ (k : Nat) (s : State), iter k (setMode b s) = setMode b (iter k s)
  | 0, s => rfl
  | k + 1, s => by
    show iter k (next (setMode b s)).2 = setMode b (iter k (next s).2)
    rw [next_mode]
    exact iter_mode b k _

end Grol.Lexer

namespace Grol.LexStream
open Grol.Lexer Grol.Generated Grol.Parser

/-- a well-formed token that is not the end marker is not of type EOF: the types each kind of call can return
are a fixed list -/
theorem srcTypes_ne_eof : ∀ s, s ≠ .eoleof → ∀ ty ∈ srcTypes s, genType ty ≠ .EOF := by
  intro s; cases s <;> decide +kernel

theorem wf_type_ne_eof (t : Grol.Token.Tok) (wf : t.WF) (h : t.src ≠ .eoleof) : genType t.type ≠ .EOF :=
  srcTypes_ne_eof _ h _ wf.type_mem

theorem markerIdx_mode (b : Bool) : ∀ (f : Nat) (s : State), markerIdx f (setMode b s) = markerIdx f s
  | 0, _ => rfl
  | f + 1, s => by
    unfold markerIdx
    rw [next_mode]
    simp only [retype_src]
    split
    · rfl
    · rw [markerIdx_mode b f]

/-- the first marker is the first: no call before `markerIdx` returns the end marker -/
theorem markerIdx_min : ∀ (f : Nat) (s : State) (i : Nat), i < markerIdx f s → ¬ (next (iter i s)).1.src = .eoleof
  | 0, s, i, h => by cases h
  | f + 1, s, i, h => by
    rw [markerIdx] at h
    split at h
    · cases h
    · rename_i hm
      cases i with
      | zero => rw [iter]; exact hm
      | succ i => rw [iter]; exact markerIdx_min f (next s).2 i (Nat.lt_of_succ_lt_succ h)

theorem toTok_mode (nc : Grol.Token.Tok → NumClass) (b : Bool) (s0 s2 : State) (t : Grol.Token.Tok) :
    toTok nc (setMode b s0) t (setMode b s2) = toTok nc s0 t s2 := rfl

theorem lineTok_marker (nc : Grol.Token.Tok → NumClass) (hnc : nc (Grol.Token.eolEof true) = nc (Grol.Token.eolEof false))
    (s0 s2 : State) : lineTok (toTok nc s0 (Grol.Token.eolEof false) s2) = toTok nc s0 (Grol.Token.eolEof true) s2 := by
  have ht : (toTok nc s0 (Grol.Token.eolEof false) s2).type = .EOF := genType_EOF
  rw [lineTok, if_pos ht, toTok, toTok, hnc]
  rfl

theorem lineTok_nonmarker (nc : Grol.Token.Tok → NumClass) (s0 s2 : State) (t : Grol.Token.Tok) (wf : t.WF)
    (h : t.src ≠ .eoleof) : lineTok (toTok nc s0 t s2) = toTok nc s0 t s2 :=
  lineTok_self (wf_type_ne_eof t wf h)

/-- call by call: the line-mode lexer returns `lineTok` of what the file-mode lexer returns -/
theorem entry_mode (nc : Grol.Token.Tok → NumClass) (hnc : nc (Grol.Token.eolEof true) = nc (Grol.Token.eolEof false))
    (s : State) (hs : s.lineMode = false) (i : Nat) :
    entry nc (setMode true s) i = lineTok (entry nc s i) := by
  unfold entry
  rw [iter_mode, next_mode, toTok_mode]
  cases C16.cases (iter i s) with
  | inl m => rw [m.1, (iter_same s i).2, hs, retype_eolEof, lineTok_marker nc hnc]
  | inr ok => rw [retype_of_ne ok.notMarker, lineTok_nonmarker nc _ _ _ ok.wf ok.notMarker]

/-- in file mode an end marker is EOF-typed -/
theorem entry_marker_type (nc : Grol.Token.Tok → NumClass) (s : State) (hs : s.lineMode = false) (i : Nat)
    (hm : (next (iter i s)).1.src = .eoleof) : (entry nc s i).type = .EOF := by
  rw [entry_type]
  cases C16.cases (iter i s) with
  | inl m => rw [m.1, (iter_same s i).2, hs]; exact genType_EOF
  | inr ok => exact absurd hm ok.notMarker

theorem entry_nonmarker_type (nc : Grol.Token.Tok → NumClass) (s : State) (i : Nat)
    (hm : ¬ (next (iter i s)).1.src = .eoleof) : (entry nc s i).type ≠ .EOF := by
  rw [entry_type]
  cases C16.cases (iter i s) with
  | inl m => exact absurd (by rw [m.1]; rfl) hm
  | inr ok => exact wf_type_ne_eof _ ok.wf ok.notMarker

end Grol.LexStream

namespace Grol.C15
open Grol Grol.Lexer Grol.LexStream Grol.Parser Grol.Generated

/-- the classifier of number literals is never asked to tell the two end markers apart
(`strconv.ParseInt/ParseFloat` are only called on INT / FLOAT tokens) -/
def NcModeBlind (nc : Grol.Token.Tok → NumClass) : Prop := nc (Grol.Token.eolEof true) = nc (Grol.Token.eolEof false)

instance (nc : Grol.Token.Tok → NumClass) : Decidable (NcModeBlind nc) := by unfold NcModeBlind; exact inferInstance

theorem tokStream_toks (nc : Grol.Token.Tok → NumClass) (input : Array UInt8) (m : Bool) :
    (tokStream nc input m).toks
      = (List.range (markerIdx (input.size + 1) (State.new input m) + 1)).map (entry nc (State.new input m)) := by
  rw [tokStream]

theorem tokStream_eof (nc : Grol.Token.Tok → NumClass) (input : Array UInt8) (m : Bool) :
    (tokStream nc input m).eof = entry nc (State.new input m) (markerIdx (input.size + 1) (State.new input m) + 1) := rfl

/-- **the lexer link of C15**: for EVERY input (NUL bytes, unterminated strings / block comments included) the stream of
the model lexer in line mode is `asLine` of its stream in file mode -/
theorem tokStream_line_eq_asLine (nc : Grol.Token.Tok → NumClass) (input : Array UInt8) (hnc : NcModeBlind nc) :
    tokStream nc input true = asLine (tokStream nc input false) := by
  have h : entry nc (setMode true (State.new input false)) = fun i => lineTok (entry nc (State.new input false) i) :=
    funext (entry_mode nc hnc _ rfl)
  have e : State.new input true = setMode true (State.new input false) := rfl
  simp only [tokStream, asLine, e, markerIdx_mode, h, List.map_map, Function.comp_def]

/-- the file-mode stream of the model lexer has its first end marker at `markerIdx` and only EOF-typed tokens from
there on — for every input: an embedded NUL byte is not consumed, the marker is sticky (`C16.sticky_step`) -/
theorem endAtB_tokStream (nc : Grol.Token.Tok → NumClass) (input : Array UInt8) :
    endAtB (tokStream nc input false) (markerIdx (input.size + 1) (State.new input false)) = true := by
  have hk := markerIdx_spec input.size (State.new input false) (Nat.zero_le _) (by simp [State.new])
  have hmin := markerIdx_min (input.size + 1) (State.new input false)
  generalize hkdef : markerIdx (input.size + 1) (State.new input false) = k at hk hmin ⊢
  have hk1 : (next (iter (k + 1) (State.new input false))).1.src = .eoleof := by
    rw [iter_succ', (C16.sticky_step _ hk).1]; exact hk
  unfold endAtB
  simp only [Bool.and_eq_true, List.all_eq_true, List.mem_range, bne_iff_ne, ne_eq, decide_eq_true_eq]
  refine ⟨⟨?_, ?_⟩, ?_⟩
  · intro i hi
    rw [get_le nc input false i (by omega)]
    exact entry_nonmarker_type nc _ i (hmin i hi)
  · rw [tokStream_eof, hkdef]; exact entry_marker_type nc _ rfl _ hk1
  · intro d hd
    rw [tokStream_toks, List.length_map, List.length_range, hkdef] at hd
    have : d = 0 ∨ d = 1 := by omega
    rcases this with rfl | rfl
    · rw [Nat.add_zero, get_le nc input false k (by omega)]; exact entry_marker_type nc _ rfl _ hk
    · rw [get_gt nc input false (k + 1) (by omega), hkdef]; exact entry_marker_type nc _ rfl _ hk1

theorem tokStream_length (nc : Grol.Token.Tok → NumClass) (input : Array UInt8) (m : Bool) :
    (tokStream nc input m).toks.length - 1 = markerIdx (input.size + 1) (State.new input m) := by
  rw [tokStream_toks, List.length_map, List.length_range, Nat.add_sub_cancel]

/-- **C15 part 1 from the bytes**: for every input, if the parse of the FILE-mode lexer's stream is valid and no
top-level statement of that run ends on the end marker (`stmtsClosed`, excludes exactly the recorded class
`file-mode-accepts-unclosed-block`), then the parse of the LINE-mode lexer's stream is valid and gives the same program.
No hypothesis on the input bytes. -/
theorem same_tree_lexed (nc : Grol.Token.Tok → NumClass) (hnc : NcModeBlind nc) (input : Array UInt8) (fuel : Nat)
    (hv : valid (tokStream nc input false) fuel = true)
    (hclosed : stmtsClosed (tokStream nc input false) ((tokStream nc input false).toks.length - 1) fuel
      (init (tokStream nc input false)) = true) :
    valid (tokStream nc input true) fuel = true
    ∧ (result (tokStream nc input true) fuel).map (·.program) = (result (tokStream nc input false) fuel).map (·.program) := by
  rw [tokStream_line_eq_asLine nc input hnc]
  rw [tokStream_length] at hclosed
  exact same_tree_partial _ _ fuel (endAtB_tokStream nc input) hv hclosed

end Grol.C15

/-! ### non-vacuity, kernel-evaluated on the bytes -/

namespace Grol.C15
open Grol Grol.Lexer Grol.LexStream Grol.Parser Grol.Generated

/-- a classifier like the harness': INT tokens parse as ints, FLOAT tokens as floats (enough for the examples) -/
def ncSimple (t : Grol.Token.Tok) : NumClass :=
  if t.type = .INT then .int else if t.type = .FLOAT then .float else .na

example : NcModeBlind ncSimple := by decide

/-- `a+b` -/
def bytesAPlusB : Array UInt8 := #[97, 43, 98]
/-- `f(1)⏎` -/
def bytesCall : Array UInt8 := #[102, 40, 49, 41, 10]
/-- `if x { y } else { z }⏎f(1)` -/
def bytesIf : Array UInt8 :=
  #[105, 102, 32, 120, 32, 123, 32, 121, 32, 125, 32, 101, 108, 115, 101, 32, 123, 32, 122, 32, 125, 10, 102, 40, 49, 41]

/-- the hypotheses of `same_tree_lexed` hold on `a+b`, `f(1)⏎` and an `if … else …` followed by a call -/
example : valid (tokStream ncSimple bytesAPlusB false) 40 = true ∧
    stmtsClosed (tokStream ncSimple bytesAPlusB false) ((tokStream ncSimple bytesAPlusB false).toks.length - 1) 40
      (init (tokStream ncSimple bytesAPlusB false)) = true := by decide +kernel
example : valid (tokStream ncSimple bytesCall false) 40 = true ∧
    stmtsClosed (tokStream ncSimple bytesCall false) ((tokStream ncSimple bytesCall false).toks.length - 1) 40
      (init (tokStream ncSimple bytesCall false)) = true := by decide +kernel
example : valid (tokStream ncSimple bytesIf false) 40 = true ∧
    stmtsClosed (tokStream ncSimple bytesIf false) ((tokStream ncSimple bytesIf false).toks.length - 1) 40
      (init (tokStream ncSimple bytesIf false)) = true ∧
    (result (tokStream ncSimple bytesIf true) 40).map (·.program.length) = some 2 := by decide +kernel

/-- the two streams really differ (EOL vs EOF end markers), and `asLine` is exactly that difference: `f(1)⏎` -/
example : ((tokStream ncSimple bytesCall false).toks.map (·.type)) = [.IDENT, .LPAREN, .INT, .RPAREN, .EOF] ∧
    ((tokStream ncSimple bytesCall true).toks.map (·.type)) = [.IDENT, .LPAREN, .INT, .RPAREN, .EOL] ∧
    (tokStream ncSimple bytesCall true).toks = (asLine (tokStream ncSimple bytesCall false)).toks ∧
    (tokStream ncSimple bytesCall true).eof = (asLine (tokStream ncSimple bytesCall false)).eof := by decide +kernel

/-- no hypothesis on the bytes is needed: an embedded NUL (`a`, NUL, `b`), an unterminated string (`"a`) and an
unterminated block comment (`/*a`) give `asLine`-related streams as well (instances of the theorem, evaluated) -/
example : (tokStream ncSimple #[97, 0, 98] true).toks = (asLine (tokStream ncSimple #[97, 0, 98] false)).toks ∧
    ((tokStream ncSimple #[97, 0, 98] false).toks.map (·.type)) = [.IDENT, .EOF] ∧
    (tokStream ncSimple #[34, 97] true).toks = (asLine (tokStream ncSimple #[34, 97] false)).toks ∧
    ((tokStream ncSimple #[34, 97] true).toks.map (·.type)) = [.EOL] ∧
    (tokStream ncSimple #[47, 42, 97] true).toks = (asLine (tokStream ncSimple #[47, 42, 97] false)).toks ∧
    ((tokStream ncSimple #[47, 42, 97] true).toks.map (·.type)) = [.BLOCKCOMMENT, .EOL] := by decide +kernel

/-- a classifier that tells the two end markers apart -/
def ncBad (t : Grol.Token.Tok) : NumClass := if t.type = .EOL then .int else .na

/-- the hypothesis `NcModeBlind` cannot be dropped: with `ncBad` the streams of the EMPTY input are not `asLine`-related -/
theorem nc_hypothesis_needed : ¬ NcModeBlind ncBad ∧
    (tokStream ncBad #[] true).eof ≠ (asLine (tokStream ncBad #[] false)).eof := by decide +kernel

end Grol.C15
