import GrolProofs.MacroExpand
/-
C13 — macro expansion is exact syntactic substitution.

Theorems about the model `Grol.Macro` (lean/Grol/Eval/Macro.lean), for a macro whose body is one
`quote(T)`, a call with as many arguments as parameters, and a template whose `unquote` arguments
are parameter names:

1. `expand_is_subst`     expand (m(args)) = subst T (params ↦ expand args)   (arguments first: bottom-up)
2. `expansion_is_pure`   one REPL input hands the evaluator the session state it found: expansion is a
                         function of (macro store, program) only — in the model by construction
3. `expand_*`            expansion commutes with every constructor that is not a macro call
                         (call sites are independent: the expansion is the homomorphic image)
4. `step_store`, `define_noDefs`   the macro store after an input is what DefineMacros left; an input
                         without definitions leaves it unchanged
5. `expand_noCalls`      a program without macro calls is returned as it is

Not expressible in a pure model (and so covered by the correspondence suite only): that the Go
rewriter copies instead of mutating shared nodes.
-/
namespace Grol.Macro.C13
open Grol.E Grol.Macro

def expandList (lim : Limits) (store : Store) (l : List Node) : X (List Node) := modifyList (expandCb lim store) l

/-! ### 1. a call of a simple macro is the substituted template -/

/-- the callback of ExpandMacros on a call of a simple macro with expanded arguments -/
theorem expandCb_simple (lim : Limits) (store : Store) (name : String) (m : MacroDef) (T : Node) (as' : List Node)
    (hname : name ≠ "info" ∧ name ≠ "self")
    (hm : lookupDef store name = some m)
    (hbody : m.body = .stmts [.builtin "QUOTE" [T]])
    (hlen : as'.length = m.params.length)
    (hpo : paramOnly (extendMacroEnv m.params as' []) T = true) :
    expandCb lim store (.call (.ident name) as') = .ok (subst (extendMacroEnv m.params as' []) T) := by
  have hmc : isMacroCall store (.ident name) = some m := by
    have : (name == "info" || name == "self") = false := by simp [hname.1, hname.2]
    simp only [isMacroCall, this, hm]
    rfl
  simp only [expandCb, hmc]
  have : (as'.length != m.params.length) = false := by simp [hlen]
  simp only [this, hbody, evalBody, evalBodyStatements, evalUnquoteCalls,
    modify_unquote lim store _ T hpo, ok_bind, pure_eq_ok]
  rfl

theorem expand_is_subst (lim : Limits) (store : Store) (name : String) (m : MacroDef) (T : Node)
    (args args' : List Node)
    (hname : name ≠ "info" ∧ name ≠ "self")
    (hm : lookupDef store name = some m)
    (hbody : m.body = .stmts [.builtin "QUOTE" [T]])
    (hlen : args.length = m.params.length)
    (hargs : expandList lim store args = .ok args')
    (hpo : paramOnly (extendMacroEnv m.params args' []) T = true) :
    expandMacros lim store (.call (.ident name) args)
      = .ok (subst (extendMacroEnv m.params args' []) T) := by
  have hlen' : args'.length = m.params.length := by
    rw [modifyList_length _ _ _ hargs]; exact hlen
  rw [expandMacros, modify, show modifyList (expandCb lim store) args = .ok args' from hargs]
  exact expandCb_simple lim store name m T args' hname hm hbody hlen' hpo

/-- the hypothesis of `expand_is_subst` in terms of names: with matching arity every parameter is bound -/
theorem params_are_bound (ps : List String) (as : List Node) (p : String) (hl : as.length = ps.length) (hp : p ∈ ps) :
    (lookupArg (extendMacroEnv ps as []) p).isSome = true :=
  bound_extend p ps as [] hl (.inl hp)

/-- `subst` on the pattern itself -/
theorem subst_unquote (env : MEnv) (p : String) (a : Node) (h : lookupArg env p = some a) :
    subst env (.builtin "UNQUOTE" [.ident p]) = a := by
  simp [subst, substList, substUnquote, h]

/-! ### 2. expansion does not touch the evaluator's state -/

/-- one REPL input in `evalOne`'s order on the evaluator state `g` and the macro store: DefineMacros,
ExpandMacros, then evaluation of the expanded program.  `none`: the input failed before evaluation. -/
def input (lim : Limits) (g : St) (store : Store) (program : Node) : St × Store × Option (Except String InputObs) :=
  match step lim store program with
  | (store', _, .ok expanded) =>
    let (g', r) := runInput g expanded
    (g', store', some r)
  | (store', _, .error _) => (g, store', none)

/-- the state evaluation starts from is the session state `g` itself, and what is evaluated depends on
(macro store, program) only -/
theorem expansion_is_pure (lim : Limits) (g : St) (store : Store) (program expanded : Node) (store' : Store) (d : X Node)
    (h : step lim store program = (store', d, .ok expanded)) :
    input lim g store program = ((runInput g expanded).1, store', some (runInput g expanded).2) := by
  simp only [input, h]

theorem expansion_failure_leaves_state (lim : Limits) (g : St) (store : Store) (program : Node) (store' : Store) (d : X Node) (e : Stop)
    (h : step lim store program = (store', d, .error e)) :
    (input lim g store program).1 = g := by
  simp only [input, h]

/-! ### 3. call sites are independent: expansion commutes with every other constructor -/

/-! `modify` hands the rebuilt node to the callback, and `expandCb` returns a node that is not a call as
it is: each of these equations holds by unfolding the two definitions. -/

theorem expand_inf (lim : Limits) (store : Store) (op : String) (l r : Node) :
    expandMacros lim store (.inf op l r) = (do
      let l' ← expandMacros lim store l
      let r' ← expandMacros lim store r
      pure (.inf op l' r')) := rfl

theorem expand_pre (lim : Limits) (store : Store) (op : String) (r : Node) :
    expandMacros lim store (.pre op r) = (do pure (.pre op (← expandMacros lim store r))) := rfl

theorem expand_idx (lim : Limits) (store : Store) (tok : String) (l i : Node) :
    expandMacros lim store (.idx tok l i) = (do
      let l' ← expandMacros lim store l
      let i' ← expandMacros lim store i
      pure (.idx tok l' i')) := rfl

theorem expand_for (lim : Limits) (store : Store) (c b : Node) :
    expandMacros lim store (.forE c b) = (do
      let c' ← expandMacros lim store c
      let b' ← expandMacros lim store b
      pure (.forE c' b')) := rfl

theorem expand_if (lim : Limits) (store : Store) (c a b : Node) (hb : b ≠ .none) :
    expandMacros lim store (.ifE c a b) = (do
      let c' ← expandMacros lim store c
      let a' ← expandMacros lim store a
      let b' ← expandMacros lim store b
      pure (.ifE c' a' b')) :=
  modify_ifE _ c a b hb

theorem expand_if_noElse (lim : Limits) (store : Store) (c a : Node) :
    expandMacros lim store (.ifE c a .none) = (do
      let c' ← expandMacros lim store c
      let a' ← expandMacros lim store a
      pure (.ifE c' a' .none)) := rfl

theorem expand_ret (lim : Limits) (store : Store) (v : Node) (hv : v ≠ .none) :
    expandMacros lim store (.ret v) = (do pure (.ret (← expandMacros lim store v))) :=
  modify_ret _ v hv

theorem expand_fn (lim : Limits) (store : Store) (name : Option String) (ps : List String) (variadic lambda : Bool)
    (key : String) (body : Node) :
    expandMacros lim store (.fn name ps variadic lambda key body)
      = (do pure (.fn name ps variadic lambda key (← expandMacros lim store body))) := rfl

theorem expand_macroLit (lim : Limits) (store : Store) (ps : List String) (body : Node) :
    expandMacros lim store (.macroLit ps body) = (do pure (.macroLit ps (← expandMacros lim store body))) := rfl

theorem expand_stmts (lim : Limits) (store : Store) (l : List Node) :
    expandMacros lim store (.stmts l) = (do pure (.stmts (← expandList lim store l))) := rfl

theorem expand_arr (lim : Limits) (store : Store) (l : List Node) :
    expandMacros lim store (.arr l) = (do pure (.arr (← expandList lim store l))) := rfl

theorem expand_builtin (lim : Limits) (store : Store) (name : String) (l : List Node) :
    expandMacros lim store (.builtin name l) = (do pure (.builtin name (← expandList lim store l))) := rfl

theorem expand_mapLit (lim : Limits) (store : Store) (ks vs : List Node) :
    expandMacros lim store (.mapLit ks vs) = (do
      let ks' ← expandList lim store ks
      let vs' ← expandList lim store vs
      pure (.mapLit ks' vs')) := rfl

theorem expandList_cons (lim : Limits) (store : Store) (x : Node) (xs : List Node) :
    expandList lim store (x :: xs) = (do
      let x' ← expandMacros lim store x
      let xs' ← expandList lim store xs
      pure (x' :: xs')) := rfl

theorem expandList_nil (lim : Limits) (store : Store) : expandList lim store [] = .ok [] := rfl

/-- a call: callee and arguments are expanded on their own, then the rebuilt call is looked at once -/
theorem expand_call (lim : Limits) (store : Store) (fn : Node) (args : List Node) :
    expandMacros lim store (.call fn args) = (do
      let fn' ← expandMacros lim store fn
      let args' ← expandList lim store args
      expandCb lim store (.call fn' args')) := rfl

/-- … and it is kept when the (expanded) callee does not name a macro -/
theorem expand_call_notMacro (lim : Limits) (store : Store) (fn fn' : Node) (args args' : List Node)
    (hf : expandMacros lim store fn = .ok fn') (ha : expandList lim store args = .ok args')
    (h : isMacroCall store fn' = none) :
    expandMacros lim store (.call fn args) = .ok (.call fn' args') := by
  rw [expand_call, hf, ha]
  simp only [ok_bind]
  exact expandCb_notMacro _ _ _ _ h

/-! ### 4. the macro store -/

/-- expansion cannot change the store: after an input it is what `DefineMacros` left -/
theorem step_store (lim : Limits) (store : Store) (program : Node) :
    (step lim store program).1 = (defineMacros store program).1 := by
  unfold step
  split
  · rename_i h; rw [h]
  · rename_i h; rw [h]; split <;> rfl

theorem defineLoop_noDefs (store : Store) : ∀ (l kept : List Node), (l.all fun s => !isMacroDefinition s) = true →
    defineLoop store l kept = (store, .ok (kept.reverse ++ l))
  | [], kept, _ => by simp [defineLoop]
  | s :: rest, kept, h => by
    simp only [List.all_cons, Bool.and_eq_true, Bool.not_eq_true'] at h
    simp only [defineLoop, h.1]
    rw [defineLoop_noDefs store rest (s :: kept) h.2]
    simp

/-- an input without definitions (any number of uses) leaves the store — every definition — as it is,
and the program too -/
theorem define_noDefs (store : Store) (l : List Node) (h : (l.all fun s => !isMacroDefinition s) = true) :
    defineMacros store (.stmts l) = (store, .ok (.stmts l)) := by
  simp [defineMacros, defineLoop_noDefs store l [] h]

theorem uses_leave_definitions (lim : Limits) (store : Store) (l : List Node)
    (h : (l.all fun s => !isMacroDefinition s) = true) : (step lim store (.stmts l)).1 = store := by
  rw [step_store, define_noDefs store l h]

/-! ### 5. nothing to expand -/

theorem expand_noCalls (lim : Limits) (store : Store) (p : Node) (h : noCalls store p = true) :
    expandMacros lim store p = .ok p :=
  modify_noCalls lim store p h

/-! ### non-vacuity: the witnesses seen by hand -/

/-- `m = macro(x) { quote(unquote(x) * 2) }` -/
def mTimes2 : MacroDef :=
  { params := ["x"], body := .stmts [.builtin "QUOTE" [.inf "ASTERISK" (.builtin "UNQUOTE" [.ident "x"]) (.int 2)]] }
/-- `d = macro(x) { quote(unquote(x) + unquote(x)) }` -/
def mTwice : MacroDef :=
  { params := ["x"], body := .stmts [.builtin "QUOTE" [.inf "PLUS" (.builtin "UNQUOTE" [.ident "x"]) (.builtin "UNQUOTE" [.ident "x"])]] }
/-- `k = macro(y) { quote(m(unquote(y))) }`: a macro call written inside another macro's template -/
def mNested : MacroDef :=
  { params := ["y"], body := .stmts [.builtin "QUOTE" [.call (.ident "m") [.builtin "UNQUOTE" [.ident "y"]]]] }

def store0 : Store := [("m", mTimes2), ("d", mTwice), ("k", mNested)]

def onePlusTwo : Node := .inf "PLUS" (.int 1) (.int 2)
def printA : Node := .builtin "PRINT" [.str [97]]

/-- `m(1+2)` is the TREE `(1+2)*2` (value 6), not the text `1+2*2` -/
example : expandMacros {} store0 (.call (.ident "m") [onePlusTwo]) = .ok (.inf "ASTERISK" onePlusTwo (.int 2)) := by
  rfl

/-- `d(print("a"))`: the argument is duplicated, not evaluated (evaluation prints `aa`) -/
example : expandMacros {} store0 (.call (.ident "d") [printA]) = .ok (.inf "PLUS" printA printA) := by
  rfl

/-- `m(m(2))`: arguments first -/
example : expandMacros {} store0 (.call (.ident "m") [.call (.ident "m") [.int 2]])
    = .ok (.inf "ASTERISK" (.inf "ASTERISK" (.int 2) (.int 2)) (.int 2)) := by
  rfl

/-- one bottom-up pass: the `m(…)` that `k`'s template brings in is NOT expanded (outside the property's quantifier) -/
example : expandMacros {} store0 (.call (.ident "k") [.int 3]) = .ok (.call (.ident "m") [.int 3]) := by
  rfl

/-- the hypotheses of `expand_is_subst` are met by `m(1+2)` -/
example : paramOnly (extendMacroEnv mTimes2.params [onePlusTwo] []) (.inf "ASTERISK" (.builtin "UNQUOTE" [.ident "x"]) (.int 2)) = true := by
  simp [paramOnly, paramOnlyList, okUnquote, substList, subst, extendMacroEnv, setArg, lookupArg, mTimes2]

example : subst (extendMacroEnv mTimes2.params [onePlusTwo] []) (.inf "ASTERISK" (.builtin "UNQUOTE" [.ident "x"]) (.int 2))
    = .inf "ASTERISK" onePlusTwo (.int 2) := by
  simp [subst, substList, substUnquote, extendMacroEnv, setArg, lookupArg, mTimes2]

/-- a program without macro calls -/
example : noCalls store0 (.stmts [.call (.ident "f") [onePlusTwo], .inf "ASSIGN" (.ident "m") (.int 1)]) = true := by
  simp [noCalls, noCallsList, isMacroCall, lookupDef, store0, onePlusTwo]

end Grol.Macro.C13
