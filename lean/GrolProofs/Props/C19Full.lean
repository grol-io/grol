import GrolProofs.ConstInvMain
import GrolProofs.Props.C19
/-
C19 for the whole evaluator model: constants cannot be changed by any path.

Main theorem `C19.kept`: for every fuel, every syntax tree `prog` that contains no `del(…)` and
no named function whose name is a constant name (`okNode`), and every state satisfying the
invariant `Grol.K.Inv` (the C07 invariant, plus: a stored reference carries the name it is stored
under; every function value anywhere in the state is `okNode` too), every constant name `N` bound
DIRECTLY (to a value, not through a reference entry) in a frame `e` before the evaluation is still
bound directly in frame `e` after it, to a value `v'` with `Eqv v v'`, where `Eqv` is the
equivalence generated by the one rewrite the checking setter accepts (`Acc a b`: `cmp a b = 0` and
`sameTypes a b`).  The closure is needed only because the model's floats are opaque to the kernel
(no transitivity of `Cmp` on floats can be proved): `C19.kept_acc` gives `Acc v v'` itself under the
comparison laws as named hypotheses, and `C19.kept_rigid` gives `v' = v` outright for integer,
boolean, nil and string constants.

`okNode` is `DelFree` of Props/C19.lean (as a Bool function; a macro literal, which the evaluator
model declines, counts as a leaf) plus "no `func NAME(…)` with an all-upper-case NAME": inside the
frame of such a function `Get(NAME)` answers the function itself whatever the store holds, so admitting
them needs one more invariant ("the binding of NAME visible from that frame is that function"), which
is not proved.

`C19.Statement` of Props/C19.lean is the full-strength statement (every `del`-free session and program);
`C19.statement_partial` below proves it for `okNode` sessions and programs.  `C19.kept` is the "bound
directly" form, `C19.read_kept` the read form (what `Environment.Get` returns for the name afterwards),
`C19.session_kept` / `C19.session_read` the session forms.
-/
namespace Grol.C19
open Grol.E Grol.K

theorem post (fuel : Nat) (prog : Node) (st : St) (hI : Grol.K.Inv st) (hp : okNode prog = true) :
    G.Post polK (eval fuel prog) st (G.OkO polK) :=
  (G.spec_all fuel).eval prog st (K.inv_iff.1 hI) (okNode_polK prog ▸ hp)

theorem kept (fuel : Nat) (prog : Node) (st : St) (hI : Grol.K.Inv st) (hp : okNode prog = true) :
    ∀ (e : Nat) (N : String) (v : Obj), isConstant N = true → frameVal st e N = some v →
      ∃ v', frameVal (stateAfter (eval fuel prog) st) e N = some v' ∧ Eqv v v' :=
  (post fuel prog st hI hp).after.2.1.2

/-- the strengthened invariant is preserved (and no Go panic: C07 again, for `okNode` programs) -/
theorem inv_preserved (fuel : Nat) (prog : Node) (st : St) (hI : Grol.K.Inv st) (hp : okNode prog = true) :
    Grol.K.Inv (stateAfter (eval fuel prog) st) :=
  K.inv_iff.2 (post fuel prog st hI hp).after.1

/-- a function result is `okNode` again (so it may be stored and called later) -/
theorem result_ok (fuel : Nat) (prog : Node) (st : St) (hI : Grol.K.Inv st) (hp : okNode prog = true) (v : Obj)
    (h : outcome (eval fuel prog) st = .ok v) :
    Grol.K.okObj (stateAfter (eval fuel prog) st).frames.size v = true := by
  rw [okObj_polK]; exact (post fuel prog st hI hp).after.2.2.2 v h

theorem inv_init (cfg : Cfg) : Grol.K.Inv (initState cfg) := K.inv_iff.2 (G.inv_init cfg)

theorem runInput_spec (st : St) (prog : Node) (hI : Grol.K.Inv st) (hp : okNode prog = true) :
    Grol.K.Inv (runInput st prog).1 ∧ Kept st (runInput st prog).1 :=
  (G.inv_runInput st prog (K.inv_iff.1 hI) (okNode_polK prog ▸ hp)).imp_left K.inv_iff.2

/-- a session of `okNode` inputs keeps every constant that is bound at any point -/
theorem session_kept (progs : List Node) (st : St) (hI : Grol.K.Inv st) (hp : ∀ p ∈ progs, okNode p = true) :
    Grol.K.Inv (progs.foldl (fun s p => (runInput s p).1) st) ∧
    Kept st (progs.foldl (fun s p => (runInput s p).1) st) :=
  (G.inv_session progs st (K.inv_iff.1 hI) (fun p h => okNode_polK p ▸ hp p h)).imp_left K.inv_iff.2

/-- `Environment.Get` on a directly bound constant returns the bound value (if it returns: the
model stops on the name `info` only, which is not a constant name) -/
theorem read_bound {st : St} (hI : Grol.K.Inv st) {e : Nat} {N : String} {v : Obj} (hc : isConstant N = true)
    (hv : frameVal st e N = some v) : ∀ r, outcome (envGet e N) st = .ok r → r = some v := by
  intro r0 hr0
  have he : e < st.frames.size := by
    unfold frameVal at hv
    cases hfe : st.frames[e]? with
    | none => rw [hfe] at hv; cases hv
    | some f => exact lt_of_frame hfe
  obtain ⟨_, _, hfv, hcq⟩ := (G.post_envGet (K.inv_iff.1 hI) he N).after.2.2.2 r0 hr0
  obtain ⟨hq1, hq2⟩ := hcq hc
  rw [frameVal_storeOf, ← hfv e N] at hv
  obtain ⟨hl, _⟩ := lookupVal_some hv
  cases r0 with
  | none => have := (hq2 rfl).1; rw [this] at hl; cases hl
  | some w => have := (hq1 w rfl).1; rw [this] at hl; cases hl; rfl

/-- READ FORM: after any `okNode` evaluation a constant that was bound directly in frame `e` still
resolves, from frame `e`, to an equivalent value -/
theorem read_kept (fuel : Nat) (prog : Node) (st : St) (hI : Grol.K.Inv st) (hp : okNode prog = true)
    (e : Nat) (N : String) (v : Obj) (hc : isConstant N = true) (hv : frameVal st e N = some v) :
    ∃ v', Eqv v v' ∧ ∀ r, outcome (envGet e N) (stateAfter (eval fuel prog) st) = .ok r → r = some v' := by
  obtain ⟨v', hv', he⟩ := kept fuel prog st hI hp e N v hc hv
  exact ⟨v', he, read_bound (inv_preserved fuel prog st hI hp) hc hv'⟩

/-- SESSION FORM: once a constant is bound at top level (in the root frame), after every later
sequence of `okNode` inputs the name resolves from the root to an equivalent value -/
theorem session_read (progs : List Node) (st : St) (hI : Grol.K.Inv st) (hp : ∀ p ∈ progs, okNode p = true)
    (N : String) (v : Obj) (hc : isConstant N = true) (hv : frameVal st st.root N = some v) :
    ∃ v', Eqv v v' ∧
      ∀ r, outcome (envGet st.root N) (progs.foldl (fun s p => (runInput s p).1) st) = .ok r → r = some v' := by
  obtain ⟨h1, h2⟩ := session_kept progs st hI hp
  obtain ⟨v', hv', he⟩ := h2 st.root N v hc hv
  exact ⟨v', he, read_bound h1 hc hv'⟩

/-- with the laws of the comparison (reflexive, symmetric, transitive on the values at hand — true of
IEEE comparison and proved for the kernel-level value model of C12; not provable for the model's
opaque `Float`) the closure collapses -/
theorem eqv_acc (hrefl : ∀ a, Grol.K.Acc a a) (hsymm : ∀ a b, Grol.K.Acc a b → Grol.K.Acc b a)
    (htrans : ∀ a b c, Grol.K.Acc a b → Grol.K.Acc b c → Grol.K.Acc a c) {a b : Obj} (h : Eqv a b) : Grol.K.Acc a b := by
  induction h with
  | refl a => exact hrefl a
  | step h => exact h
  | symm _ ih => exact hsymm _ _ ih
  | trans _ _ ih1 ih2 => exact htrans _ _ _ ih1 ih2

/-- MAIN THEOREM in the form "`cmp v v' = 0` and same types at every level", under the comparison laws -/
theorem kept_acc (hrefl : ∀ a, Grol.K.Acc a a) (hsymm : ∀ a b, Grol.K.Acc a b → Grol.K.Acc b a)
    (htrans : ∀ a b c, Grol.K.Acc a b → Grol.K.Acc b c → Grol.K.Acc a c)
    (fuel : Nat) (prog : Node) (st : St) (hI : Grol.K.Inv st) (hp : okNode prog = true)
    (e : Nat) (N : String) (v : Obj) (hc : isConstant N = true) (hv : frameVal st e N = some v) :
    ∃ v', frameVal (stateAfter (eval fuel prog) st) e N = some v' ∧ cmp v v' = .ok 0 ∧ sameTypes v v' = true := by
  obtain ⟨v', hv', he⟩ := kept fuel prog st hI hp e N v hc hv
  exact ⟨v', hv', eqv_acc hrefl hsymm htrans he⟩

/-- values for which `Acc` is plain equality, without any law: integers, booleans, nil, strings -/
def Rigid : Obj → Prop
  | .int _ | .bool _ | .null | .str _ => True
  | _ => False

theorem cmpInt64_eq {a b : Int64} (h : cmpInt64 a b = 0) : a = b := by
  unfold cmpInt64 at h
  split at h
  · cases h
  · split at h
    · cases h
    · next h1 h2 =>
      have h1' : ¬ a.toInt < b.toInt := by rwa [← Int64.lt_iff_toInt_lt]
      have h2' : ¬ b.toInt < a.toInt := by rwa [← Int64.lt_iff_toInt_lt]
      exact Int64.toInt_inj.1 (by omega)

theorem cmpBytes_eq : ∀ {a b : List UInt8}, cmpBytes a b = 0 → a = b
  | [], [], _ => rfl
  | [], _ :: _, h => by simp [cmpBytes] at h
  | _ :: _, [], h => by simp [cmpBytes] at h
  | x :: xs, y :: ys, h => by
    unfold cmpBytes at h
    split at h
    · cases h
    · split at h
      · cases h
      · next h1 h2 =>
        have : x = y := by
          have h1' : ¬ x.toNat < y.toNat := by rwa [← UInt8.lt_iff_toNat_lt]
          have h2' : ¬ y.toNat < x.toNat := by rwa [← UInt8.lt_iff_toNat_lt]
          exact UInt8.toNat_inj.1 (by omega)
        rw [this, cmpBytes_eq h]

/-- only a value of the same constructor has the same types as an integer, a boolean, nil or a string
(`sameTypes` computes to `false` on the other pairs) -/
theorem rigid_of_sameTypes {a b : Obj} (ht : sameTypes a b = true) (hr : Rigid b) : Rigid a := by
  cases b with
  | int y => cases a with | int x => trivial | _ => cases ht
  | bool y => cases a with | bool x => trivial | _ => cases ht
  | null => cases a with | null => trivial | _ => cases ht
  | str y => cases a with | str x => trivial | _ => cases ht
  | _ => exact hr.elim

theorem acc_rigid_left {a b : Obj} (h : Grol.K.Acc a b) (hr : Rigid a) : a = b := by
  obtain ⟨hc, ht⟩ := h
  cases a with
  | int x =>
    cases b with
    | int y => rw [cmpInt64_eq (Except.ok.inj hc)]
    | _ => cases ht
  | bool x =>
    cases b with
    | bool y =>
      have hc : (if x == y then 0 else if x then 1 else -1 : Int) = 0 := Except.ok.inj hc
      cases x <;> cases y <;> simp_all
    | _ => cases ht
  | null =>
    cases b with
    | null => rfl
    | _ => cases ht
  | str x =>
    cases b with
    | str y => rw [cmpBytes_eq (Except.ok.inj hc)]
    | _ => cases ht
  | _ => exact hr.elim

theorem acc_rigid {a b : Obj} (h : Grol.K.Acc a b) (hr : Rigid a ∨ Rigid b) : a = b :=
  acc_rigid_left h (hr.elim id (rigid_of_sameTypes h.2))

theorem eqv_rigid {a b : Obj} (h : Eqv a b) : (Rigid a → a = b) ∧ (Rigid b → a = b) := by
  induction h with
  | refl a => exact ⟨fun _ => rfl, fun _ => rfl⟩
  | step h => exact ⟨fun hr => acc_rigid h (.inl hr), fun hr => acc_rigid h (.inr hr)⟩
  | symm _ ih => exact ⟨fun hr => (ih.2 hr).symm, fun hr => (ih.1 hr).symm⟩
  | trans _ _ ih1 ih2 =>
    refine ⟨fun hr => ?_, fun hr => ?_⟩
    · have h1 := ih1.1 hr
      subst h1
      exact ih2.1 hr
    · have h2 := ih2.2 hr
      subst h2
      exact ih1.2 hr

/-- MAIN THEOREM for integer, boolean, nil and string constants: the very same value, no hypothesis -/
theorem kept_rigid (fuel : Nat) (prog : Node) (st : St) (hI : Grol.K.Inv st) (hp : okNode prog = true)
    (e : Nat) (N : String) (v : Obj) (hc : isConstant N = true) (hv : frameVal st e N = some v) (hr : Rigid v) :
    frameVal (stateAfter (eval fuel prog) st) e N = some v := by
  obtain ⟨v', hv', he⟩ := kept fuel prog st hI hp e N v hc hv
  rw [hv', ← (eqv_rigid he).1 hr]

/-- `Grol.E.C19.Statement` with `okNode` in place of `DelFree` (no `del`, no `func NAME` with a constant NAME) -/
theorem statement_partial (cfg : Cfg) (progs : List Node) (fuel : Nat) (prog : Node)
    (hps : ∀ p ∈ progs, okNode p = true) (hp : okNode prog = true)
    (e : Nat) (N : String) (v : Obj) (hc : isConstant N = true)
    (hv : frameVal (sessionState cfg progs) e N = some v) :
    ∃ v', frameVal (Grol.E.run (eval fuel prog) (sessionState cfg progs)).2 e N = some v' ∧ Eqv v v' :=
  kept fuel prog _ (session_kept progs _ (inv_init cfg) hps).1 hp e N v hc hv

/-- `FOO = 4; func f(FOO) { FOO++ }; for FOO = 3 { FOO[0] = 1 }` is a program the theorem covers -/
example : okNode (.stmts [.inf "ASSIGN" (.ident "FOO") (.int 4),
    .fn (some "f") ["FOO"] false false "k" (.stmts [.post "INCR" "FOO"]),
    .forE (.inf "ASSIGN" (.ident "FOO") (.int 3)) (.stmts [.inf "ASSIGN" (.idx "LBRACKET" (.ident "FOO") (.int 0)) (.int 1)])]) = true := by
  decide

/-- the initial state satisfies the invariant and binds the constant `PI` at top level -/
example : Grol.K.Inv (initState {}) ∧ isConstant "PI" = true ∧
    frameVal (initState {}) (initState {}).root "PI" = some (.float 0x400921FB54442D18) :=
  ⟨inv_init {}, by decide, rfl⟩

end Grol.C19
