import GrolProofs.Props.C04Det
/-
C04 (B) — "a cache HIT returns what a cache-OFF evaluation from the current state returns": the invariant, the
parts of the argument that are proved, and the exact statements that are still missing.

`C04.EntryValid st c` (semantic form): whatever call the entry `c` can serve in `st` — a function with the
entry's key, arguments that pass the key test — there is a completed QUIET cache-off evaluation of that call (up
to the renaming of `C04.quiet_call_deterministic`) from a state that `C04.rerunState st` simulates (`StRq`: same
bindings except on a dirty set of untrusted, untracked ones), and it produced the entry's result and output.
`C04.rerunState st` is `st` with the memoization off, an empty cache, one fresh writer and a fresh step/depth
budget (a hit shortens the recursion: the current depth and step counters are no part of the statement).

PROVED here
  (a) `C04.cacheValid_nil`, `C04.cacheValid_init`: the empty cache is valid.
  (c0) `C04.cacheValid_congr`: validity only depends on `rerunState`: it survives every step that changes only
      the cache (dropping entries: `functionChanged`, the constant-deletion path, `Cache.Set`'s replacement of an
      equal key), the output writers, the step and depth counters.
  (d) `C04.hit_is_evaluation_of_valid`: in a state whose cache is valid, a hit for `f(args)` returns the value and
      the output of a quiet cache-off evaluation of `f(args)` from `rerunState st` (from `C04.cacheGet_hit_mem` and
      `C04.quiet_call_deterministic`).

NOT proved — stated at the end as `def … : Prop`, with what a proof needs
  (b) `C04.CacheOnOffSim`: the entry `finishCall` stores is valid.  The storing run ran with the cache ON: its nested
      hits evaluated nothing, so it has to be reproduced by a cache-OFF call — a NON-lockstep simulation.
  (c) `C04.StepsPreserveValid`: every evaluator step keeps the cache valid.  Validity is relative to the CALLER
      (`StRq.cur`) and has to survive the change of the current frame at a call; the finding
      `recursive-call-hit-ignores-callers-local-function` (a same-function call is parented to its caller's frame,
      so `f(0)` called from `f(1)` sees the caller's local `g`, the cached `f(0)` saw the root `g`) refuted it;
      since the repair (grol e958f06, 9bbdbcc: such a call skips the cache) no counterexample is known.
-/
namespace Grol.E
open Grol.R

/-- where "evaluating the call now, without the cache" happens: memoization off, empty cache, one fresh writer,
fresh step and depth budget -/
def C04.rerunState (st : St) : St := { C04.cacheOff st with outs := [[]], steps := 0, depth := 0 }

/-- what a run that started with the single fresh writer has written -/
def C04.written (st : St) : Grol.Wire.Bytes :=
  match st.outs with
  | o :: _ => chunksBytes o
  | [] => []

/-- the entry `c` is valid in `st`: every call it can serve there has a quiet cache-off evaluation (from a state
`rerunState st` simulates) that returned the entry's result and output.  `K` = the function values of the session:
the entry only records the KEY (the printed text) of the function; that equal keys mean equal code among the
functions of `K` is what (b) needs (C02's injectivity of the printed form, with its recorded classes), not (d). -/
def C04.EntryValid (K : FuncVal → Prop) (st : St) (c : CacheEntry) : Prop :=
  ∀ (f : FuncVal) (args : List Obj), K f → f.key = c.key → keyEqList c.args args = true →
    ∃ (P : Qp) (g : FuncVal) (bargs : List Obj) (fuel : Nat) (t t' : St) (w : Obj),
      StRq P (C04.rerunState st) t ∧ cleanL P bargs ∧ renFn P.σ g = f ∧ renL P.σ bargs = args ∧
      runM (applyFunction fuel (.func g) bargs) t = (.ok w, t') ∧ missOf t' t.cur = missOf t t.cur ∧
      c.result = ren P.σ w ∧ c.output = C04.written t'

def C04.CacheValid (K : FuncVal → Prop) (st : St) : Prop := ∀ c ∈ st.cache, C04.EntryValid K st c

theorem C04.cacheValid_nil (K : FuncVal → Prop) (st : St) (h : st.cache = []) : C04.CacheValid K st := by
  intro c hc; rw [h] at hc; cases hc

theorem C04.cacheValid_init (K : FuncVal → Prop) (cfg : Cfg) : C04.CacheValid K (initState cfg) :=
  C04.cacheValid_nil K _ rfl

/-- validity depends on the state only through `rerunState` (frames, current and root frame, configuration but the
switch, extension names): dropping entries, writing output, counting steps and depth keep the cache valid -/
theorem C04.cacheValid_congr {K : FuncVal → Prop} {st st' : St} (h : C04.rerunState st' = C04.rerunState st)
    (hc : ∀ c ∈ st'.cache, c ∈ st.cache) (hv : C04.CacheValid K st) : C04.CacheValid K st' := by
  intro c hcm f args hK hk he
  have := hv c (hc c hcm) f args hK hk he
  rw [← h] at this
  exact this

/-- emptying the cache (`functionChanged`, the constant-deletion path of `del`) -/
theorem C04.cacheValid_clear (K : FuncVal → Prop) (st : St) : C04.CacheValid K { st with cache := [] } :=
  C04.cacheValid_nil K _ rfl

theorem C04.cacheValid_outs {K : FuncVal → Prop} (st : St) (o : List (List Grol.Wire.Bytes)) (hv : C04.CacheValid K st) :
    C04.CacheValid K { st with outs := o } :=
  C04.cacheValid_congr (st := st) rfl (fun _ h => h) hv

theorem C04.cacheValid_budget {K : FuncVal → Prop} (st : St) (n d : Nat) (hv : C04.CacheValid K st) :
    C04.CacheValid K { st with steps := n, depth := d } :=
  C04.cacheValid_congr (st := st) rfl (fun _ h => h) hv

/-- `Cache.Set` replaces the entries with an equal key: the others stay valid (the new one is (b)) -/
theorem C04.cacheValid_filter {K : FuncVal → Prop} (st : St) (p : CacheEntry → Bool) (hv : C04.CacheValid K st) :
    C04.CacheValid K { st with cache := st.cache.filter p } :=
  C04.cacheValid_congr (st := st) rfl (fun _ h => (List.mem_filter.1 h).1) hv

/-- a hit comes from an entry of the cache that passes the key test -/
theorem C04.cacheGet_hit_mem (key : String) (args : List Obj) (st : St) (v : Obj) (out : Grol.Wire.Bytes)
    (h : outcome (cacheGet key args) st = .ok (some (v, out))) :
    ∃ c ∈ st.cache, c.key = key ∧ keyEqList c.args args = true ∧ c.result = v ∧ c.output = out := by
  rw [outcome_eq_run, run_cacheGet] at h
  have h : cacheLookup st key args = some (v, out) := Except.ok.inj h
  unfold cacheLookup at h
  split at h
  · cases h
  split at h
  · cases h
  split at h
  · cases h
  split at h
  · next c hf =>
    cases h
    have hp := List.find?_some hf
    simp only [Bool.and_eq_true, beq_iff_eq] at hp
    exact ⟨c, List.mem_of_find?_eq_some hf, hp.1, hp.2, rfl, rfl⟩
  · cases h

/-- (d) In a state whose cache is valid, a hit for `f(args)` returns the value and the output of a cache-off
evaluation of `f(args)` from the current state (`rerunState st`: cache off and empty, fresh writer and budget), and
that evaluation does not move the caller's miss counter. -/
theorem C04.hit_is_evaluation_of_valid (K : FuncVal → Prop) (st : St) (hv : C04.CacheValid K st) (f : FuncVal)
    (hK : K f) (args : List Obj) (v : Obj) (out : Grol.Wire.Bytes) (hhit : outcome (cacheGet f.key args) st = .ok (some (v, out))) :
    ∃ fuel s', runM (applyFunction fuel (.func f) args) (C04.rerunState st) = (.ok v, s') ∧ C04.written s' = out ∧
      missOf s' (C04.rerunState st).cur = missOf (C04.rerunState st) (C04.rerunState st).cur := by
  obtain ⟨c, hcm, hk, he, hr, ho⟩ := C04.cacheGet_hit_mem f.key args st v out hhit
  obtain ⟨P, g, bargs, fuel, t, t', w, hR, hcl, hg, hargs, hrun, hq, hres, hout⟩ := hv c hcm f args hK hk.symm he
  obtain ⟨s', h1, _, _, h4, h5⟩ := C04.quiet_call_deterministic P fuel g bargs (C04.rerunState st) t hR hcl w t' hrun hq
  rw [hg, hargs] at h1
  refine ⟨fuel, s', ?_, ?_, h5⟩
  · rw [← hr, hres]; exact h1
  · rw [← ho, hout]; unfold C04.written; rw [h4]


/-! ### non-vacuity: a valid non-empty cache, and the hit theorem applied to it -/

mutual
theorem cleanD_false : ∀ v : Obj, cleanD (fun _ _ => False) v
  | .array els => cleanLD_false els
  | .map _ kvs => cleanPD_false kvs
  | .ret v _ => cleanD_false v
  | .ref _ _ => fun h => h
  | .null => trivial
  | .bool _ => trivial
  | .int _ => trivial
  | .float _ => trivial
  | .str _ => trivial
  | .func _ => trivial
  | .ext _ => trivial
  | .error _ => trivial
  | .quote _ => trivial
theorem cleanLD_false : ∀ l : List Obj, cleanLD (fun _ _ => False) l
  | [] => trivial
  | x :: xs => ⟨cleanD_false x, cleanLD_false xs⟩
theorem cleanPD_false : ∀ l : List (Obj × Obj), cleanPD (fun _ _ => False) l
  | [] => trivial
  | (k, v) :: xs => ⟨cleanD_false k, cleanD_false v, cleanPD_false xs⟩
end

theorem C04.agree_refl (t : St) (hoff : t.cfg.cacheOn = false) (hpos : 0 < t.frames.size) (hdec : RefDec t) :
    C04.AgreeExcept (fun _ _ => False) t t :=
  ⟨rfl, hoff, rfl, rfl, rfl, rfl, rfl, rfl, rfl, hpos, fun _ ft h => ⟨ft, h, rfl, rfl, rfl, rfl, rfl, fun _ _ => rfl⟩,
    fun _ _ h => h.elim, fun _ _ h => h.elim, fun _ _ _ v _ _ _ => cleanD_false v, hdec⟩

/-- the state after `func fib(n){…}; x = 5; fib(6)` with the cache on: one entry, `fib(6) ↦ 8` -/
def hitState : St := { detState 5 with cfg := { cacheOn := true }, cache := [⟨fibKey, [.int 6], .int 8, []⟩] }

theorem keyEqList_int6 (args : List Obj) (h : keyEqList [.int 6] args = true) : args = [.int 6] := by
  cases args with
  | nil => simp [keyEqList] at h
  | cons a rest =>
    cases rest with
    | cons b r => simp [keyEqList] at h
    | nil =>
      cases a <;> simp [keyEqList, keyEq] at h
      subst h; rfl

/-- its cache is valid (for the functions `K` = `fib`) … -/
theorem hitState_valid : C04.CacheValid (fun f => f = fibVal) hitState := by
  intro c hc f args hK _ he
  have hcv : c = ⟨fibKey, [.int 6], .int 8, []⟩ := by simpa [hitState] using hc
  subst hcv
  subst hK
  have hargs := keyEqList_int6 args he
  subst hargs
  obtain ⟨t', hr, hq, ho⟩ := fib6_run
  have hw : C04.written t' = [] := by unfold C04.written; rw [ho]; rfl
  have hd : (C04.agreeP (fun _ _ => False) (detState 5) (detState 5)).σ.d = 0 := rfl
  exact ⟨C04.agreeP (fun _ _ => False) (detState 5) (detState 5), fibVal, [.int 6], 100, detState 5, t', .int 8,
    C04.agree_stRq (C04.agree_refl (detState 5) rfl (by decide) det_agree.dec), ⟨trivial, trivial⟩, renFn_id hd _,
    renL_id hd _, hr, hq, rfl, hw.symm⟩

/-- … so the hit `fib(6)` is what the cache-off evaluation returns -/
example : ∃ fuel s', runM (applyFunction fuel (.func fibVal) [.int 6]) (C04.rerunState hitState) = (.ok (.int 8), s') ∧
    C04.written s' = [] :=
  have hhit : outcome (cacheGet fibVal.key [.int 6]) hitState = .ok (some (.int 8, [])) := rfl
  let ⟨fuel, s', h1, h2, _⟩ := C04.hit_is_evaluation_of_valid _ hitState hitState_valid fibVal rfl [.int 6] (.int 8) [] hhit
  ⟨fuel, s', h1, h2⟩

/-- (b) NOT proved.  A quiet cache-ON call from a state with a valid cache is reproduced by a cache-off call from
`rerunState`: same value, same output.  With it the entry `finishCall` stores satisfies `EntryValid` (take the
cache-off run as the witness, `P` the identity with an empty dirty set).  Proof needed: induction on the nesting
of calls, a nested hit being replaced by the evaluation `hit_is_evaluation_of_valid` provides — a non-lockstep
simulation with a general renaming of frame indices. -/
def C04.CacheOnOffSim (K : FuncVal → Prop) : Prop :=
  ∀ (st : St) (fuel : Nat) (f : FuncVal) (args : List Obj) (v : Obj) (st' : St),
    C04.CacheValid K st → K f → st.cfg.cacheOn = true →
    runM (applyFunction fuel (.func f) args) { st with outs := [[]] } = (.ok v, st') →
    missOf st' st.cur = missOf st st.cur →
    ∃ fuel' s', runM (applyFunction fuel' (.func f) args) (C04.rerunState st) = (.ok v, s') ∧
      C04.written s' = C04.written st' ∧
      missOf s' (C04.rerunState st).cur = missOf (C04.rerunState st) (C04.rerunState st).cur

/-- (c) NOT proved: every evaluation keeps the cache valid.  Beyond `cacheValid_congr` this needs (1) (b) for the
stores, (2) a state relation restricted to the frames reachable from the callee, so that a write to an untrusted
binding can enlarge the dirty set although dead frames still hold the references `makeRef` stored in them (`StRq`'s
`clean` — no value of ANY frame refers to a dirty binding — does not allow it), (3) for the change of the current
frame at a call, that a same-function call, which is parented to its caller's frame, skips the cache when that frame
hides a top level function (the repair of `recursive-call-hit-ignores-callers-local-function`, which refuted the
statement before it). -/
def C04.StepsPreserveValid (K : FuncVal → Prop) : Prop :=
  ∀ (fuel : Nat) (node : Node) (st : St) (r : Except Stop Obj) (st' : St),
    C04.CacheValid K st → runM (eval fuel node) st = (r, st') → C04.CacheValid K st'

/-- what (b) needs of `K`: among the functions of the session equal keys mean equal code (the entry records only the key) -/
def C04.KeyFaithful (K : FuncVal → Prop) : Prop :=
  ∀ f g, K f → K g → f.key = g.key → f.params = g.params ∧ f.variadic = g.variadic ∧ f.body = g.body ∧ f.name = g.name

end Grol.E
