import GrolProofs.TrieWF
/-
C20 — the completion index behaves as a set of words.

Statements about the model `Grol.Trie` (tied to /repo/trie/trie.go and repl/completion.go by
the `trie` correspondence suite).  Quantifiers: every insertion sequence `ws` (any words, any
order, duplicates and the empty word included), every query `w`/`p`.
-/
namespace Grol.Trie
open Grol.TrieSuite (bytesLt)

/-- membership holds exactly for the inserted non-empty words -/
theorem C20.contains_iff (ws : List (List UInt8)) (w : List UInt8) :
    contains (build ws) w = true ↔ (w ∈ ws ∧ w ≠ []) := by
  unfold build empty
  rw [contains_foldl_insert]
  cases w <;> simp [contains]

/-- a prefix query returns exactly the inserted non-empty words that start with the prefix,
each once and in byte order (strictly increasing), and the reported length is that of their
longest common prefix -/
theorem C20.prefixAll_spec (ws : List (List UInt8)) (p : List UInt8) :
    (∀ x, x ∈ (prefixAll (build ws) p).2 ↔ (x ∈ ws ∧ x ≠ [] ∧ p <+: x))
    ∧ (prefixAll (build ws) p).2.Pairwise (fun a b => bytesLt a b = true)
    ∧ ((prefixAll (build ws) p).2 ≠ [] → IsLCPLen (prefixAll (build ws) p).1 (prefixAll (build ws) p).2) := by
  have hs := allBytes_spec (pfx (build ws) p) p (wf_pfx _ _ (wf_build ws))
  refine ⟨fun x => ?_, hs.sorted, hs.lcp⟩
  unfold prefixAll
  rw [hs.mem]
  constructor
  · rintro ⟨w, rfl, hw⟩
    rw [← pfx_append] at hw
    have := (C20.contains_iff ws (p ++ w)).1 hw
    exact ⟨this.1, this.2, List.prefix_append p w⟩
  · rintro ⟨h1, h2, ⟨w, rfl⟩⟩
    refine ⟨w, rfl, ?_⟩
    rw [← pfx_append]
    exact (C20.contains_iff ws (p ++ w)).2 ⟨h1, h2⟩

/-- tab completion only ever extends what the user typed before the cursor to a prefix of something
inserted, puts the cursor right after it and keeps what was after the cursor: the new line is
`c ++ line.drop pos` with `line.take pos <+: c`, `c` a prefix of an inserted word and the new cursor `c.length` -/
theorem C20.complete_sound (ws : List (List UInt8)) (line s : List UInt8) (pos n : Nat)
    (h : complete (build ws) line pos = some (s, n)) :
    ∃ c, s = c ++ line.drop pos ∧ n = c.length ∧ line.take pos <+: c ∧ ∃ w ∈ ws, c <+: w := by
  generalize htyped : line.take pos = typed at h
  have hs := allBytes_spec (pfx (build ws) typed) typed (wf_pfx _ _ (wf_build ws))
  have hp := C20.prefixAll_spec ws typed
  unfold complete at h
  rw [htyped] at h
  unfold prefixAll at h hp
  generalize hr : allBytes (pfx (build ws) typed) typed = r at h hs hp
  obtain ⟨l, cs⟩ := r
  cases cs with
  | nil => simp at h
  | cons c rest =>
    simp at h
    obtain ⟨rfl, rfl⟩ := h
    have hc : c ∈ c :: rest := by simp
    obtain ⟨hcws, _, ⟨w, rfl⟩⟩ := (hp.1 c).1 hc
    have hnn : (pfx (build ws) typed).isNil = false := by
      cases hn : (pfx (build ws) typed).isNil
      · rfl
      · have : allBytes (pfx (build ws) typed) typed = (0, []) := by
          cases ht : pfx (build ws) typed <;> simp_all [T.isNil, allBytes]
        rw [this] at hr; cases hr
    have hge : typed.length ≤ l := hs.ge hnn
    have hle : l ≤ (typed ++ w).length := ((hs.lcp (by simp)).1 _ hc _ hc).1
    refine ⟨(typed ++ w).take l, rfl, ?_, ?_, typed ++ w, hcws, List.take_prefix _ _⟩
    · rw [List.length_take]; omega
    · rw [List.take_append, List.take_of_length_le hge]
      exact List.prefix_append _ _

/-- with the cursor at the end of the line (the usual case): the new line extends the whole line -/
theorem C20.complete_sound_at_end (ws : List (List UInt8)) (typed s : List UInt8) (n : Nat)
    (h : complete (build ws) typed typed.length = some (s, n)) :
    typed <+: s ∧ n = s.length ∧ ∃ w ∈ ws, s <+: w := by
  obtain ⟨c, rfl, rfl, hpre, hw⟩ := C20.complete_sound ws typed _ _ _ h
  simp at hpre ⊢
  exact ⟨hpre, hw⟩

/-! ### non-vacuity: a concrete history where a word ends on an inner node, and a mixed one -/

example : contains (build [[97, 98], [97]]) [97] = true := by decide +kernel
example : (prefixAll (build [[97, 98], [97], [98]]) [97]) = (1, [[97], [97, 98]]) := by decide +kernel
example : complete (build [[112, 114, 40], [112, 114, 105]]) [112] 1 = some ([112, 114], 2) := by decide +kernel
-- the cursor inside the line: `p|xy` becomes `pr|xy`
example : complete (build [[112, 114, 40], [112, 114, 105]]) [112, 120, 121] 1 = some ([112, 114, 120, 121], 2) := by decide +kernel

end Grol.Trie
