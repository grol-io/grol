import GrolProofs.MapOps
import GrolProofs.CmpModel
/-
C11 — maps behave as finite maps in key order, whatever their history.

Statements about the model `Grol.Map` of object.go's `SmallMap`/`BigMap` (tied to /repo by the
`mapops` correspondence suite).  Quantifiers: every key type `κ` with a three-way comparison `c`
that is a total preorder (`∀ a, PW c a`; C12 proves this for `Cmp` on data values, see
`C11.grol`), every value type, every `maxSmall` (the code has `MaxSmallMap = 4`; nothing needs
`maxSmall ≥ 1`, so the theorems also cover 0), every history `ops` of literal construction, `m[k]=v`,
`del`, `+`, `rest` and range slicing.
-/
namespace Grol.Map
open Grol.Ord

variable {κ ν : Type}

section
variable (c : κ → κ → Int) (hc : ∀ a, PW c a) (maxSmall : Nat)
include hc

/-- For every history: the variable is NULL exactly when the reference says so; otherwise the
representation invariant holds (strictly sorted keys — no two keys `c`-equal — and a small map has at
most `maxSmall` pairs) and the stored pairs *are* the reference finite map. -/
theorem C11.run_refines (ops : List (Op κ ν)) :
    Rel c maxSmall (run c maxSmall ops) (Spec.run c ops) :=
  run_spec_from c hc maxSmall ops none none trivial

/-- Every observation is a function of the reference map: length, lookup of any key, first pair,
and the sequence of pairs (which is what iteration, the printed form and `==` read). -/
theorem C11.observations (ops : List (Op κ ν)) (m : M κ ν) (hm : run c maxSmall ops = some m) :
    ∃ l, Spec.run c ops = some l ∧ Sorted c l ∧ m.kvs = l ∧ m.len = l.length ∧ first m = l.head?
      ∧ (∀ k, get c m k = Spec.lookup c k l) ∧ (m.isBig = false → l.length ≤ maxSmall) := by
  have h := C11.run_refines c hc maxSmall ops
  rw [hm] at h
  cases hl : Spec.run c ops with
  | none => rw [hl] at h; exact h.elim
  | some l =>
    rw [hl] at h
    obtain ⟨hI, e⟩ := h
    refine ⟨l, rfl, e ▸ hI.1, e, by rw [M.len, e], by rw [first, e], fun k => ?_, fun hb => ?_⟩
    · rw [get_eq c hc m hI.1 k, e]
    · have := hI.2 hb; rw [M.len, e] at this; exact this

/-- Hence two histories with the same reference result are indistinguishable, whatever their
insertion orders and whether the maps are, were or became small or big. -/
theorem C11.history_independent (ops1 ops2 : List (Op κ ν)) (h : Spec.run c ops1 = Spec.run c ops2) :
    (run c maxSmall ops1).map M.kvs = (run c maxSmall ops2).map M.kvs
    ∧ (∀ k, (run c maxSmall ops1).map (fun m => get c m k) = (run c maxSmall ops2).map (fun m => get c m k)) := by
  have h1 := C11.run_refines c hc maxSmall ops1
  have h2 := C11.run_refines c hc maxSmall ops2
  rw [h] at h1
  cases hr1 : run c maxSmall ops1 <;> cases hr2 : run c maxSmall ops2 <;> cases hl : Spec.run c ops2 <;>
    rw [hr1, hl] at h1 <;> rw [hr2, hl] at h2 <;> simp only [Rel] at h1 h2 <;> try contradiction
  · exact ⟨rfl, fun _ => rfl⟩
  · rename_i m1 m2 l
    refine ⟨by simp [h1.2, h2.2], fun k => ?_⟩
    simp only [Option.map]
    rw [get_eq c hc m1 h1.1.1 k, get_eq c hc m2 h2.1.1 k, h1.2, h2.2]

/-- finite-map laws of the two representations: lookup after `Set` and after `Delete` -/
theorem C11.get_set (m : M κ ν) (hI : Inv c maxSmall m) (k k' : κ) (v : ν) :
    get c (set c maxSmall m k v) k' = if c k k' = 0 then some v else get c m k' := by
  obtain ⟨e, hI'⟩ := set_spec c hc maxSmall m hI k v
  rw [get_eq c hc _ hI'.1, e, lookup_insert c hc k v k' m.kvs hI.1, get_eq c hc m hI.1]

theorem C11.get_delete (m : M κ ν) (hI : Inv c maxSmall m) (k k' : κ) :
    get c (delete c m k).1 k' = if c k k' = 0 then none else get c m k' := by
  obtain ⟨e, hI', _⟩ := delete_spec c hc maxSmall m hI k
  rw [get_eq c hc _ hI'.1, e, lookup_erase c hc k k' m.kvs hI.1, get_eq c hc m hI.1]

/-- insertion order of two different keys is irrelevant -/
theorem C11.set_comm (m : M κ ν) (hI : Inv c maxSmall m) (k1 k2 : κ) (v1 v2 : ν) (hne : c k1 k2 ≠ 0) :
    (set c maxSmall (set c maxSmall m k2 v2) k1 v1).kvs = (set c maxSmall (set c maxSmall m k1 v1) k2 v2).kvs := by
  obtain ⟨e2, hI2⟩ := set_spec c hc maxSmall m hI k2 v2
  obtain ⟨e1, hI1⟩ := set_spec c hc maxSmall m hI k1 v1
  rw [(set_spec c hc maxSmall _ hI2 k1 v1).1, (set_spec c hc maxSmall _ hI1 k2 v2).1, e1, e2]
  exact insert_comm c hc k1 k2 v1 v2 m.kvs hne

end

/-- the instance the driver runs: keys and values are grol objects, the comparison is `Cmp` on data
values (`cmpD`, a total preorder by C12), `MaxSmallMap = 4` -/
theorem C11.grol (ops : List (Op Obj Obj)) :
    Rel Obj.cmpD 4 (run Obj.cmpD 4 ops) (Spec.run Obj.cmpD ops) :=
  C11.run_refines Obj.cmpD Obj.cmpD_PW 4 ops

/-! ### non-vacuity: histories that cross the small/big threshold in both directions -/

open Grol.Obj in
example : (run cmpD 4 [.lit [(int 3, nil), (float ⟨0x3ff0000000000000⟩, nil), (int 1, bool true), (str [97], nil), (nil, nil)],
                       .set (arr []) nil]).map (fun m => (m.isBig, m.len)) = some (true, 5) := by decide +kernel

open Grol.Obj in
example : (run cmpD 4 [.lit [(int 3, nil), (int 1, nil)], .set (int 2) nil, .set (str []) nil, .set nil nil, .del (int 2), .rest]).map
    (fun m => (m.isBig, m.len)) = some (false, 3) := by decide +kernel

open Grol.Obj in
example : (run cmpD 4 [.lit [(int 3, nil), (int 1, nil)], .set (int 2) nil, .set (str []) nil, .set nil nil]).map
    (fun m => (m.isBig, m.len)) = some (true, 5) := by decide +kernel

end Grol.Map
