import GrolProofs.EvalOps
/-
C01 — evaluation agrees with the language's reference semantics.

The evaluator model `Grol.E` run with `cacheOn := false` (no memoization, no registers, value
semantics for containers) IS the reference evaluator: the implementation is compared with it on
every generated program by the `eval` correspondence suite, in the default configuration and in
the three others.  The theorems here pin down the documented operator semantics of that
reference (64-bit wrap-around, truncating division, shifts, error cases); agreement for whole
programs rests on the correspondence run, not on a theorem.
-/
namespace Grol.E

/-- `+ - *` are 64-bit wrap-around operations -/
theorem C01.int_arith (l r : Int64) (st : St) :
    outcome (evalIntegerInfix "PLUS" l r) st = .ok (.int (l + r))
    ∧ outcome (evalIntegerInfix "MINUS" l r) st = .ok (.int (l - r))
    ∧ outcome (evalIntegerInfix "ASTERISK" l r) st = .ok (.int (l * r)) :=
  ⟨rfl, rfl, rfl⟩

theorem C01.int_arith_wraps (l r : Int64) :
    (l + r).toBitVec = l.toBitVec + r.toBitVec ∧ (l * r).toBitVec = l.toBitVec * r.toBitVec :=
  ⟨Int64.toBitVec_add, Int64.toBitVec_mul⟩

/-- division and modulo: error on a zero divisor, otherwise Go's truncating `/` and `%` -/
theorem C01.int_div (l r : Int64) (st : St) :
    outcome (evalIntegerInfix "SLASH" l r) st = .ok (if r = 0 then err "division by zero" else .int (l / r))
    ∧ outcome (evalIntegerInfix "PERCENT" l r) st = .ok (if r = 0 then err "division by zero" else .int (l % r)) := by
  constructor <;> (unfold evalIntegerInfix; simp only []; split <;> simp_all [outcome_pure])

theorem C01.int_div_truncates (l r : Int64) :
    (l / r).toBitVec = l.toBitVec.sdiv r.toBitVec ∧ (l % r).toBitVec = l.toBitVec.srem r.toBitVec :=
  ⟨Int64.toBitVec_div, Int64.toBitVec_mod⟩

/-- shifts: negative count is an error, a count of 64 or more gives 0 -/
theorem C01.shifts (l r : Int64) (st : St) :
    outcome (evalIntegerInfix "LEFTSHIFT" l r) st =
      .ok (if r < 0 then err "negative shift count" else if r ≥ 64 then .int 0 else .int (l <<< r)) := by
  unfold evalIntegerInfix
  simp only []
  split
  · rfl
  · split <;> rfl

theorem C01.prefix_ops (v : Int64) :
    evalPrefixOp "MINUS" (.int v) = .int (-v) ∧ evalPrefixOp "BITNOT" (.int v) = .int (~~~v)
    ∧ evalPrefixOp "PLUS" (.int v) = .int v ∧ evalPrefixOp "BANG" (.bool true) = .bool false
    ∧ evalPrefixOp "BANG" .null = .bool true :=
  ⟨rfl, rfl, rfl, rfl, rfl⟩

/-- negative indices count from the end; out of range is nil -/
theorem C01.array_index (els : List Obj) (i : Nat) (h : i < els.length) (hl : els.length < 2 ^ 62) :
    arrayIndex els (Int64.ofNat i) = els.getD i .null := by
  unfold arrayIndex
  have h1 : ¬ (Int64.ofNat i < 0) := by
    rw [Int64.lt_iff_toInt_lt]
    have : (Int64.ofNat i).toInt = i := by
      rw [Int64.toInt_ofNat_of_lt] ; omega
    simp [this]
  have h2 : (Int64.ofNat i).toInt = i := by
    rw [Int64.toInt_ofNat_of_lt]; omega
  simp only [h1, if_false, h2]
  have : ¬ ((i : Int) < 0 ∨ (i : Int) > (els.length : Int) - 1) := by omega
  simp [this]

end Grol.E
