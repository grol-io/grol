import GrolProofs.Props.C15
import GrolProofs.ParseGood
import GrolProofs.ParseTerm
/-
C15 part 1, what the two-run comparison of `Props/C15Sim.lean` is stated in: the stream `asLine s` that the lexer
yields in line mode where it yields `s` in file mode (every EOF-typed token retyped EOL; that the lexer model does
so is `tokStream_line_eq_asLine` in `Props/C15Lexed.lean`), the corresponding parser state `lineSt st`, and the
predicate `Bad` under which the two runs need not agree: the file-mode run recorded an error, asked for
continuation, or made the end marker its CURRENT token (`K + 2 ≤ idx`, `K` = position of the first end marker,
`EndAt`).  `Bad` is never undone: together with the stream invariant it is kept by the three state writers, hence by
every parse function (`AllPres`), so a run that ends clean was never `Bad`.
-/
namespace Grol.Parser
open Grol.Generated

def lineTok (t : Tok) : Tok := if t.type = .EOF then { t with type := .EOL } else t

def asLine (s : TokStream) : TokStream := { toks := s.toks.map lineTok, eof := lineTok s.eof, inputLen := s.inputLen }

def lineSt (st : PState) : PState := { st with prev := st.prev.map lineTok, cur := lineTok st.cur, peek := lineTok st.peek }

theorem get_asLine (s : TokStream) (i : Nat) : (asLine s).get i = lineTok (s.get i) := by
  unfold TokStream.get asLine
  simp only [List.getElem?_map]
  cases s.toks[i]? <;> rfl

theorem lineTok_self {t : Tok} (h : t.type ≠ .EOF) : lineTok t = t := by unfold lineTok; rw [if_neg h]
@[simp] theorem lineTok_lit (t : Tok) : (lineTok t).lit = t.lit := by unfold lineTok; split <;> rfl
@[simp] theorem lineTok_hadWs (t : Tok) : (lineTok t).hadWs = t.hadWs := by unfold lineTok; split <;> rfl
@[simp] theorem lineTok_hadNl (t : Tok) : (lineTok t).hadNl = t.hadNl := by unfold lineTok; split <;> rfl
@[simp] theorem lineTok_posAfter (t : Tok) : (lineTok t).posAfter = t.posAfter := by unfold lineTok; split <;> rfl
@[simp] theorem lineTok_lastNl (t : Tok) : (lineTok t).lastNl = t.lastNl := by unfold lineTok; split <;> rfl
@[simp] theorem lineTok_num (t : Tok) : (lineTok t).num = t.num := by unfold lineTok; split <;> rfl

theorem lineTok_type (t : Tok) (X : TokType) (h1 : X ≠ .EOF) (h2 : X ≠ .EOL) : ((lineTok t).type = X) = (t.type = X) := by
  unfold lineTok
  split
  · rename_i h; simp only [h]; exact propext ⟨fun e => absurd e.symm h2, fun e => absurd e.symm h1⟩
  · rfl
theorem lineTok_beq (t : Tok) (X : TokType) (h1 : X ≠ .EOF) (h2 : X ≠ .EOL) : ((lineTok t).type == X) = (t.type == X) := by
  have := lineTok_type t X h1 h2
  cases h : (t.type == X) <;> simp_all
theorem lineTok_bne (t : Tok) (X : TokType) (h1 : X ≠ .EOF) (h2 : X ≠ .EOL) : ((lineTok t).type != X) = (t.type != X) := by
  simp only [bne, lineTok_beq t X h1 h2]

theorem lineTok_type_cases (t : Tok) : (t.type = .EOF ∧ (lineTok t).type = .EOL) ∨ (t.type ≠ .EOF ∧ lineTok t = t) := by
  by_cases h : t.type = .EOF
  · left; exact ⟨h, by unfold lineTok; rw [if_pos h]⟩
  · right; exact ⟨h, lineTok_self h⟩

@[simp] theorem lineTok_prefix (t : Tok) : lookup prefixRegs (lineTok t).type = lookup prefixRegs t.type := by
  rcases lineTok_type_cases t with ⟨h, h'⟩ | ⟨_, h⟩
  · rw [h, h', prefix_EOF, prefix_EOL]
  · rw [h]
@[simp] theorem lineTok_infix (t : Tok) : lookup infixRegs (lineTok t).type = lookup infixRegs t.type := by
  rcases lineTok_type_cases t with ⟨h, h'⟩ | ⟨_, h⟩
  · rw [h, h', infix_EOF, infix_EOL]
  · rw [h]
@[simp] theorem lineTok_postfix (t : Tok) : lookup postfixRegs (lineTok t).type = lookup postfixRegs t.type := by
  rcases lineTok_type_cases t with ⟨h, h'⟩ | ⟨_, h⟩
  · rw [h, h', postfix_EOF, postfix_EOL]
  · rw [h]
@[simp] theorem lineTok_prec (t : Tok) : precOf (lineTok t).type = precOf t.type := by
  rcases lineTok_type_cases t with ⟨h, h'⟩ | ⟨_, h⟩
  · rw [h, h', precOf_EOF, precOf_EOL]
  · rw [h]

@[simp] theorem lineSt_cur (st : PState) : (lineSt st).cur = lineTok st.cur := rfl
@[simp] theorem lineSt_peek (st : PState) : (lineSt st).peek = lineTok st.peek := rfl
@[simp] theorem lineSt_prev (st : PState) : (lineSt st).prev = st.prev.map lineTok := rfl
@[simp] theorem lineSt_cont (st : PState) : (lineSt st).cont = st.cont := rfl
@[simp] theorem lineSt_errors (st : PState) : (lineSt st).errors = st.errors := rfl
@[simp] theorem lineSt_nextNewline (st : PState) : (lineSt st).nextNewline = st.nextNewline := rfl
@[simp] theorem lineSt_prevNewline (st : PState) : (lineSt st).prevNewline = st.prevNewline := rfl
@[simp] theorem lineSt_idx (st : PState) : (lineSt st).idx = st.idx := rfl

@[simp] theorem advance_lineSt (s : TokStream) (st : PState) : advance (asLine s) (lineSt st) = lineSt (advance s st) := by
  unfold advance lineSt
  simp only [get_asLine, lineTok_posAfter, lineTok_hadNl, Option.map_some]

theorem init_asLine (s : TokStream) : init (asLine s) = lineSt (init s) := by
  unfold init lineSt
  simp only [get_asLine, lineTok_posAfter, lineTok_hadNl, Option.map_none]

/-- No hypothesis on the input bytes: every file-mode stream of the lexer model has this shape, an embedded NUL
included, since the end marker is sticky (`C15.endAtB_tokStream` in `Props/C15Lexed.lean`). -/
structure EndAt (s : TokStream) (K : Nat) : Prop where
  before : ∀ i, i < K → (s.get i).type ≠ .EOF
  after : ∀ i, K ≤ i → (s.get i).type = .EOF

/-- `K + 2 ≤ idx`: the current token, `s.get (idx - 2)` by `Inv.cur`, is an end marker -/
def Bad (K : Nat) (st : PState) : Prop := D st ∨ K + 2 ≤ st.idx

def BadI (s : TokStream) (K : Nat) (st : PState) : Prop := Inv s st ∧ Bad K st

variable {s : TokStream} {K : Nat}

theorem BadI.adv {st : PState} (h : BadI s K st) : BadI s K (advance s st) :=
  ⟨inv_adv h.1, h.2.elim (fun d => Or.inl d) (fun k => Or.inr (by show K + 2 ≤ st.idx + 1; omega))⟩
theorem BadI.setCont {st : PState} (h : Inv s st) : BadI s K { st with cont := true } :=
  ⟨inv_setCont h, Or.inl (Or.inr rfl)⟩
theorem BadI.pushErr {st : PState} (e : ErrKind) (h : Inv s st) : BadI s K { st with errors := e :: st.errors } :=
  ⟨inv_pushErr e h, Or.inl (Or.inl (List.cons_ne_nil _ _))⟩

theorem cur_real (hE : EndAt s K) {st : PState} (hi : Inv s st) (hb : ¬ Bad K st) : st.cur.type ≠ .EOF := by
  rw [hi.cur]
  apply hE.before
  have := hi.idx
  have : ¬ (K + 2 ≤ st.idx) := fun h => hb (Or.inr h)
  omega

def PB (s : TokStream) (K : Nat) : α → PState → Prop := fun _ st' => BadI s K st'

def PresAt (s : TokStream) (K : Nat) (m : PM α) (st : PState) : Prop := BadI s K st → wp m (PB s K) st

theorem presClosed : ParserClosed s (PresAt s K) :=
  .ofInvariant (fun _ => BadI.adv) (fun _ h => BadI.setCont h.1) (fun e _ h => BadI.pushErr e h.1)

theorem peekError_bad (t : TokType) (st : PState) (hi : Inv s st) : wp (peekError s t) (PB s K) st := by
  unfold peekError
  refine wp.errorLine ?_
  split
  · trivial
  · exact BadI.pushErr _ hi

theorem peekError_pres (t : TokType) (st : PState) (hb : BadI s K st) : wp (peekError s t) (PB s K) st :=
  peekError_bad t st hb.1

theorem parseBoolean_pres (st : PState) (hb : BadI s K st) : wp parseBoolean (PB s K) st :=
  presClosed.parseBoolean st hb
theorem parseStringLiteral_pres (st : PState) (hb : BadI s K st) : wp parseStringLiteral (PB s K) st :=
  presClosed.parseStringLiteral st hb
theorem parseControlExpression_pres (st : PState) (hb : BadI s K st) : wp parseControlExpression (PB s K) st :=
  presClosed.parseControlExpression st hb
theorem parameter_pres (st : PState) (hb : BadI s K st) : wp (parameter s) (PB s K) st :=
  presClosed.parameter st hb

structure AllPres (s : TokStream) (K : Nat) (n : Nat) : Prop where
  pE : ∀ P st, BadI s K st → wp (parseExpression s n P) (PB s K) st
  pLoop : ∀ P left st, BadI s K st → wp (parseExpressionLoop s n P left) (PB s K) st
  pPre : ∀ fn st, BadI s K st → wp (prefixDispatch s n fn) (PB s K) st
  pInf : ∀ fn left st, BadI s K st → wp (infixDispatch s n fn left) (PB s K) st
  pStmt : ∀ st, BadI s K st → wp (parseStatement s n) (PB s K) st
  pRet : ∀ st, BadI s K st → wp (parseReturnStatement s n) (PB s K) st
  pArr : ∀ st, BadI s K st → wp (parseArrayLiteral s n) (PB s K) st
  pGrp : ∀ st, BadI s K st → wp (parseGroupedExpression s n) (PB s K) st
  pPfx : ∀ st, BadI s K st → wp (parsePrefixExpression s n) (PB s K) st
  pLam : ∀ left more st, BadI s K st → wp (parseLambdaMulti s n left more) (PB s K) st
  pInfix : ∀ left st, BadI s K st → wp (parseInfixExpression s n left) (PB s K) st
  pFor : ∀ st, BadI s K st → wp (parseForExpression s n) (PB s K) st
  pIf : ∀ st, BadI s K st → wp (parseIfExpression s n) (PB s K) st
  pBlk : ∀ st, BadI s K st → wp (parseBlockStatement s n) (PB s K) st
  pBlkLoop : ∀ acc st, BadI s K st → wp (parseBlockLoop s n acc) (PB s K) st
  pFn : ∀ st, BadI s K st → wp (parseFunctionLiteral s n) (PB s K) st
  pBi : ∀ st, BadI s K st → wp (parseBuiltin s n) (PB s K) st
  pCall : ∀ f st, BadI s K st → wp (parseCallExpression s n f) (PB s K) st
  pList : ∀ e st, BadI s K st → wp (parseExpressionList s n e) (PB s K) st
  pListLoop : ∀ args st, BadI s K st → wp (parseExpressionListLoop s n args) (PB s K) st
  pIdx : ∀ left st, BadI s K st → wp (parseIndexExpression s n left) (PB s K) st
  pMap : ∀ st, BadI s K st → wp (parseMapLiteral s n) (PB s K) st
  pMapLoop : ∀ tok kvs st, BadI s K st → wp (parseMapLoop s n tok kvs) (PB s K) st
  pMac : ∀ st, BadI s K st → wp (parseMacroLiteral s n) (PB s K) st

theorem allPres : ∀ n, AllPres s K n := fun n =>
  have a := (presClosed (s := s) (K := K)).all n
  { pE := a.parseExpression
    pLoop := a.parseExpressionLoop
    pPre := presClosed.keeps_prefixDispatch n
    pInf := a.infixDispatch
    pStmt := a.parseStatement
    pRet := a.parseReturnStatement
    pArr := a.parseArrayLiteral
    pGrp := a.parseGroupedExpression
    pPfx := a.parsePrefixExpression
    pLam := a.parseLambdaMulti
    pInfix := a.parseInfixExpression
    pFor := a.parseForExpression
    pIf := a.parseIfExpression
    pBlk := a.parseBlockStatement
    pBlkLoop := a.parseBlockLoop
    pFn := a.parseFunctionLiteral
    pBi := a.parseBuiltin
    pCall := a.parseCallExpression
    pList := presClosed.keeps_parseExpressionList n
    pListLoop := a.parseExpressionListLoop
    pIdx := a.parseIndexExpression
    pMap := a.parseMapLiteral
    pMapLoop := a.parseMapLoop
    pMac := a.parseMacroLiteral }

end Grol.Parser
