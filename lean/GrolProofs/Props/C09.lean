import GrolProofs.MemoryLemmas
import Grol.Generated.LoopFacts
import Grol.BoundedSuite
/-
C09 — execution is bounded: the arithmetic of the allocation guard, and the depth counter.

Theorems about the models `Grol.Memory` (object/memory.go SizeOk / MustBeOk / MulLen and the size
computations of `*` on strings and arrays, `+` on arrays and maps, `:` ranges) and `Grol.Depth`
(eval_api.go Eval / Reset), tied to the Go code by the `memory` suite.  `free1`, `free2` (what
FreeMemory() returns before and after the forced GC) are universally quantified.

Wall-clock time, peak RSS and Go stack use are not part of these theorems (measured elsewhere).
-/
namespace Grol.Memory

/-- **C09 guard_sound, the guard itself**: a pass means at most 256 objects, or a non-negative budget
that the true (unbounded) byte size is below — the multiplication by ObjectSize cannot wrap. -/
theorem C09.sizeOk_sound (free : Int) (n : I64) (h : sizeOk free n = true) :
    n.toInt ≤ 256 ∨ (0 ≤ free ∧ n.toInt * 16 < free) := Grol.Memory.sizeOk_sound free n h

/-- without the overflow test (the code before the fix) that is false: 2^60 objects pass with 1 byte free -/
theorem C09.sizeOk_unchecked_unsound :
    ¬ ∀ (free : Int) (n : I64), sizeOkUnchecked free n = true → n.toInt ≤ 256 ∨ (0 ≤ free ∧ n.toInt * 16 < free) := by
  intro h
  have := h 1 (1152921504606846976#64) (by decide)
  revert this; decide

/-- and the wrapped product `len * count` (the request before the fix) asks the guard about 0 objects for
`[1,2,3,4] * (1<<62)`, which it grants whatever the budget -/
theorem C09.unchecked_product_passes (free : Int) :
    sizeOk free (repeatSizeUnchecked 4 (4611686018427387904#64)) = true := by
  have : repeatSizeUnchecked 4 (4611686018427387904#64) = 0#64 := by decide
  rw [this]; simp [sizeOk]

/-- **C09 guard_sound, `array * int`**: a result is produced only when the count is non-negative, the
result has exactly the true number `len * count` of elements, and that number fits the budget. -/
theorem C09.arrRepeat_sound (free1 free2 : Int) (len : Nat) (hlen : len < 2 ^ 63) (r : I64) (k : Nat)
    (h : arrRepeat free1 free2 len r = .ok k) :
    0 ≤ r.toInt ∧ (k : Int) = (len : Int) * r.toInt ∧ Fits free1 free2 ((len : Int) * r.toInt) := by
  unfold arrRepeat at h
  by_cases hr : r.toInt < 0
  · rw [if_pos hr] at h; cases h
  · rw [if_neg hr] at h
    cases hm : mulLen (BitVec.ofNat 64 len) r with
    | none => rw [hm] at h; cases h
    | some n =>
      rw [hm] at h
      simp only at h
      obtain ⟨_, _, _, hn, hnat⟩ := mulLen_spec _ _ _ hm
      rw [toInt_ofNat_of_lt len hlen] at hn hnat
      obtain ⟨hk, hfit⟩ := guard_ok _ _ _ _ _ h
      exact ⟨by omega, by rw [← hk, hnat], hn ▸ hfit⟩

/-- **`string * int`**: the result has exactly `len * count` bytes, and that many bytes, counted in
16-byte objects as the code does, fit the budget. -/
theorem C09.strRepeat_sound (free1 free2 : Int) (len : Nat) (hlen : len < 2 ^ 63) (r : I64) (k : Nat)
    (h : strRepeat free1 free2 len r = .ok k) :
    0 ≤ r.toInt ∧ (k : Int) = (len : Int) * r.toInt ∧ Fits free1 free2 ((len : Int) * r.toInt / 16) := by
  unfold strRepeat at h
  by_cases hr : r.toInt < 0
  · rw [if_pos hr] at h; cases h
  · rw [if_neg hr] at h
    cases hm : mulLen (BitVec.ofNat 64 len) r with
    | none => rw [hm] at h; cases h
    | some n =>
      rw [hm] at h
      simp only at h
      obtain ⟨_, _, hn0, hn, hnat⟩ := mulLen_spec _ _ _ hm
      rw [toInt_ofNat_of_lt len hlen] at hn hnat
      obtain ⟨hk, hfit⟩ := guard_ok _ _ _ _ _ h
      rw [toInt_sdiv16 n hn0, hn] at hfit
      exact ⟨by omega, by rw [← hk, hnat], hfit⟩

/-- **`array + array`** (lengths of existing arrays: below 2^62) -/
theorem C09.arrConcat_sound (free1 free2 : Int) (la lb : Nat) (ha : la < 2 ^ 62) (hb : lb < 2 ^ 62) (k : Nat)
    (h : arrConcat free1 free2 la lb = .ok k) :
    k = la + lb ∧ Fits free1 free2 ((la : Int) + lb) := by
  unfold arrConcat at h
  simp only at h
  rw [← BitVec.ofNat_add] at h
  obtain ⟨hk, hfit⟩ := guard_ok _ _ _ _ _ h
  rw [toInt_ofNat_of_lt (la + lb) (by omega)] at hfit
  rw [toNat_ofNat_of_lt (la + lb) (by omega)] at hk
  exact ⟨hk.symm, by simpa using hfit⟩

/-- **`string + string`** (lengths of existing strings: below 2^62): the result has exactly `la + lb` bytes and
that many bytes, counted in 16-byte objects, fit the budget -/
theorem C09.strConcat_sound (free1 free2 : Int) (la lb : Nat) (ha : la < 2 ^ 62) (hb : lb < 2 ^ 62) (k : Nat)
    (h : strConcat free1 free2 la lb = .ok k) :
    k = la + lb ∧ Fits free1 free2 (((la : Int) + lb) / 16) := by
  unfold strConcat at h
  simp only at h
  rw [← BitVec.ofNat_add] at h
  have hint : (BitVec.ofNat 64 (la + lb) : I64).toInt = ((la + lb : Nat) : Int) := toInt_ofNat_of_lt (la + lb) (by omega)
  obtain ⟨hk, hfit⟩ := guard_ok _ _ _ _ _ h
  rw [toInt_sdiv16 _ (by rw [hint]; omega), hint] at hfit
  rw [toNat_ofNat_of_lt (la + lb) (by omega)] at hk
  exact ⟨hk.symm, by simpa using hfit⟩

/-- **`map + map`**: room for `2 * (la + lb)` objects (key and value) is checked -/
theorem C09.mapAppend_sound (free1 free2 : Int) (la lb : Nat) (ha : la < 2 ^ 61) (hb : lb < 2 ^ 61) (k : Nat)
    (h : mapAppend free1 free2 la lb = .ok k) :
    k = la + lb ∧ Fits free1 free2 (2 * ((la : Int) + lb)) := by
  unfold mapAppend at h
  simp only at h
  have hdbl : (2#64 * BitVec.ofNat 64 (la + lb) : I64) = BitVec.ofNat 64 (2 * (la + lb)) := by
    apply BitVec.eq_of_toNat_eq; simp [BitVec.toNat_mul, BitVec.toNat_ofNat]
  rw [← BitVec.ofNat_add, hdbl] at h
  obtain ⟨hk, hfit⟩ := guard_ok _ _ _ _ _ h
  rw [toInt_ofNat_of_lt (2 * (la + lb)) (by omega)] at hfit
  rw [toNat_ofNat_of_lt (la + lb) (by omega)] at hk
  have e : ((2 * (la + lb) : Nat) : Int) = 2 * ((la : Int) + lb) := by norm_cast
  exact ⟨hk.symm, e ▸ hfit⟩

/-- **`left : right`**: the result has `right - left` elements (true difference; none when left ≥ right),
and the reserved capacity — never less than that — fits the budget. -/
theorem C09.range_sound (free1 free2 : Int) (l r : I64) (k : Nat) (h : range free1 free2 l r = .ok k) :
    (k : Int) = max 0 (r.toInt - l.toInt) ∧ ∃ cap : Int, (k : Int) ≤ cap ∧ Fits free1 free2 cap := by
  unfold range at h
  simp only at h
  by_cases hneg : (r - l).toInt < 0
  · rw [if_pos hneg] at h; cases h
  · rw [if_neg hneg] at h
    obtain ⟨h, hfit⟩ := guard_ok _ _ _ _ _ h
    obtain ⟨hlg, hlglt⟩ := toNat_of_nonneg (r - l) (by omega)
    have hsub : (r - l).toNat = (2 ^ 64 - l.toNat + r.toNat) % 2 ^ 64 := by simp [BitVec.toNat_sub]
    by_cases hlt : l.slt r = true
    · rw [if_pos hlt] at h
      rw [BitVec.slt_iff_toInt_lt] at hlt
      have hk : (k : Int) = r.toInt - l.toInt := by
        rw [← h]
        rcases toInt_cases l with hl | hl <;> rcases toInt_cases r with hr | hr <;>
          (have := l.isLt; have := r.isLt; omega)
      refine ⟨by rw [hk]; omega, (r - l).toInt, by rw [hlg, ← h]; omega, hfit⟩
    · rw [if_neg hlt] at h
      have hge : ¬ l.toInt < r.toInt := by rw [← BitVec.slt_iff_toInt_lt]; exact hlt
      refine ⟨by rw [← h]; omega, (r - l).toInt, by rw [← h]; omega, hfit⟩

/-! non-vacuity; the requests whose product wraps (`C09.unchecked_product_passes`) end in an error object or the guard -/
example : arrRepeat 1000000 1000000 4 (1000#64) = .ok 4000 := by decide
example : arrRepeat 1000000 1000000 4 (100000#64) = .guard := by decide
example : arrRepeat 1000000 1000000 4 (4611686018427387904#64) = .err := by decide      -- [1,2,3,4] * (1<<62)
example : strRepeat 1000000 1000000 4 (4611686018427387904#64) = .err := by decide      -- "abcd" * (1<<62)
example : range 1000000 1000000 (0#64) (1152921504606846976#64) = .guard := by decide     -- 0:(1<<60)
example : strConcat 1000000 1000000 3000 2000 = .ok 5000 := by decide
example : strConcat 200000000 200000000 134217728 134217728 = .guard := by decide          -- 128 MiB + 128 MiB with 200 MB free
example : range (-1) (-1) (9223372036854775807#64) (BitVec.ofInt 64 (-9223372036854775758)) = .ok 0 := by decide

end Grol.Memory

namespace Grol.Depth

/-- a call that returns normally leaves the counter where it was -/
theorem run_ok_balanced (m : Nat) (c : Calls) : ∀ (d : Nat) tr d', run m d c = (tr, .ok d') → d' = d := by
  induction c with
  | done => intro d tr d' h; simp [run] at h; exact h.2.symm
  | call inner next ih1 ih2 =>
    intro d tr d' h
    unfold run at h
    by_cases hd : d > m
    · rw [if_pos hd] at h; simp at h
    · rw [if_neg hd] at h
      rcases hi : run m (d + 1) inner with ⟨tr1, r1⟩
      rw [hi] at h
      cases r1 with
      | maxDepth x => simp at h
      | ok x =>
        have hx := ih1 (d + 1) tr1 x hi
        subst hx
        simp only at h
        rcases hn : run m (d + 1 - 1) next with ⟨tr2, r2⟩
        rw [hn] at h
        simp only [Prod.mk.injEq] at h
        obtain ⟨_, rfl⟩ := h
        have := ih2 (d + 1 - 1) tr2 d' hn
        omega

/-- **C09 depth invariant**: starting at or below MaxDepth+1, the counter never exceeds MaxDepth+1
(it is a natural number: never negative); a normal return restores it, and the guard fires exactly at
MaxDepth+1 — a recoverable panic, not a Go stack overflow. -/
theorem C09.depth_invariant (m : Nat) (c : Calls) : ∀ (d : Nat), d ≤ m + 1 →
    (∀ x ∈ (run m d c).1, x ≤ m + 1) ∧
    (match (run m d c).2 with | .ok d' => d' = d | .maxDepth d' => d' = m + 1) := by
  induction c with
  | done => intro d _; simp [run]
  | call inner next ih1 ih2 =>
    intro d hd
    unfold run
    by_cases hgt : d > m
    · rw [if_pos hgt]; simp; omega
    · rw [if_neg hgt]
      have h1 := ih1 (d + 1) (by omega)
      rcases hi : run m (d + 1) inner with ⟨tr1, r1⟩
      rw [hi] at h1
      cases r1 with
      | maxDepth x =>
        simp only at h1 ⊢
        refine ⟨?_, h1.2⟩
        intro y hy
        rw [List.mem_cons] at hy
        rcases hy with rfl | hy
        · omega
        · exact h1.1 y hy
      | ok x =>
        simp only at h1 ⊢
        obtain ⟨htr1, rfl⟩ := h1
        have h2 := ih2 (d + 1 - 1) (by omega)
        rcases hn : run m (d + 1 - 1) next with ⟨tr2, r2⟩
        rw [hn] at h2
        simp only at h2 ⊢
        refine ⟨?_, ?_⟩
        · intro y hy
          simp only [List.mem_cons, List.mem_append] at hy
          rcases hy with (rfl | hy) | rfl | hy
          · omega
          · exact htr1 y hy
          · omega
          · exact h2.1 y hy
        · cases r2 with
          | ok z => simp only at h2 ⊢; omega
          | maxDepth z => exact h2.2

/-- **Reset restores depth 0** (whatever the counter was when the panic was recovered), from where the
invariant holds again -/
theorem C09.reset_restores (d : Nat) : reset d = 0 := rfl

/-- n nested evaluations succeed exactly when n ≤ MaxDepth + 1 -/
theorem C09.chain_ok_iff (m n : Nat) : ∀ d, ((run m d (chain n)).2 = .ok d ↔ (n = 0 ∨ d + n ≤ m + 1)) := by
  induction n with
  | zero => intro d; simp [chain, run]
  | succ n ih =>
    intro d
    simp only [chain]
    unfold run
    by_cases hgt : d > m
    · rw [if_pos hgt]; simp; omega
    · rw [if_neg hgt]
      have ih' := ih (d + 1)
      rcases hi : run m (d + 1) (chain n) with ⟨tr1, r1⟩
      rw [hi] at ih'
      cases r1 with
      | maxDepth x =>
        have hfalse : ¬ (n = 0 ∨ d + 1 + n ≤ m + 1) := fun h' => by
          have this : Res.maxDepth x = Res.ok (d + 1) := ih'.2 h'
          cases this
        simp only
        constructor
        · intro h; cases h
        · intro h; exact absurd (by omega) hfalse
      | ok x =>
        have hx := run_ok_balanced m (chain n) (d + 1) tr1 x hi
        subst hx
        have hrhs : n = 0 ∨ d + 1 + n ≤ m + 1 := ih'.1 rfl
        constructor
        · intro _; omega
        · intro _; simp [run]

/-- the depth prediction used by the `bounded` suite's driver is the counter model run on a chain -/
theorem C09.chainOk_spec (m n : Nat) :
    Grol.BoundedSuite.chainOk m n = true ↔ (run m 0 (chain n)).2 = .ok 0 := by
  rw [C09.chain_ok_iff]
  unfold Grol.BoundedSuite.chainOk
  simp only [Bool.or_eq_true, beq_iff_eq, decide_eq_true_eq]
  omega

/-- unbounded recursion (a chain longer than the limit allows) always ends in the recoverable guard -/
theorem C09.unbounded_recursion_guarded (m : Nat) : Grol.BoundedSuite.chainOk m (m + 2) = false := by
  unfold Grol.BoundedSuite.chainOk
  simp

example : (run 3 0 (chain 4)).2 = .ok 0 := by decide
example : (run 3 0 (chain 5)).2 = .maxDepth 4 := by decide
example : (run 3 0 (.call (chain 2) (chain 4))).1 = [1, 2, 3, 2, 1, 0, 1, 2, 3, 4, 3, 2, 1, 0] := by decide

end Grol.Depth

/-! ### the Go-level loops of the evaluator (time part of C09: the deadline is observed)

`evalInternal` tests `s.Context.Err()` on entry.  A Go-level loop therefore observes the deadline once
per iteration when its body evaluates a node; every other loop must be bounded by something that
already exists (a container, a parameter list, the frame chain), by a constant, or by a count that
went through the allocation guard (so that count * 16 bytes fit the memory budget).  The list of
loops is regenerated from the Go sources on every run (`Grol.Generated.LoopFacts`, extractor
harness/cmd/harness/extract_loops.go); the classification below is by hand, and
`C09.loops_classified` breaks when a loop is added, removed, moved to another function or changes
its header.  How long one iteration takes (Go scheduler, GC, cache misses) is not a theorem: the
`bounded` suite measures wall-clock time after the deadline on the real interpreter.

CAVEAT (recorded finding `shared-structure-exponential-traversal`): "bounded by an existing container"
bounds ONE loop by the container's length; the loops of Cmp / Inspect / Hashable / JSON recurse into
the elements, and because values share structure (`a=[a,a]` n times) the unfolded size of a value
is not bounded by the memory it occupies.  Those traversals are exponential in the program length and
never poll the context: a genuine hang, exhibited by the suite's `dag-eq` / `dag-print` families. -/
namespace Grol.Generated.LoopFacts

inductive LoopClass
  /-- each iteration evaluates a node: `evalInternal` polls the context -/
  | polls
  /-- iterates over an existing container, string, argument or parameter list, statement list -/
  | boundedByContainer
  /-- the iteration count went through MulLen / MustBeOk / MakeObjectSlice -/
  | boundedByGuardedAllocation
  /-- at most a compile-time constant number of iterations -/
  | boundedByConstant
  /-- walks the chain of environments (at most the current call depth ≤ MaxDepth + 1 frames) -/
  | boundedByFrames
  deriving DecidableEq, Repr

structure Classified where
  site : String
  cls : LoopClass
  why : String

open LoopClass in
/-- the hand classification, in the order of the generated list -/
def Spec.classifiedLoops : List Classified := [
  ⟨"eval/eval.go | State.applyExtension | range args", boundedByContainer, "the evaluated argument list of one call"⟩,
  ⟨"eval/eval.go | State.evalArrayInfixExpression | range rightVal", boundedByGuardedAllocation,
    "array * count: n = MulLen(len, count) is checked, n = 0 returns before the loop, otherwise count ≤ n and MakeObjectSlice(n) passed the guard"⟩,
  ⟨"eval/eval.go | State.evalExpressions | range exps", polls, "evalInternal(e) per element"⟩,
  ⟨"eval/eval.go | State.evalForExpression | for ; ; ", polls, "evalInternal(fe.Condition) per iteration"⟩,
  ⟨"eval/eval.go | State.evalForInteger | for i := startValue; i < endValue; i++", polls, "evalInternal(newBody) per iteration; an error result (deadline) leaves the loop"⟩,
  ⟨"eval/eval.go | State.evalForList | for ; object.Len(list) > 0; ", polls, "evalInternal(fe.Body) per iteration (Rest(list) costs O(len) per iteration)"⟩,
  ⟨"eval/eval.go | State.evalIntegerInfixExpression | for i := leftVal; i < rightVal; i++", boundedByGuardedAllocation,
    "left:right: MakeObjectSlice(right-left) passed the guard; when the subtraction wraps, left > right and the loop body never runs (range_sound)"⟩,
  ⟨"eval/eval.go | State.evalInternal | range elements", boundedByContainer,
    "array literal: the slice evalExpressions just produced (one entry per element expression of the source, each evaluated — and polled — before); the body is object.Value(el), itself at most 100 reference steps"⟩,
  ⟨"eval/eval.go | State.evalMapLiteral | range node.Order", polls, "s.Eval(keyNode), s.Eval(valueNode)"⟩,
  ⟨"eval/eval.go | State.evalPrintLogError | range node.Parameters", polls, "evalInternal(v) per parameter"⟩,
  ⟨"eval/eval.go | State.evalStatements | range stmts", polls, "evalInternal(statement)"⟩,
  ⟨"eval/eval.go | State.extendFunctionEnv | range params", boundedByContainer, "the parameter list of the called function"⟩,
  ⟨"eval/eval.go | State.extendFunctionEnv | range params[paramIdx+1:]", boundedByContainer, "the later parameters of the called function (is this one shadowed by a later one of the same name? repo fix a353195): quadratic in the parameter count of one function literal"⟩,
  ⟨"eval/eval_api.go | State.SetArgs | range args", boundedByContainer, "host supplied argument vector"⟩,
  ⟨"eval/macro_expension.go | State.DefineMacros | for i := 0; i < len(program.Statements); ", boundedByContainer,
    "each iteration either advances i or removes one statement of the parsed program"⟩,
  ⟨"eval/macro_expension.go | extendMacroEnv | range macro.Parameters", boundedByContainer, "parameter list of the macro"⟩,
  ⟨"eval/macro_expension.go | quoteArgs | range exp.Arguments", boundedByContainer, "argument list of one macro call in the source"⟩,
  ⟨"eval/memo.go | Cache.Get | range args", boundedByContainer, "argument list (at most MaxArgs = 4 entries)"⟩,
  ⟨"eval/memo.go | Cache.Set | range args", boundedByContainer, "argument list"⟩,
  ⟨"eval/stack.go | State.Stack | for e := s.env; e != nil; e = e.StackParent()", boundedByFrames, "one step per stack frame"⟩,
  ⟨"object/interp.go | Unwrap | range objs", boundedByContainer, "existing slice"⟩,
  ⟨"object/interp.go | ValidIdentifier | range []byte(name)", boundedByContainer, "bytes of a name"⟩,
  ⟨"object/interp.go | initialIdentifiersCopy | range extraIdentifiers", boundedByContainer, "the host's table of pre-seeded identifiers"⟩,
  ⟨"object/object.go | BigArray.JSON | range ao.elements", boundedByContainer, "existing array"⟩,
  ⟨"object/object.go | BigMap.Append | range right.mapElements()", boundedByContainer, "existing right map (result size guarded before)"⟩,
  ⟨"object/object.go | BigMap.Inspect | range m.kv", boundedByContainer, "existing map"⟩,
  ⟨"object/object.go | BigMap.JSON | range m.kv", boundedByContainer, "existing map"⟩,
  ⟨"object/object.go | BigMap.Unwrap | range m.kv", boundedByContainer, "existing map"⟩,
  ⟨"object/object.go | Cmp | range m1.mapElements()", boundedByContainer, "existing map (recursion into values: bounded by the value's size)"⟩,
  ⟨"object/object.go | Cmp | range a1.Elements()", boundedByContainer, "existing array"⟩,
  ⟨"object/object.go | Elements | range v.smallKV[:v.len]", boundedByContainer, "existing small map"⟩,
  ⟨"object/object.go | Elements | range v.kv", boundedByContainer, "existing map (result slice guarded)"⟩,
  ⟨"object/object.go | Error.Inspect | range e.Stack", boundedByContainer, "recorded stack of an error"⟩,
  ⟨"object/object.go | Extension.Usage | for i := 1; i <= e.MinArgs; i++", boundedByConstant, "MinArgs is a registration constant of the extension"⟩,
  ⟨"object/object.go | First | range a.Parameters", boundedByContainer, "parameter list"⟩,
  ⟨"object/object.go | Hashable | range sa.smallArr[:sa.len]", boundedByContainer, "at most MaxSmallArray elements"⟩,
  ⟨"object/object.go | Hashable | range sm.smallKV[:sm.len]", boundedByContainer, "at most MaxSmallMap entries"⟩,
  ⟨"object/object.go | HoldsFunction | range Elements(o)", boundedByContainer, "the elements of an existing array (call result examined before it is remembered; recursion bounded by the value's size)"⟩,
  ⟨"object/object.go | HoldsFunction | range o.(Map).mapElements()", boundedByContainer, "the pairs of an existing map"⟩,
  ⟨"object/object.go | Rest | range body", boundedByContainer, "statements of a function body"⟩,
  ⟨"object/object.go | SmallMap.Append | range right.mapElements()", boundedByContainer, "existing right map"⟩,
  ⟨"object/object.go | SmallMap.Append | range right.mapElements()", boundedByContainer, "existing right map"⟩,
  ⟨"object/object.go | SmallMap.Delete | for i := where; i < m.len-1; i++", boundedByConstant, "m.len ≤ MaxSmallMap"⟩,
  ⟨"object/object.go | SmallMap.Inspect | range m.len", boundedByConstant, "m.len ≤ MaxSmallMap"⟩,
  ⟨"object/object.go | SmallMap.Set | for j := m.len - 1; j > i; j--", boundedByConstant, "m.len ≤ MaxSmallMap"⟩,
  ⟨"object/object.go | SmallMap.Unwrap | range m.smallKV[:m.len]", boundedByConstant, "m.len ≤ MaxSmallMap"⟩,
  ⟨"object/object.go | SmallMap.get | range m.len", boundedByConstant, "m.len ≤ MaxSmallMap"⟩,
  ⟨"object/object.go | UnwrapStringKeys | range m.mapElements()", boundedByContainer, "existing map"⟩,
  ⟨"object/object.go | Value | for ; ; ", boundedByConstant, "reference chain: panics after 100 steps"⟩,
  ⟨"object/object.go | WriteStrings | range list", boundedByContainer, "existing list"⟩,
  ⟨"object/state.go | Constant | range name", boundedByContainer, "runes of a name"⟩,
  ⟨"object/state.go | Environment.BaseInfo | range sets.Sort(tokInfo.Keywords)", boundedByContainer, "token tables"⟩,
  ⟨"object/state.go | Environment.BaseInfo | range sets.Sort(tokInfo.Tokens)", boundedByContainer, "token tables"⟩,
  ⟨"object/state.go | Environment.BaseInfo | range sets.Sort(tokInfo.Builtins)", boundedByContainer, "token tables"⟩,
  ⟨"object/state.go | Environment.BaseInfo | range ext", boundedByContainer, "extension registry"⟩,
  ⟨"object/state.go | Environment.Info | for ; ; ", boundedByFrames, "one step per enclosing environment"⟩,
  ⟨"object/state.go | Environment.Info | range e.store", boundedByContainer, "bindings of one environment"⟩,
  ⟨"object/state.go | Environment.Info | range keys", boundedByContainer, "bindings of one environment"⟩,
  ⟨"object/state.go | Environment.RegisterTrie | for ; e.outer != nil; ", boundedByFrames, "walk to the root environment"⟩,
  ⟨"object/state.go | Environment.RegisterTrie | range e.store", boundedByContainer, "bindings"⟩,
  ⟨"object/state.go | Environment.SaveGlobals | for ; e.outer != nil; ", boundedByFrames, "walk to the root environment"⟩,
  ⟨"object/state.go | Environment.SaveGlobals | range e.store", boundedByContainer, "bindings"⟩,
  ⟨"object/state.go | Environment.SaveGlobals | range keys", boundedByContainer, "bindings"⟩,
  ⟨"object/state.go | Environment.makeRef | for ; e.outer != nil; ", boundedByFrames, "walk up the (lexical) environment chain"⟩,
  ⟨"object/state.go | sameTypes | range le", boundedByContainer, "the elements of an existing array (the strict constant check recurses over nested containers: bounded by the value's size)"⟩,
  ⟨"object/state.go | sameTypes | range lkv", boundedByContainer, "the pairs of an existing map"⟩,
  ⟨"repl/repl.go | logParserErrors | range errs", boundedByContainer, "parser errors of one input"⟩ ]

/-- two lists that agree entry by entry, under `f`/`g` and under the tests `p`/`q`, have the same filtered image -/
theorem filter_map_eq_of_zip {α β γ : Type} (f : α → γ) (g : β → γ) (p : α → Bool) (q : β → Bool) :
    ∀ (l : List α) (r : List β), l.length = r.length →
      (∀ x ∈ l.zip r, f x.1 = g x.2 ∧ p x.1 = q x.2) → (l.filter p).map f = (r.filter q).map g
  | [], [], _, _ => rfl
  | [], _ :: _, hl, _ => by cases hl
  | _ :: _, [], hl, _ => by cases hl
  | a :: l, b :: r, hl, h => by
    have ⟨hf, hp⟩ := h (a, b) (by simp)
    have ih := filter_map_eq_of_zip f g p q l r (by simpa using hl) fun x hx => h x (by simp [hx])
    rw [List.filter_cons, List.filter_cons, ← hp]
    cases p a <;> simp [hf, ih]

theorem map_eq_of_zip {α β γ : Type} (f : α → γ) (g : β → γ) (l : List α) (r : List β)
    (hl : l.length = r.length) (h : ∀ x ∈ l.zip r, f x.1 = g x.2) : l.map f = r.map g := by
  have := filter_map_eq_of_zip f g (fun _ => true) (fun _ => true) l r hl fun x hx => ⟨h x hx, rfl⟩
  rwa [List.filter_eq_self.2 fun _ _ => rfl, List.filter_eq_self.2 fun _ _ => rfl] at this

/-- the one walk over both tables: same length, and entry by entry the same site and the same answer to
"does the body poll the context" -/
theorem classified_agree : loops.length = Spec.classifiedLoops.length ∧
    ∀ x ∈ loops.zip Spec.classifiedLoops, x.1.site = x.2.site ∧ x.1.polls = (x.2.cls == LoopClass.polls) := by
  decide +kernel

/-- **C09 (time part, 1)**: every Go-level loop of the evaluator is one of the classified loops and vice
versa (same sites, same order): a new, removed, moved or re-headed loop breaks this obligation. -/
theorem C09.loops_classified : loops.map (·.site) = Spec.classifiedLoops.map (·.site) :=
  map_eq_of_zip _ _ _ _ classified_agree.1 fun x hx => (classified_agree.2 x hx).1

/-- **C09 (time part, 2)**: the loops classified `polls` are exactly those whose body contains a call of a
context-polling evaluator entry point (a syntactic fact of the source, regenerated) -/
theorem C09.polling_loops_poll :
    (loops.filter (·.polls)).map (·.site) =
      (Spec.classifiedLoops.filter (·.cls == LoopClass.polls)).map (·.site) :=
  filter_map_eq_of_zip _ _ _ _ _ _ classified_agree.1 classified_agree.2

/-- no loop is left outside the five classes, and there are unbounded-looking headers (`for ; ;`) only in
the classes `polls`, `boundedByConstant` (reference chain, 100 steps) and `boundedByFrames` -/
theorem C09.bare_for_loops :
    ((loops.zip Spec.classifiedLoops).filter (fun p => p.1.kind == "for" && p.1.over == "; ; ")).map (·.2.cls) =
      [LoopClass.polls, LoopClass.boundedByConstant, LoopClass.boundedByFrames] := by decide +kernel

/-- what the bound of the two `boundedByGuardedAllocation` loops rests on, in source order inside the loop's own
statement list: the early returns and the MulLen / MakeObjectSlice calls that dominate the loop.
* `array * count`: the count is non-negative, `n = len * count` does not overflow (MulLen), `n = 0` returns BEFORE
  the loop (an empty operand times a huge count would otherwise loop `count` times appending nothing, without ever
  polling the context), and `n` objects passed the guard — so count ≤ n ≤ budget / 16;
* `left : right`: `lg = right - left` is non-negative and `lg` objects passed the guard. -/
def Spec.guardedLoopGuards : List (String × List String) := [
  ("eval/eval.go | State.evalArrayInfixExpression | range rightVal",
    ["if !ok return", "if rightVal < 0 return", "object.MulLen(len(leftVal), rightVal)", "if !ok return",
     "if n == 0 return", "object.MakeObjectSlice(n)"]),
  ("eval/eval.go | State.evalIntegerInfixExpression | for i := leftVal; i < rightVal; i++",
    ["if lg < 0 return", "object.MakeObjectSlice(int(lg))"]) ]

/-- **C09 (time part, 3)**: the loops classified `boundedByGuardedAllocation` are dominated by exactly the
recorded early returns and guard calls, in that order (regenerated from the source): moving, dropping or
rewording the `n == 0` early return, the MulLen overflow test or the guarded allocation breaks this obligation. -/
theorem C09.guarded_loops_guards :
    ((loops.zip Spec.classifiedLoops).filter (fun p => p.2.cls == LoopClass.boundedByGuardedAllocation)).map
      (fun p => (p.1.site, p.1.guards)) = Spec.guardedLoopGuards := by decide +kernel

end Grol.Generated.LoopFacts
