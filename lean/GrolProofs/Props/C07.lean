import GrolProofs.EvalSafeMain
/-
C07 — no program can crash the evaluator.

Statement (about the evaluator model `Grol.E`; every Go panic site of the modelled code is an
explicit `Stop.goPanic` outcome: `getFrame` on a frame that does not exist ("nil environment"),
`Reference.ObjValue` on a self reference, the cycle guard of `object.Value`): evaluation of any
syntax tree, with any fuel, from any state a session can reach never ends in `goPanic`.

The proof is an inductive invariant `Inv` of the evaluator state (lean/GrolProofs/EvalInv.lean):
* `st.cur` and `st.root` are frames of the heap;
* for every frame `i`: `outer` points to a frame of strictly smaller index and strictly smaller
  depth; the frame's function and every value in its store are well scoped (`okObj`: every frame
  index occurring anywhere in the value — `FuncVal.env`, `.ref e _`, also nested in arrays, maps
  and return wrappers — is below `frames.size`); every reference stored at the top level of the
  store points to a frame of strictly smaller index and strictly smaller depth;
* every cached result is well scoped.
`Inv` holds initially, is preserved by every evaluation (normal or abnormal end) and by the
recover/Reset of `runInput`; the heap only grows.  Under `Inv` reference chains strictly descend,
so no self reference and no cycle exists and every frame index that is dereferenced is in range.
-/
namespace Grol.E

/-- a reachable state: what `initState` and any sequence of inputs produce -/
def Reachable (st : St) : Prop :=
  ∃ (cfg : Cfg) (progs : List Node), st = progs.foldl (fun s p => (runInput s p).1) (initState cfg)

def C07.Statement : Prop :=
  ∀ (fuel : Nat) (prog : Node) (st : St), Reachable st → isGoPanic (outcome (eval fuel prog) st) = false

theorem C07.inv_init (cfg : Cfg) : Inv (initState cfg) := inv_iff.2 (G.inv_init cfg)

theorem C07.post (fuel : Nat) (prog : Node) (st : St) (hI : Inv st) :
    G.Post polE (eval fuel prog) st (G.OkO polE) :=
  (G.spec_all fuel).eval prog st (inv_iff.1 hI) (okNode_polE prog)

/-- MAIN THEOREM: from a state satisfying the invariant no evaluation ends in a Go panic -/
theorem C07.holds : ∀ (fuel : Nat) (prog : Node) (st : St), Inv st →
    isGoPanic (outcome (eval fuel prog) st) = false :=
  fun fuel prog st hI => (C07.post fuel prog st hI).after.2.2.1

/-- the invariant holds again after any evaluation, whether it ended normally or not -/
theorem C07.inv_preserved : ∀ (fuel : Nat) (prog : Node) (st : St), Inv st →
    Inv (stateAfter (eval fuel prog) st) :=
  fun fuel prog st hI => inv_iff.2 (C07.post fuel prog st hI).after.1

theorem C07.frames_grow (fuel : Nat) (prog : Node) (st : St) (hI : Inv st) :
    st.frames.size ≤ (stateAfter (eval fuel prog) st).frames.size :=
  (C07.post fuel prog st hI).after.2.1.1

theorem C07.result_scoped (fuel : Nat) (prog : Node) (st : St) (hI : Inv st) (v : Obj)
    (h : outcome (eval fuel prog) st = .ok v) :
    okObj (stateAfter (eval fuel prog) st).frames.size v = true := by
  rw [okObj_polE]; exact (C07.post fuel prog st hI).after.2.2.2 v h

/-- one REPL input (evaluation + recover/Reset) preserves the invariant -/
theorem C07.inv_runInput (st : St) (prog : Node) (hI : Inv st) : Inv (runInput st prog).1 :=
  inv_iff.2 (G.inv_runInput st prog (inv_iff.1 hI) (okNode_polE prog)).1

theorem C07.reachable_inv (st : St) (h : Reachable st) : Inv st := by
  obtain ⟨cfg, progs, rfl⟩ := h
  exact inv_iff.2 (G.inv_session progs _ (G.inv_init cfg) (fun p _ => okNode_polE p)).1

/-- C07 in full: no evaluation from a reachable state ends in a Go panic -/
theorem C07.statement : C07.Statement :=
  fun fuel prog st h => C07.holds fuel prog st (C07.reachable_inv st h)

/-- integer arithmetic never panics: `/` `%` by zero and negative shift counts are errors -/
theorem C07.integer_ops_no_panic (op : String) (l r : Int64) (st : St) :
    isGoPanic (outcome (evalIntegerInfix op l r) st) = false :=
  evalIntegerInfix_no_panic op l r st

/-- the witnesses of the repaired defects evaluate to error objects in the model -/
example : outcome (evalIntegerInfix "SLASH" 1 0) (initState {}) = .ok (err "division by zero") := rfl
example : outcome (evalIntegerInfix "LEFTSHIFT" 1 (-1)) (initState {}) = .ok (err "negative shift count") := rfl

/-- non-vacuity: the initial state is reachable -/
example : Reachable (initState {}) := ⟨{}, [], rfl⟩

end Grol.E
