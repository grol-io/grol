import GrolProofs.Props.C02
import GrolProofs.PrintFrame
import GrolProofs.PrintNewline
import GrolProofs.ParseEnd
/-
C03 — formatting is a deterministic fixpoint.

(1) idempotence is stated relative to a lexer, like C02; it is FALSE of the code as it stands for the
    same recorded classes (the C03 entries of known_findings.json; their witnesses are replayed by the
    `format03` suite on every run) and is not proved on their complement here.
(2) history independence: the model of the front end has NO interning table — tokens are compared
    by value (type, literal) everywhere (`Tk`), the parse result is a function of the token stream
    (`Parser.parseProgram`), and the printed bytes are a function of the tree and the two mode flags
    (`Printer.printProgram`); that the Go code behaves like this model whatever was parsed before is
    what the suite checks (every 40th case is formatted again after `token.Init()`).
(3) normal-mode output ends with a newline: PROVED for every tree (`ends_with_newline`, from the frame
    lemma `printNode_frame`: every PrettyPrint method preserves indentation level and compact flag).
    "Exactly one" is PROVED too (`exactly_one_newline`) under the lexer fact, stated as a decidable
    hypothesis on the tree (`Printer.endOKL`): the literal of every token a node prints last (identifier,
    number, keyword, comment, operator of a postfix / open-ended `n:` node, `return`) is non-empty and
    does not end in a newline.  `exactly_one_newline_parsed` discharges that hypothesis for every tree the PARSER
    returns, from a fact about the token stream only (`Parser.LitFact`: identifiers, numbers, keywords, line
    comments and operators have a non-empty literal that does not end in a newline; a block comment needs no
    fact, the parser checks that it ends in `*/`).  `LitFact` itself is evaluated on every stream of the real
    lexer (`litFactB`, sound by `litFact_of_b`); deriving it from the lexer model is not done here.
-/
namespace Grol.C03
open Grol Grol.Wire Grol.Parser Grol.Printer Grol.Generated

/-- idempotence at one source text: formatting the formatted text gives the same bytes -/
def IdempotentAt (lex : Bytes → TokStream) (tbl : Nat → Bool) (fuel : Nat) (src : Bytes) (compact : Bool) : Prop :=
  ∀ prog, C02.valid (parseProgram (lex src) fuel) = some prog →
    ∃ out prog', printProgram tbl prog compact false = .ok out ∧
      C02.valid (parseProgram (lex out) fuel) = some prog' ∧ printProgram tbl prog' compact false = .ok out

def oneNewline (out : Bytes) : Bool :=
  match out.reverse with
  | 10 :: 10 :: _ => false
  | 10 :: _ => true
  | _ => false

def Statement (lex : Bytes → TokStream) (tbl : Nat → Bool) : Prop :=
  ∀ src, ∃ fuel, (∀ compact, IdempotentAt lex tbl fuel src compact) ∧
    ∀ prog, C02.valid (parseProgram (lex src) fuel) = some prog →
      ∀ out, printProgram tbl prog false false = .ok out → oneNewline out = true

/-- (3), first half: for EVERY tree and both all-parens settings, successful normal-mode printing of a
program ends with a newline -/
theorem ends_with_newline (tbl : Nat → Bool) (prog : NList) (allParens : Bool) (out : Bytes)
    (h : printProgram tbl prog false allParens = .ok out) : out.getLast? = some 10 :=
  printProgram_ends_with_newline tbl prog allParens out h

/-- (3), second half: given the lexer fact that the token literals a node prints last are non-empty and do not
end in a newline (`Printer.endOKL prog`, a decidable predicate on the tree), the normal-mode text is
`body ++ "\n"` with `body` not ending in a newline: exactly one trailing newline -/
theorem exactly_one_newline (tbl : Nat → Bool) (prog : NList) (allParens : Bool) (out : Bytes)
    (h : printProgram tbl prog false allParens = .ok out) (he : endOKL prog = true) :
    ∃ body, out = body ++ [10] ∧ body.getLast? ≠ some 10 :=
  printProgram_exactly_one_newline tbl prog allParens out h he

/-- (3) for PARSED programs: whatever the parser returns for a token stream satisfying the lexer fact `LitFact`
(tokens of the kinds a node can print last — identifiers, numbers, keywords, line comments, operators — have a
non-empty literal not ending in a newline; decided by `Parser.litFactB`, which the driver evaluates on every
stream of the real lexer) prints, in normal mode, as `body ++ "\n"` with `body` not ending in a newline.
No hypothesis on the tree is left. -/
theorem exactly_one_newline_parsed (tbl : Nat → Bool) (s : TokStream) (hl : LitFact s) (fuel : Nat) (r : ParseResult)
    (hp : parseProgram s fuel = .ok r) (allParens : Bool) (out : Bytes)
    (h : printProgram tbl r.program false allParens = .ok out) :
    ∃ body, out = body ++ [10] ∧ body.getLast? ≠ some 10 :=
  exactly_one_newline tbl r.program allParens out h (parseProgram_endOK s hl fuel r hp)

/-- history independence of the model, in the only form it can take there: parsing and printing
are functions (no state survives between two calls) -/
theorem model_is_stateless (tbl : Nat → Bool) (s₁ s₂ : TokStream) (fuel : Nat) (compact allParens : Bool)
    (h : s₁ = s₂) :
    (match parseProgram s₁ fuel with | .ok r => some (printProgram tbl r.program compact allParens) | _ => none) =
    (match parseProgram s₂ fuel with | .ok r => some (printProgram tbl r.program compact allParens) | _ => none) := by
  subst h; rfl

/-- (1) on the fragment of `C02.roundtrip_partial` (every node kind except comments, outside the recorded classes),
relative to `C02.PrintLex` (lexing the printed bytes of a fragment program gives its token rendering — the link the
`printtokens` suite checks on the real printer and lexer): the formatted text of a fragment program is a FIXPOINT of
formatting — it parses (for every sufficiently large fuel) to a program whose formatted text is the same bytes.  The
shape of `IdempotentAt` with the fuel of the second parse chosen large enough; corollary of the round trip (the re-parsed
program is the original). -/
theorem idempotent_partial_lex (lex : Bytes → TokStream) (tbl : Nat → Bool) (hlex : C02.PrintLex lex tbl)
    (prog : NList) (compact : Bool) (hfrag : PrintTokens.fragProg compact false prog = true) :
    ∃ out, printProgram tbl prog compact false = .ok out ∧
      ∃ F, ∀ fuel', F ≤ fuel' → ∃ prog', C02.valid (parseProgram (lex out) fuel') = some prog' ∧
        printProgram tbl prog' compact false = .ok out := by
  obtain ⟨out, hout, hk⟩ := hlex compact prog hfrag
  obtain ⟨F, hF⟩ := C02.roundtrip_partial compact false prog hfrag (lex out) hk
  exact ⟨out, hout, F, fun fuel' h => ⟨prog, by rw [hF fuel' h]; rfl, hout⟩⟩

/-- the same at the token level, with no lexer: formatting, rendering as tokens and parsing any number of times stays
at the same program and the same bytes (`n` passes) -/
theorem idempotent_tokens (tbl : Nat → Bool) (prog : NList) (compact : Bool)
    (hfrag : PrintTokens.fragProg compact false prog = true) (out : Bytes) (hout : printProgram tbl prog compact false = .ok out) :
    ∃ F, ∀ fuel, F ≤ fuel → ∀ r, parseProgram (PrintTokens.streamOf (PrintTokens.progToks compact false prog)) fuel = .ok r →
      printProgram tbl r.program compact false = .ok out := by
  obtain ⟨F, hF⟩ := C02.roundtrip_streamOf compact false prog hfrag
  refine ⟨F, fun fuel h r hr => ?_⟩
  rw [hF fuel h] at hr
  cases hr
  exact hout

/-- `a; -b`: the formatted text `a⏎-b⏎` parses to ONE statement, whose formatting is `a - b⏎` (replayed on
the real code by the `format03` known-finding witness) -/
theorem witness_not_idempotent :
    (C02.progOf C02.stmtPrefix.src).length = 2 ∧ (C02.progOf C02.stmtPrefix.normal).length = 1 := by
  decide +kernel

end Grol.C03
