import GrolProofs.EvalSafeEnv
import GrolProofs.MemoFootprint
import GrolProofs.MemoKey
/-
C04 — automatic memoization is unobservable.

Full statement: the evaluator model run with `cacheOn := true` and with `cacheOn := false`
produces the same outputs, results and errors on every session (`C04.Statement`).  It is NOT
proved (the C04 classes of known_findings.json refuted it for grol as it was before their repairs);
what is proved here are the facts about the cache itself that the property's second sentence
names: with the switch off nothing is looked up or stored; a lookup returns exactly what was
stored for an equal key (`set_get`); a hit replays the stored output and returns the stored result
without touching anything else (`replay`); an entry is stored only when the callee frame's miss
counter did not move and the result is not an error (`store_condition`).

The footprint lemma (A) is proved (`GrolProofs/MemoMono.lean`, `GrolProofs/MemoFootprint.lean`, restated
at the end of this file): miss counters never decrease (`C04.miss_monotone`), so "after = before" is
inherited by every step of the call (`C04.quiet_inherited`, with `During` = "is a step of");
for the individual steps it means: no completed `del` / `TriggerNoCache` on the frame
(`C04.no_del_in_quiet_call`); every `makeRef` reached only a binding of a depth-0 frame that is
function-valued or has an all-caps name (`C04.quiet_makeRef`; a function held by a variable of an enclosing
call is a miss, grol fix 103fa2c: `mk=func(g){func(x){g(x)}}; c1=mk(inc); c2=mk(dbl); c1(3), c2(3)` printed
4 4 before it); every nested call was a hit, failed to bind its arguments, or was itself miss-free on its
own frame (`C04.purity_footprint`); every `Get` returned nothing, the frame's own function, a value of the
frame's own store or a reference to a trusted binding (`C04.quiet_get`); no function-valued binding was
overwritten or deleted (`C04.no_function_write_in_quiet_call`).

The last clause holds since the repair of a defect the proof of (A) exposed: a miss-free `makeRef` hands
out a reference to any function-valued outer binding, and `setNoChecks`/`update` wrote through it
without a miss, so `g=func(){1}; f=func(x){g=func(){2}; x}; f(1); g=func(){3}; f(1); g()` gave 3
with the cache and 2 without (known_findings.json, class
`cached-call-skips-write-to-function-valued-outer-binding`, fixed by grol 0f2eeb4: `functionChanged`
counts a miss on the writing environment and empties the cache).

(B1) determinism of miss-free calls IS proved, in Props/C04Det.lean (`C04.quiet_call_deterministic`,
`C04.quiet_call_depends_only_on_trusted`, `C04.constant_param_is_miss`; simulation in GrolProofs/RenQ*.lean).

NOT proved: (B) a cache hit equals an evaluation and (C) the session-level equivalence.  Both are
relational statements about two runs whose heaps of frames differ (a hit allocates no frame, so
frame indices in closures and references diverge): they need a simulation relation up to a
renaming of frame indices through all 19 mutually recursive functions.  A `Safe` fragment for (C)
has to exclude float arguments (`0.0` and `-0.0` share an entry), `deadlineAfter`, and runs that
stop on fuel or the depth guard (a hit shortens the recursion).
-/
namespace Grol.E

def sessionObs (cfg : Cfg) (progs : List Node) : List (Except String String) :=
  (progs.foldl (fun (acc : St × List (Except String String)) p =>
      let (st', r) := runInput acc.1 p
      (st', acc.2 ++ [r.map fun o => ((o.render.splitOn ";g=").headD "")])) (initState cfg, [])).2

def C04.Statement : Prop :=
  ∀ (progs : List Node), sessionObs { cacheOn := true } progs = sessionObs { cacheOn := false } progs

/-- with the cache switched off every lookup misses … -/
theorem C04.off_get (key : String) (args : List Obj) (st : St) (h : st.cfg.cacheOn = false) :
    outcome (cacheGet key args) st = .ok none := by
  rw [outcome_eq_run, run_cacheGet, cacheLookup_off h]

/-- … and every store leaves the state unchanged -/
theorem C04.off_set (key : String) (args : List Obj) (res : Obj) (out : Grol.Wire.Bytes) (st : St)
    (h : st.cfg.cacheOn = false) : stateAfter (cacheSet key args res out) st = st := by
  obtain ⟨c, hc, hoff⟩ := run_cacheSet key args res out st
  rw [stateAfter_eq_run, hc, hoff h]

/-- a lookup never changes the state and never fails -/
theorem C04.get_pure (key : String) (args : List Obj) (st : St) :
    ∃ r, runM (cacheGet key args) st = (.ok r, st) :=
  ⟨_, run_cacheGet key args st⟩

/-- (a) replay: on a cache hit (the cache is not skipped: not a recursive call from a frame holding a local function)
`applyFunction` returns the stored result, and the state changes
only by appending the stored output to the current writer (nothing at all for an empty output) -/
theorem C04.replay (fuel : Nat) (f : FuncVal) (args : List Obj) (st : St) (v : Obj) (output : Grol.Wire.Bytes)
    (cf : Frame) (hcf : st.frames[st.cur]? = some cf)
    (hns : (cf.localFunc && sameFunction cf f) = false)
    (h : outcome (cacheGet f.key args) st = .ok (some (v, output))) :
    outcome (applyFunction (fuel + 1) (.func f) args) st = .ok v ∧
    stateAfter (applyFunction (fuel + 1) (.func f) args) st = replayState st output := by
  rw [outcome_eq_run, run_cacheGet] at h
  rw [outcome_eq_run, stateAfter_eq_run, run_applyFunction, hcf]
  dsimp only
  rw [hns, if_neg Bool.false_ne_true, Except.ok.inj h]
  exact ⟨rfl, rfl⟩

/-- (b) store condition: the end of `applyFunction` (`finishCall`, run after the body with the
callee frame's miss counter `before`/`after` the body) leaves the cache as it was whenever the
counter moved, the result is an error, or the result is or contains a function (a closure over the call's own
environment): an entry is stored only for a pure, successful call returning plain data -/
theorem C04.store_condition (f : FuncVal) (args : List Obj) (curState before after : Nat) (cantCache : Bool)
    (res : Obj) (output : Grol.Wire.Bytes) (st : St)
    (h : (stateAfter (finishCall f args curState before after cantCache res output) st).cache ≠ st.cache) :
    after = before ∧ res.isError = false ∧ holdsFunc res = false := by
  rw [stateAfter_eq_run, run_finishCall] at h
  split at h
  · exact absurd (by split <;> exact replayState_cache st output) h
  next hab =>
  split at h
  · exact absurd (replayState_cache st output) h
  next hr =>
  rw [Bool.or_eq_true, not_or, Bool.not_eq_true, Bool.not_eq_true] at hr
  exact ⟨Decidable.of_not_not fun hne => hab (bne_iff_ne.mpr hne), hr⟩

/-- (c) a lookup with key-equal hashable arguments, right after a store, returns the stored pair -/
theorem C04.set_get (key : String) (args args' : List Obj) (res : Obj) (out : Grol.Wire.Bytes) (st : St)
    (hon : st.cfg.cacheOn = true) (hlen : args.length ≤ st.cfg.maxArgs) (hh : hashableList st.cfg args = true)
    (hlen' : args'.length ≤ st.cfg.maxArgs) (hh' : hashableList st.cfg args' = true)
    (heq : keyEqList args args' = true) :
    outcome (cacheGet key args') (stateAfter (cacheSet key args res out) st) = .ok (some (res, out)) := by
  have hset : stateAfter (cacheSet key args res out) st =
      { st with cache := { key := key, args := args, result := res, output := out } ::
        st.cache.filter (fun c => !(c.key == key && keyEqList c.args args)) } := by
    rw [stateAfter_eq]
    unfold cacheSet
    rw [runM_bind, runM_get]
    have h1 : ¬ (args.length > st.cfg.maxArgs) := by omega
    simp only [hon, Bool.not_true, Bool.false_eq_true, if_false, h1, hh]
    rfl
  rw [hset, outcome_eq_run, run_cacheGet]
  unfold cacheLookup
  have h1 : ¬ (args'.length > st.cfg.maxArgs) := by omega
  simp only [hon, Bool.not_true, Bool.false_eq_true, if_false, h1, hh', List.find?_cons, beq_self_eq_true, heq,
    Bool.and_self]

/-- non-vacuity of (c): a concrete store followed by a lookup with an equal key -/
example : outcome (cacheGet "k" [.int 1, .str [97]])
    (stateAfter (cacheSet "k" [.int 1, .str [97]] (.int 2) [104, 105]) (initState {})) = .ok (some (.int 2, [104, 105])) :=
  C04.set_get "k" [.int 1, .str [97]] [.int 1, .str [97]] (.int 2) [104, 105] (initState {}) rfl (by decide) rfl (by decide) rfl
    (by decide)

/-- (A) miss counters only grow and frames are only added, through any evaluation, whatever its outcome -/
theorem C04.miss_monotone (fuel : Nat) (node : Node) (st : St) : Grows st (stateAfter (eval fuel node) st) :=
  eval_grows fuel node st

/-- "after = before" on frame `e` is inherited by every step of the computation -/
theorem C04.quiet_inherited {α β : Type} {x : M α} {st : St} {y : M β} {s : St} {e : Nat}
    (hd : During x st y s) (hq : Quiet e x st) : Quiet e y s := quiet_during hd hq

/-- a computation that is miss-free on the current frame completed no `del` -/
theorem C04.no_del_in_quiet_call {α : Type} {x : M α} {st s : St} {fuel : Nat} {node : Node}
    (hd : During x st (evalDelete (fuel + 1) node) s) (hq : Quiet s.cur x st) (r : Obj) :
    outcome (evalDelete (fuel + 1) node) s ≠ .ok r := no_del_during hd hq r

/-- a miss-free `makeRef` found nothing or handed out a reference to a trusted binding: a function
value or an all-caps name, in a depth-0 frame -/
theorem C04.quiet_makeRef (orig : Nat) (name : String) (st : St) (r : Option Obj)
    (hok : outcome (makeRef orig name) st = .ok r) (hq : Quiet orig (makeRef orig name) st) :
    r = none ∨ ∃ re rn, r = some (.ref re rn) ∧ Trusted st name re rn :=
  makeRef_go_quiet orig name st.frames.size orig st r hok hq

/-- a miss-free `Get` returned nothing, the frame's own function, a value bound in the frame's own
store, or a reference to a trusted binding -/
theorem C04.quiet_get (e : Nat) (name : String) (st : St) (r : Option Obj)
    (hok : outcome (envGet e name) st = .ok r) (hq : Quiet e (envGet e name) st) : PureRead st e name r :=
  envGet_quiet e name st r hok hq

/-- no step of a computation that is miss-free on frame `w` overwrites or deletes a binding holding a
function on behalf of `w`: every overwrite/deletion of an existing binding (`update`, the reference
path of `SetNoChecks`, `Delete`) reports the old value to `functionChanged w`, and a completed
`functionChanged w (some f)` with `f` a function raises `w`'s counter -/
theorem C04.no_function_write_in_quiet_call {α : Type} {x : M α} {st s : St} {w : Nat} {o : Obj}
    (hd : During x st (functionChanged w (some o)) s) (hq : Quiet w x st) (ho : isFuncObj o = true) :
    outcome (functionChanged w (some o)) s ≠ .ok () := no_function_change_during hd hq ho

/-- the same, for the store step of an assignment whose target binding holds a function -/
theorem C04.no_function_assignment_in_quiet_call {α : Type} {x : M α} {st s : St} {w e : Nat} {name : String}
    {val : Obj} {fr : Frame} {o : Obj} (hd : During x st (envStoreAt w e name val) s) (hq : Quiet w x st)
    (hfr : s.frames[e]? = some fr) (hl : lookupStore fr.store name = some o) (ho : isFuncObj o = true) (r : Obj) :
    outcome (envStoreAt w e name val) s ≠ .ok r := no_function_write_during hd hq hfr hl ho r

/-- the footprint lemma for calls: a call that completes without moving its caller's miss counter
(in particular every nested call of a call that is stored) was a cache hit, failed while binding its
arguments, or evaluated its body without moving its own frame's miss counter -/
theorem C04.purity_footprint (fuel : Nat) (f : FuncVal) (args : List Obj) (st : St) (v : Obj)
    (hok : outcome (applyFunction (fuel + 1) (.func f) args) st = .ok v)
    (hq : Quiet st.cur (applyFunction (fuel + 1) (.func f) args) st) :
    (∃ out, outcome (cacheGet f.key args) st = .ok (some (v, out))) ∨
    (outcome (extendFunctionEnv f args) st = .ok (.error v)) ∨
    (∃ nenv, outcome (extendFunctionEnv f args) st = .ok (.ok nenv) ∧
      outcome (eval fuel f.body) (bodyState (stateAfter (extendFunctionEnv f args) st) nenv) = .ok v ∧
      Quiet nenv (eval fuel f.body) (bodyState (stateAfter (extendFunctionEnv f args) st) nenv)) :=
  applyFunction_quiet fuel f args st v hok hq

/-- the same with the binding of the parameters: the callee's counter is 0 after the body (the comparison is with
0, the counter of the new frame, not with its value after the binding: a miss made while binding a parameter — an
all-caps parameter name, `C04.constant_param_is_miss` in Props/C04Det.lean — counts) -/
theorem C04.purity_footprint_full (fuel : Nat) (f : FuncVal) (args : List Obj) (st : St) (v : Obj)
    (hok : outcome (applyFunction (fuel + 1) (.func f) args) st = .ok v)
    (hq : Quiet st.cur (applyFunction (fuel + 1) (.func f) args) st) :
    (∃ out, outcome (cacheGet f.key args) st = .ok (some (v, out))) ∨
    (outcome (extendFunctionEnv f args) st = .ok (.error v)) ∨
    (∃ nenv, outcome (extendFunctionEnv f args) st = .ok (.ok nenv) ∧
      outcome (eval fuel f.body) (bodyState (stateAfter (extendFunctionEnv f args) st) nenv) = .ok v ∧
      Quiet nenv (eval fuel f.body) (bodyState (stateAfter (extendFunctionEnv f args) st) nenv) ∧
      missOf (stateAfter (eval fuel f.body) (bodyState (stateAfter (extendFunctionEnv f args) st) nenv)) nenv = 0) :=
  applyFunction_quiet_full fuel f args st v hok hq

/-- an ingredient of (B): the key test of a lookup (`keyEqList`, Go map-key equality) is identity on
hashable argument lists without floats — floats are the only hashable values on which a hit can
serve a call with DIFFERENT arguments (`0.0` / `-0.0`) -/
theorem C04.key_identity (cfg : Cfg) (args args' : List Obj) (hn : noFloatList args = true)
    (ha : hashableList cfg args = true) (hb : hashableList cfg args' = true)
    (h : keyEqList args args' = true) : args = args' := keyEqList_eq cfg args args' hn ha hb h

def fibBody : Node :=
  .stmts [ .ifE (.inf "LTEQ" (.ident "n") (.int 1)) (.stmts [.ret (.ident "n")]) .none,
           .inf "PLUS" (.call (.ident "fib") [.inf "MINUS" (.ident "n") (.int 1)])
                       (.call (.ident "fib") [.inf "MINUS" (.ident "n") (.int 2)]) ]
def fibKey : String := "func fib(n){if n<=1{return n}fib(n-1)+fib(n-2)}"
/-- `func fib(n){ if n<=1 {return n}; fib(n-1)+fib(n-2) }` -/
def fibDef : Node := .fn (some "fib") ["n"] false false fibKey fibBody
def fibVal : FuncVal := ⟨some "fib", ["n"], false, false, fibKey, fibBody, 0⟩
def fibState : St := stateAfter (eval 10 fibDef) (initState {})

/-- `fib(6)` from the state after the definition: returns 8, does not move the caller's (root)
counter — the hypotheses of `C04.purity_footprint` — allocates 7 frames for 7 distinct arguments
(25 calls without the cache) and leaves 7 cache entries: every level was stored -/
example : (match run (applyFunction 100 (.func fibVal) [.int 6]) fibState with
    | (.ok (.int v), s) => v == 8 && s.cache.length == 7 && s.frames.size == 8 &&
        missOf s fibState.cur == missOf fibState fibState.cur
    | _ => false) = true := by decide +kernel

/-- the same call with the cache off: 25 frames, same value -/
example : (match run (applyFunction 100 (.func fibVal) [.int 6]) { fibState with cfg := { cacheOn := false } } with
    | (.ok (.int v), s) => v == 8 && s.cache.length == 0 && s.frames.size == 26
    | _ => false) = true := by decide +kernel

end Grol.E
