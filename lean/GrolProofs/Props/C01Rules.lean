import GrolProofs.EvalOps
import GrolProofs.Props.C15chunks
import GrolProofs.EnvConst
import GrolProofs.EvalFrame
import GrolProofs.MemoMono
import GrolProofs.CallRun
import GrolProofs.Props.C06
/-!
# C01 — the syntax-directed reference rules of the language, as theorems about the model

The evaluator model (`Grol.E.eval` / `evalI` / …, lean/Grol/Eval/Eval.lean) is the reference
evaluator of C01.  This file states the documented evaluation rules of grol (README "language
features", eval/eval.go) as kernel-checked theorems about that model, for ALL sub-terms, values and
states.  A model edit that changes one of these rules breaks a theorem here.

Two forms are used:

* equations between computations in `M = ExceptT Stop (StateM St)` — for every start state both
  sides have the same outcome (value / Go panic / depth guard / fuel / unmodelled) and the same
  final state;
* `outcome` / `stateAfter` forms, under the explicit hypothesis `st.cfg.deadlineAfter = none`
  (no evaluation-context deadline configured), where `C15.bump st` is the state `evalI` hands to
  the node's rule (`steps` counted).

Fuel: `evalI (f + 1) node` gives its sub-terms fuel `f`; running out of fuel is the outcome
`.error .fuel`, never totalised away.  `eval` is the wrapper `(*State).Eval` (depth guard, unwraps
`return` values and one reference level), `evalI` is `evalInternal`.
-/
namespace Grol.E

/-- with a deadline configured and reached, EVERY node evaluates to the error value
"context deadline exceeded" (eval.go `evalInternal`: `s.Context.Err() != nil`) -/
theorem C01.deadline_reached (f : Nat) (node : Node) (st : St) (d : Nat)
    (hd : st.cfg.deadlineAfter = some d) (hs : st.steps ≥ d) :
    outcome (evalI (f + 1) node) st = .ok (err "context deadline exceeded")
    ∧ stateAfter (evalI (f + 1) node) st = C15.bump st := by
  rw [evalI.eq_def]
  exact of_run_eq ((congrArg (run · st) (C15.enter_of _)).trans (C15.run_enter_deadline _ st d hd hs))

theorem C01.sameRun_enter (k : M Obj) (st : St) (hd : st.cfg.deadlineAfter = none) :
    SameRun (C15.enter k) st k (C15.bump st) := SameRun.of_run (C15.run_enter k st hd)

theorem C01.sameRun_bind_ok {α β : Type} (x : M α) (g : α → M β) (st : St) (a : α) (h : outcome x st = .ok a) :
    SameRun (x >>= g) st (g a) (stateAfter x st) := SameRun.of_run (run_bind_ok g h)

/-- `object.Value` of anything but a reference is the value itself, no state change -/
theorem C01.valueOf_nonref (o : Obj) (h : ∀ e n, o ≠ .ref e n) : valueOf o = pure o := by
  cases o <;> first | rfl | exact absurd rfl (h _ _)

theorem C01.run_value_ok {β : Type} {x : M Obj} (g : Obj → M β) {st : St} {v : Obj} (h : outcome x st = .ok v)
    (hp : ∀ e n, v ≠ .ref e n) : run (do let c ← valueOf (← x); g c) st = run (g v) (stateAfter x st) := by
  rw [run_bind_ok _ h, C01.valueOf_nonref v hp, pure_bind]

/-- reading an integer result off a test the kernel can run -/
theorem C01.eq_ok_int {x : Except Stop Obj} {v : Int64}
    (h : (match x with | .ok (.int w) => w == v | _ => false) = true) : x = .ok (.int v) := by
  split at h
  · rw [eq_of_beq h]
  · cases h

theorem C01.eq_ok_bool {x : Except Stop Obj} {b : Bool}
    (h : (match x with | .ok (.bool c) => c == b | _ => false) = true) : x = .ok (.bool b) := by
  split at h
  · rw [eq_of_beq h]
  · cases h

theorem C01.evalI_int (f : Nat) (v : Int64) : evalI (f + 1) (.int v) = C15.enter (pure (.int v)) := by
  rw [evalI]; exact C15.enter_of _
theorem C01.evalI_float (f : Nat) (b : UInt64) : evalI (f + 1) (.float b) = C15.enter (pure (.float b)) := by
  rw [evalI]; exact C15.enter_of _
theorem C01.evalI_bool (f : Nat) (b : Bool) : evalI (f + 1) (.bool b) = C15.enter (pure (.bool b)) := by
  rw [evalI]; exact C15.enter_of _
theorem C01.evalI_str (f : Nat) (s : Grol.Wire.Bytes) : evalI (f + 1) (.str s) = C15.enter (pure (.str s)) := by
  rw [evalI]; exact C15.enter_of _

/-- literals evaluate to themselves; the only state change is the step count -/
theorem C01.literals (f : Nat) (st : St) (hd : st.cfg.deadlineAfter = none)
    (v : Int64) (b : Bool) (s : Grol.Wire.Bytes) (fb : UInt64) :
    (outcome (evalI (f + 1) (.int v)) st = .ok (.int v) ∧ stateAfter (evalI (f + 1) (.int v)) st = C15.bump st)
    ∧ (outcome (evalI (f + 1) (.bool b)) st = .ok (.bool b) ∧ stateAfter (evalI (f + 1) (.bool b)) st = C15.bump st)
    ∧ (outcome (evalI (f + 1) (.str s)) st = .ok (.str s) ∧ stateAfter (evalI (f + 1) (.str s)) st = C15.bump st)
    ∧ (outcome (evalI (f + 1) (.float fb)) st = .ok (.float fb)
        ∧ stateAfter (evalI (f + 1) (.float fb)) st = C15.bump st) := by
  rw [C01.evalI_int, C01.evalI_bool, C01.evalI_str, C01.evalI_float]
  exact ⟨C01.sameRun_enter _ st hd, C01.sameRun_enter _ st hd, C01.sameRun_enter _ st hd, C01.sameRun_enter _ st hd⟩

/-! ## binary operator nodes: left operand, short-circuit, right operand, operator -/

def Obj.isFalse : Obj → Bool
  | .bool false => true
  | _ => false
def Obj.isTrue : Obj → Bool
  | .bool true => true
  | _ => false
def Obj.isStr : Obj → Bool
  | .str _ => true
  | _ => false

/-- the second half of a binary operator node: right operand, then the operator (the `noteHazard` line is
instrumentation only: it appends to `St.hazards`, which the evaluator never reads) -/
def C01.infixTail (f : Nat) (op : String) (l r : Node) (left : Obj) : M Obj := do
  let right ← eval f r
  if right.isError then pure right
  else match left with
    | .array els => do
      noteHazard (op == "PLUS" && els.length > (← get).cfg.maxSmallArray) "large-array-append-shares-capacity"
        (hazardBase l)
      evalInfixOp op left right
    | _ => evalInfixOp op left right

theorem C01.evalI_inf (f : Nat) (op : String) (l r : Node)
    (hop : (op == "ASSIGN" || op == "DEFINE") = false) :
    evalI (f + 1) (.inf op l r) = C15.enter (do
      let left ← eval f l
      if left.isError then pure left
      else if op == "AND" && left.isFalse then pure (.bool false)
      else if op == "OR" && left.isTrue then pure (.bool true)
      else if op == "BITOR" && left.isStr && r.tokType == "LPAREN" then stop (.unmodelled "pipe")
      else C01.infixTail f op l r left) := by
  rw [evalI]; refine (C15.enter_of _).trans (congrArg C15.enter ?_)
  rw [hop, if_neg Bool.false_ne_true]
  refine bind_congr fun left => ?_
  refine ite_congr rfl (fun _ => rfl) fun _ => ?_
  -- the join points of the `do` block, innermost first: the tail, the pipe test, the `||` test
  extract_lets jp3 jp2 jp1
  have h3 : ∀ u, jp3 u = C01.infixTail f op l r left := fun _ => rfl
  have h2 : ∀ u, jp2 u = if op == "BITOR" && left.isStr && r.tokType == "LPAREN" then stop (.unmodelled "pipe")
      else C01.infixTail f op l r left := by
    intro u; unfold jp2; simp only [h3]
    cases op == "BITOR"
    · rfl
    · cases left with | str _ => cases r.tokType == "LPAREN" <;> rfl | _ => rfl
  have h1 : ∀ u, jp1 u = if op == "OR" && left.isTrue then pure (.bool true) else jp2 () := by
    intro u; unfold jp1
    cases op == "OR"
    · rfl
    · cases left with | bool b => cases b <;> rfl | _ => rfl
  rw [← h2 (), ← h1 ()]
  cases op == "AND"
  · rfl
  · cases left with | bool b => cases b <;> rfl | _ => rfl

/-- the general rule of a binary operator node (not an assignment): the left operand ran to `lv`, from the
state `evalI` hands on; what follows is decided by `lv`, in the state the left operand left -/
theorem C01.run_inf (f : Nat) (op : String) (l r : Node) (st : St) (lv : Obj)
    (hd : st.cfg.deadlineAfter = none) (hop : (op == "ASSIGN" || op == "DEFINE") = false)
    (hl : outcome (eval f l) (C15.bump st) = .ok lv) :
    run (evalI (f + 1) (.inf op l r)) st = run (
      if lv.isError then pure lv
      else if op == "AND" && lv.isFalse then pure (.bool false)
      else if op == "OR" && lv.isTrue then pure (.bool true)
      else if op == "BITOR" && lv.isStr && r.tokType == "LPAREN" then stop (.unmodelled "pipe")
      else C01.infixTail f op l r lv) (stateAfter (eval f l) (C15.bump st)) := by
  rw [C01.evalI_inf f op l r hop, C15.run_enter _ _ hd, run_bind_ok _ hl]

/-- a stopped left operand (Go panic, depth guard, fuel, unmodelled) stops the node: the right operand is
not evaluated -/
theorem C01.infix_left_stop (f : Nat) (op : String) (l r : Node) (st : St) (e : Stop)
    (hd : st.cfg.deadlineAfter = none) (hop : (op == "ASSIGN" || op == "DEFINE") = false)
    (hl : outcome (eval f l) (C15.bump st) = .error e) :
    outcome (evalI (f + 1) (.inf op l r)) st = .error e
    ∧ stateAfter (evalI (f + 1) (.inf op l r)) st = stateAfter (eval f l) (C15.bump st) := by
  rw [C01.evalI_inf f op l r hop]
  exact of_run_eq (by rw [C15.run_enter _ _ hd, run_bind_error _ hl])

/-- a left operand that evaluates to an error VALUE is the result: the right operand is not evaluated -/
theorem C01.infix_left_error (f : Nat) (op : String) (l r : Node) (st : St) (m : String)
    (hd : st.cfg.deadlineAfter = none) (hop : (op == "ASSIGN" || op == "DEFINE") = false)
    (hl : outcome (eval f l) (C15.bump st) = .ok (.error m)) :
    SameRun (evalI (f + 1) (.inf op l r)) st (eval f l) (C15.bump st) :=
  (SameRun.of_run (C01.run_inf f op l r st _ hd hop hl)).trans ⟨hl.symm, rfl⟩

/-- `&&` short-circuits: a left operand evaluating to `false` is the result, and the right operand is NOT
evaluated (outcome and final state are those of the left operand alone) -/
theorem C01.and_short_circuit (f : Nat) (l r : Node) (st : St) (hd : st.cfg.deadlineAfter = none)
    (hl : outcome (eval f l) (C15.bump st) = .ok (.bool false)) :
    SameRun (evalI (f + 1) (.inf "AND" l r)) st (eval f l) (C15.bump st) :=
  (SameRun.of_run (C01.run_inf f "AND" l r st _ hd rfl hl)).trans ⟨hl.symm, rfl⟩

/-- `||` short-circuits on `true` -/
theorem C01.or_short_circuit (f : Nat) (l r : Node) (st : St) (hd : st.cfg.deadlineAfter = none)
    (hl : outcome (eval f l) (C15.bump st) = .ok (.bool true)) :
    SameRun (evalI (f + 1) (.inf "OR" l r)) st (eval f l) (C15.bump st) :=
  (SameRun.of_run (C01.run_inf f "OR" l r st _ hd rfl hl)).trans ⟨hl.symm, rfl⟩

/-- the left operand ran to the value `lv` which is neither an error nor short-circuiting (nor the unmodelled
string-pipe form): the node continues with the right operand IN THE STATE THE LEFT OPERAND LEFT -/
theorem C01.infix_continue (f : Nat) (op : String) (l r : Node) (st : St) (lv : Obj)
    (hd : st.cfg.deadlineAfter = none) (hop : (op == "ASSIGN" || op == "DEFINE") = false)
    (hl : outcome (eval f l) (C15.bump st) = .ok lv) (he : lv.isError = false)
    (hand : (op == "AND" && lv.isFalse) = false) (hor : (op == "OR" && lv.isTrue) = false)
    (hpipe : (op == "BITOR" && lv.isStr && r.tokType == "LPAREN") = false) :
    SameRun (evalI (f + 1) (.inf op l r)) st (C01.infixTail f op l r lv) (stateAfter (eval f l) (C15.bump st)) := by
  have h := C01.run_inf f op l r st lv hd hop hl
  rw [he, hand, hor, hpipe] at h
  exact SameRun.of_run h

/-- the right operand stopped abnormally: so does the node -/
theorem C01.infixTail_stop (f : Nat) (op : String) (l r : Node) (lv : Obj) (s1 : St) (e : Stop)
    (hr : outcome (eval f r) s1 = .error e) :
    outcome (C01.infixTail f op l r lv) s1 = .error e
    ∧ stateAfter (C01.infixTail f op l r lv) s1 = stateAfter (eval f r) s1 :=
  of_run_eq (run_bind_error _ hr)

/-- the right operand evaluated to an error value: that is the result -/
theorem C01.infixTail_error (f : Nat) (op : String) (l r : Node) (lv : Obj) (s1 : St) (m : String)
    (hr : outcome (eval f r) s1 = .ok (.error m)) :
    SameRun (C01.infixTail f op l r lv) s1 (eval f r) s1 :=
  (C01.sameRun_bind_ok _ _ _ _ hr).trans ⟨hr.symm, rfl⟩

/-- both operands evaluated (left first, to `lv`; then right, to `rv`, from the state the left one left):
the result is the operator applied to the two values, in the state after the right operand.  (For an array
on the left the instrumentation line may log a hazard first; stated for the other values.) -/
theorem C01.infixTail_apply (f : Nat) (op : String) (l r : Node) (lv rv : Obj) (s1 : St)
    (hr : outcome (eval f r) s1 = .ok rv) (he : rv.isError = false) (hna : ∀ els, lv ≠ .array els) :
    SameRun (C01.infixTail f op l r lv) s1 (evalInfixOp op lv rv) (stateAfter (eval f r) s1) := by
  refine (C01.sameRun_bind_ok _ _ _ _ hr).trans ?_
  rw [he]
  cases lv with
  | array els => exact absurd rfl (hna els)
  | _ => exact SameRun.refl _ _

/-- … and for an array on the left: the same, preceded by the (never read) hazard log entry -/
theorem C01.infixTail_apply_array (f : Nat) (op : String) (l r : Node) (els : List Obj) (rv : Obj) (s1 : St)
    (hr : outcome (eval f r) s1 = .ok rv) (he : rv.isError = false)
    (hsmall : (op == "PLUS" && decide (els.length > (stateAfter (eval f r) s1).cfg.maxSmallArray)) = false) :
    SameRun (C01.infixTail f op l r (.array els)) s1 (evalInfixOp op (.array els) rv) (stateAfter (eval f r) s1) := by
  refine (C01.sameRun_bind_ok _ _ _ _ hr).trans ?_
  rw [he]
  refine (C01.sameRun_bind_ok (get : M St) _ _ _ rfl).trans ?_
  show SameRun (noteHazard (op == "PLUS" && decide _) _ _ >>= _) _ _ _
  rw [hsmall]
  exact SameRun.refl _ _

/-- the value of `&&` / `||` once the right operand is evaluated: `true && v`, `false || v` are `true` exactly
when `v` is `true` (a non-boolean `v` gives `false`, as in eval.go: `left == TRUE && right == TRUE`);
no state change -/
theorem C01.and_or_apply (rv : Obj) :
    evalInfixOp "AND" (.bool true) rv = pure (.bool rv.isTrue)
    ∧ evalInfixOp "OR" (.bool false) rv = pure (.bool rv.isTrue) := by
  cases rv with
  | bool b => cases b <;> exact ⟨rfl, rfl⟩
  | _ => exact ⟨rfl, rfl⟩

/-- `a && b` with `a` true and `b` evaluating to a non-error value: the result is `b`'s truth, the state is
the one after evaluating `a` then `b` -/
theorem C01.and_true (f : Nat) (l r : Node) (st : St) (rv : Obj) (hd : st.cfg.deadlineAfter = none)
    (hl : outcome (eval f l) (C15.bump st) = .ok (.bool true))
    (hr : outcome (eval f r) (stateAfter (eval f l) (C15.bump st)) = .ok rv) (he : rv.isError = false) :
    outcome (evalI (f + 1) (.inf "AND" l r)) st = .ok (.bool rv.isTrue)
    ∧ stateAfter (evalI (f + 1) (.inf "AND" l r)) st =
        stateAfter (eval f r) (stateAfter (eval f l) (C15.bump st)) := by
  have h := (C01.infix_continue f "AND" l r st (.bool true) hd rfl hl rfl rfl rfl rfl).trans
    (C01.infixTail_apply f "AND" l r (.bool true) rv _ hr he (fun _ h => by cases h))
  rw [(C01.and_or_apply rv).1] at h
  exact h

theorem C01.or_false (f : Nat) (l r : Node) (st : St) (rv : Obj) (hd : st.cfg.deadlineAfter = none)
    (hl : outcome (eval f l) (C15.bump st) = .ok (.bool false))
    (hr : outcome (eval f r) (stateAfter (eval f l) (C15.bump st)) = .ok rv) (he : rv.isError = false) :
    outcome (evalI (f + 1) (.inf "OR" l r)) st = .ok (.bool rv.isTrue)
    ∧ stateAfter (evalI (f + 1) (.inf "OR" l r)) st =
        stateAfter (eval f r) (stateAfter (eval f l) (C15.bump st)) := by
  have h := (C01.infix_continue f "OR" l r st (.bool false) hd rfl hl rfl rfl rfl rfl).trans
    (C01.infixTail_apply f "OR" l r (.bool false) rv _ hr he (fun _ h => by cases h))
  rw [(C01.and_or_apply rv).2] at h
  exact h

/-- a plain binary operator (not assignment, `&&`, `||`, `|`): left, then right, then `evalInfixOp` -/
theorem C01.infix_plain (f : Nat) (op : String) (l r : Node) (st : St) (lv rv : Obj)
    (hd : st.cfg.deadlineAfter = none)
    (hop : (op == "ASSIGN" || op == "DEFINE" || op == "AND" || op == "OR" || op == "BITOR") = false)
    (hl : outcome (eval f l) (C15.bump st) = .ok lv) (hle : lv.isError = false) (hna : ∀ els, lv ≠ .array els)
    (hr : outcome (eval f r) (stateAfter (eval f l) (C15.bump st)) = .ok rv) (hre : rv.isError = false) :
    SameRun (evalI (f + 1) (.inf op l r)) st (evalInfixOp op lv rv)
      (stateAfter (eval f r) (stateAfter (eval f l) (C15.bump st))) := by
  simp only [Bool.or_eq_false_iff] at hop
  obtain ⟨⟨⟨⟨h1, h2⟩, h3⟩, h4⟩, h5⟩ := hop
  refine (C01.infix_continue f op l r st lv hd (by simp [h1, h2]) hl hle (by simp [h3]) (by simp [h4])
    (by simp [h5])).trans ?_
  exact C01.infixTail_apply f op l r lv rv _ hr hre hna

/-! non-vacuity: `false && (1/0 …)`, `true && false`, `1 + 2` at concrete fuel in the default state -/
example : outcome (eval 2 (.bool false)) (C15.bump {}) = .ok (.bool false) := rfl
example : outcome (evalI 3 (.inf "AND" (.bool false) (.ident "nosuch"))) {} = .ok (.bool false) := rfl
example : outcome (eval 2 (.bool true)) (C15.bump {}) = .ok (.bool true) := rfl
example : outcome (evalI 3 (.inf "AND" (.bool true) (.bool false))) {} = .ok (.bool false) :=
  C01.eq_ok_bool (by decide +kernel)
example : outcome (evalI 3 (.inf "PLUS" (.int 1) (.int 2))) {} = .ok (.int 3) := C01.eq_ok_int (by decide +kernel)
example : ("PLUS" == "ASSIGN" || "PLUS" == "DEFINE" || "PLUS" == "AND" || "PLUS" == "OR" || "PLUS" == "BITOR") = false := by
  decide

example : ({} : St).cfg.deadlineAfter = none := rfl
example : outcome (evalI 1 (.int 7)) {} = .ok (.int 7) := rfl

theorem C01.evalI_if (f : Nat) (c cons alt : Node) :
    evalI (f + 1) (.ifE c cons alt) = C15.enter (evalIf f c cons alt) := by
  rw [evalI]; exact C15.enter_of _

/-- `evalIfExpression`: condition (dereferenced), then exactly one branch -/
theorem C01.evalIf_eq (f : Nat) (c cons alt : Node) :
    evalIf (f + 1) c cons alt = (do
      let condition ← valueOf (← evalI f c)
      match condition with
      | .bool true => evalI f cons
      | .bool false =>
        match alt with
        | .none => pure .null
        | _ => evalI f alt
      | _ => pure (err "condition is not a boolean")) := by
  rw [evalIf.eq_def]; rfl

/-- the general rule of `if`: the condition ran to the plain value `cv`; exactly one branch, chosen by `cv`, runs
in the state the condition left -/
theorem C01.run_if (f : Nat) (c cons alt : Node) (st : St) (cv : Obj) (hd : st.cfg.deadlineAfter = none)
    (hc : outcome (evalI f c) (C15.bump st) = .ok cv) (hnr : ∀ e n, cv ≠ .ref e n) :
    run (evalI (f + 2) (.ifE c cons alt)) st = run (match cv with
      | .bool true => evalI f cons
      | .bool false =>
        match alt with
        | .none => pure .null
        | _ => evalI f alt
      | _ => pure (err "condition is not a boolean")) (stateAfter (evalI f c) (C15.bump st)) := by
  rw [C01.evalI_if, C01.evalIf_eq, C15.run_enter _ _ hd, C01.run_value_ok _ hc hnr]

/-- condition true: the consequence, evaluated in the state the condition left; the alternative is not evaluated -/
theorem C01.if_true (f : Nat) (c cons alt : Node) (st : St) (hd : st.cfg.deadlineAfter = none)
    (hc : outcome (evalI f c) (C15.bump st) = .ok (.bool true)) :
    SameRun (evalI (f + 2) (.ifE c cons alt)) st (evalI f cons) (stateAfter (evalI f c) (C15.bump st)) :=
  SameRun.of_run (C01.run_if f c cons alt st _ hd hc fun _ _ h => by cases h)

/-- condition false, with an `else`: the alternative, evaluated in the state the condition left -/
theorem C01.if_false_else (f : Nat) (c cons alt : Node) (st : St) (hd : st.cfg.deadlineAfter = none)
    (hc : outcome (evalI f c) (C15.bump st) = .ok (.bool false)) (halt : alt = .none → False) :
    SameRun (evalI (f + 2) (.ifE c cons alt)) st (evalI f alt) (stateAfter (evalI f c) (C15.bump st)) := by
  have h := SameRun.of_run (C01.run_if f c cons alt st _ hd hc fun _ _ h => by cases h)
  cases alt <;> first | exact h | exact (halt rfl).elim

/-- condition false, no `else`: nil, in the state the condition left -/
theorem C01.if_false_noelse (f : Nat) (c cons : Node) (st : St) (hd : st.cfg.deadlineAfter = none)
    (hc : outcome (evalI f c) (C15.bump st) = .ok (.bool false)) :
    outcome (evalI (f + 2) (.ifE c cons .none)) st = .ok .null
    ∧ stateAfter (evalI (f + 2) (.ifE c cons .none)) st = stateAfter (evalI f c) (C15.bump st) :=
  of_run_eq (C01.run_if f c cons .none st _ hd hc fun _ _ h => by cases h)

/-- a condition that is not a boolean (an integer, nil, a string, even an error value) is the error
"condition is not a boolean" (eval.go `evalIfExpression` default case); no branch is evaluated -/
theorem C01.if_nonbool (f : Nat) (c cons alt : Node) (st : St) (cv : Obj) (hd : st.cfg.deadlineAfter = none)
    (hc : outcome (evalI f c) (C15.bump st) = .ok cv) (hnb : ∀ b, cv ≠ .bool b) (hnr : ∀ e n, cv ≠ .ref e n) :
    outcome (evalI (f + 2) (.ifE c cons alt)) st = .ok (err "condition is not a boolean")
    ∧ stateAfter (evalI (f + 2) (.ifE c cons alt)) st = stateAfter (evalI f c) (C15.bump st) := by
  have h := C01.run_if f c cons alt st cv hd hc hnr
  cases cv <;> first | exact of_run_eq h | exact absurd rfl (hnb _)

/-- the condition stopped abnormally: no branch is evaluated -/
theorem C01.if_stop (f : Nat) (c cons alt : Node) (st : St) (e : Stop) (hd : st.cfg.deadlineAfter = none)
    (hc : outcome (evalI f c) (C15.bump st) = .error e) :
    outcome (evalI (f + 2) (.ifE c cons alt)) st = .error e
    ∧ stateAfter (evalI (f + 2) (.ifE c cons alt)) st = stateAfter (evalI f c) (C15.bump st) := by
  rw [C01.evalI_if, C01.evalIf_eq]
  exact of_run_eq (by rw [C15.run_enter _ _ hd, run_bind_error _ hc])

example : outcome (evalI 1 (.bool true)) (C15.bump {}) = .ok (.bool true) := rfl
example : outcome (evalI 3 (.ifE (.bool true) (.int 1) (.int 2))) {} = .ok (.int 1) := rfl
example : outcome (evalI 3 (.ifE (.bool false) (.int 1) (.int 2))) {} = .ok (.int 2) := rfl
example : outcome (evalI 3 (.ifE (.int 5) (.int 1) (.int 2))) {} = .ok (err "condition is not a boolean") := rfl

/-! ## statement lists: left to right, threading the state; the value is the last statement's -/

/-- a statement that ran to a non-stopping value: the list continues with the rest, in the state the
statement left, carrying its value -/
theorem C01.stmts_cons_continue (f : Nat) (s : Node) (rest : List Node) (res v : Obj) (st : St)
    (hs : s ≠ .comment) (h : outcome (evalI f s) st = .ok v) (hv : v.stops = false) :
    SameRun (evalStatements (f + 1) (s :: rest) res) st (evalStatements f rest v) (stateAfter (evalI f s) st) := by
  rw [C15.evalStatements_cons _ _ _ _ hs]
  exact SameRun.of_run (by rw [run_bind_ok _ h, hv]; rfl)

/-- a statement whose value is an error or a `return`/`break`/`continue` value stops the list: the rest is
NOT evaluated, value and state are the statement's -/
theorem C01.stmts_cons_stops (f : Nat) (s : Node) (rest : List Node) (res v : Obj) (st : St)
    (hs : s ≠ .comment) (h : outcome (evalI f s) st = .ok v) (hv : v.stops = true) :
    SameRun (evalStatements (f + 1) (s :: rest) res) st (evalI f s) st := by
  rw [C15.evalStatements_cons _ _ _ _ hs]
  refine (C01.sameRun_bind_ok _ _ _ _ h).trans ?_
  rw [hv]
  exact ⟨h.symm, rfl⟩

/-- a statement that stopped abnormally stops the list -/
theorem C01.stmts_cons_stop (f : Nat) (s : Node) (rest : List Node) (res : Obj) (st : St) (e : Stop)
    (hs : s ≠ .comment) (h : outcome (evalI f s) st = .error e) :
    outcome (evalStatements (f + 1) (s :: rest) res) st = .error e
    ∧ stateAfter (evalStatements (f + 1) (s :: rest) res) st = stateAfter (evalI f s) st := by
  rw [C15.evalStatements_cons _ _ _ _ hs]
  exact of_run_eq (run_bind_error _ h)

/-- a one-statement list is the statement -/
theorem C01.stmts_singleton (f : Nat) (s : Node) (res : Obj) (hs : s ≠ .comment) :
    evalStatements (f + 2) [s] res = evalI (f + 1) s := by
  rw [C15.evalStatements_cons _ _ _ _ hs]
  have : ∀ r : Obj, (if r.stops then pure r else evalStatements (f + 1) [] r : M Obj) = pure r := by
    intro r; rw [C15.evalStatements_nil]; split <;> rfl
  simp only [this, bind_pure]

/-- the value of a list is the value of its LAST statement, evaluated in the state the statements before it
left (when none of them stopped the list) -/
theorem C01.stmts_last (n : Nat) (a : List Node) (s : Node) (res r : Obj) (st : St)
    (hres : res.stops = false) (hs : s ≠ .comment)
    (ha : outcome (evalStatements (n + 1 + a.length + 1) a res) st = .ok r) (hr : r.stops = false) :
    SameRun (evalStatements (n + 1 + a.length + 1) (a ++ [s]) res) st (evalI (n + 1) s)
      (stateAfter (evalStatements (n + 1 + a.length + 1) a res) st) := by
  have h := C15.chunks_outcome_gen (n + 1) a [s] res r st hres ha hr
  rw [C01.stmts_singleton n s r hs] at h
  exact h

example : outcome (evalStatements 4 ([.int 1, .int 2] ++ [.int 3]) .null) {} = .ok (.int 3) := rfl
example : outcome (evalStatements 4 [.int 1, .ret (.int 2), .ident "nosuch"] .null) {} = .ok (.ret (.int 2) "RETURN") := rfl

/-- `!e`, `-e`, `+e`, `^e`/`~e`: the operand is evaluated (through `Eval`), an error value propagates,
otherwise `evalPrefixOp` applies -/
theorem C01.evalI_pre (f : Nat) (op : String) (right : Node) (hop : (op == "INCR" || op == "DECR") = false) :
    evalI (f + 1) (.pre op right) = C15.enter (do
      let r ← eval f right
      if r.isError then pure r else pure (evalPrefixOp op r)) := by
  rw [evalI]; refine (C15.enter_of _).trans (congrArg C15.enter ?_)
  rw [hop]; rfl

theorem C01.prefix_apply (f : Nat) (op : String) (right : Node) (st : St) (v : Obj)
    (hd : st.cfg.deadlineAfter = none) (hop : (op == "INCR" || op == "DECR") = false)
    (hr : outcome (eval f right) (C15.bump st) = .ok v) (he : v.isError = false) :
    outcome (evalI (f + 1) (.pre op right)) st = .ok (evalPrefixOp op v)
    ∧ stateAfter (evalI (f + 1) (.pre op right)) st = stateAfter (eval f right) (C15.bump st) := by
  rw [C01.evalI_pre f op right hop]
  exact of_run_eq (by rw [C15.run_enter _ _ hd, run_bind_ok _ hr, he]; rfl)

/-- the operator table of `evalPrefixExpression` -/
theorem C01.prefix_table (i : Int64) (b : Bool) (fb : UInt64) (s : Grol.Wire.Bytes) :
    evalPrefixOp "BANG" (.bool b) = .bool (!b) ∧ evalPrefixOp "BANG" .null = .bool true
    ∧ evalPrefixOp "BANG" (.int i) = err "not of"
    ∧ evalPrefixOp "MINUS" (.int i) = .int (-i) ∧ evalPrefixOp "MINUS" (.float fb) = .float (-(f64 fb)).toBits
    ∧ evalPrefixOp "MINUS" (.str s) = err "minus of" ∧ evalPrefixOp "MINUS" (.bool b) = err "minus of"
    ∧ evalPrefixOp "PLUS" (.int i) = .int i ∧ evalPrefixOp "PLUS" (.str s) = .str s
    ∧ evalPrefixOp "BITNOT" (.int i) = .int (~~~i) ∧ evalPrefixOp "BITXOR" (.int i) = .int (~~~i)
    ∧ evalPrefixOp "BITNOT" (.bool b) = err "bitwise not of" :=
  ⟨rfl, rfl, rfl, rfl, rfl, rfl, rfl, rfl, rfl, rfl, rfl, rfl⟩

example : outcome (evalI 3 (.pre "MINUS" (.int 5))) {} = .ok (.int (-5)) := rfl
example : outcome (evalI 3 (.pre "BANG" (.bool true))) {} = .ok (.bool false) := rfl

theorem C01.evalI_for (f : Nat) (c body : Node) :
    evalI (f + 1) (.forE c body) = C15.enter (evalFor f c body) := by
  rw [evalI]; exact C15.enter_of _

/-- a loop header that is not an assignment `x = …` / `x := …` is no special form … -/
theorem C01.forSpecial_none (f : Nat) (c body : Node) (hc : ∀ op l r, c ≠ .inf op l r) :
    evalForSpecialForms (f + 1) c body = pure none := by
  rw [evalForSpecialForms]
  exact hc

/-- … so `for c {body}` is the generic loop, started with the value nil -/
theorem C01.evalFor_generic (f : Nat) (c body : Node) (hc : ∀ op l r, c ≠ .inf op l r) :
    evalFor (f + 2) c body = evalForLoop (f + 1) c body .null := by
  rw [evalFor, C01.forSpecial_none f c body hc, pure_bind]

/-! the generic loop `for cond {body}` (`evalForExpression`): one iteration -/

/-- what one iteration does with the value `r` of the body: shared by the generic and the counting loop
(`again` = the loop continued with a given value so far) -/
theorem C01.run_while (k : Nat) (c body : Node) (last cv : Obj) (st : St)
    (hc : outcome (evalI k c) st = .ok cv) (hp : ∀ e n, cv ≠ .ref e n) :
    run (evalForLoop (k + 1) c body last) st = run (match cv with
      | .bool true => do
        let r ← evalI k body
        match r with
        | .error _ => pure r
        | .ret _ kind =>
          if kind == "BREAK" then pure last
          else if kind == "CONTINUE" then evalForLoop k c body last
          else pure r
        | _ => evalForLoop k c body r
      | .bool false | .null => pure last
      | .error _ => pure cv
      | .int n => evalForInteger k body 0 n.toInt "" .null
      | _ => pure (err "for condition is not a boolean nor integer nor assignment")) (stateAfter (evalI k c) st) := by
  rw [evalForLoop, C01.run_value_ok _ hc hp]
  rfl

/-- condition false (or nil): the loop ends with the value of the last iteration (nil if there was none) -/
theorem C01.while_done (k : Nat) (c body : Node) (last cv : Obj) (st : St)
    (hc : outcome (evalI k c) st = .ok cv) (hcv : cv = .bool false ∨ cv = .null) :
    outcome (evalForLoop (k + 1) c body last) st = .ok last
    ∧ stateAfter (evalForLoop (k + 1) c body last) st = stateAfter (evalI k c) st := by
  rcases hcv with h | h <;> subst h <;> exact of_run_eq (C01.run_while k c body last _ st hc fun _ _ h => by cases h)

/-- condition true, the body ran to an ordinary value `r`: the loop goes on (condition again, in the state the
body left) with `r` as the value so far -/
theorem C01.while_unroll (k : Nat) (c body : Node) (last r : Obj) (st : St)
    (hc : outcome (evalI k c) st = .ok (.bool true))
    (hb : outcome (evalI k body) (stateAfter (evalI k c) st) = .ok r) (hr : r.stops = false) :
    SameRun (evalForLoop (k + 1) c body last) st (evalForLoop k c body r)
      (stateAfter (evalI k body) (stateAfter (evalI k c) st)) := by
  refine SameRun.of_run ((C01.run_while k c body last _ st hc fun _ _ h => by cases h).trans ?_)
  rw [run_bind_ok _ hb]
  cases r <;> first | rfl | cases hr

/-- `break`: the loop ends with the value of the iteration before; `continue`: the loop goes on, keeping that
value; `return` (or any other control value) and an error value end the loop and are its value -/
theorem C01.while_control (k : Nat) (c body : Node) (last v : Obj) (st : St) (m : String)
    (hc : outcome (evalI k c) st = .ok (.bool true)) :
    (outcome (evalI k body) (stateAfter (evalI k c) st) = .ok (.ret v "BREAK") →
      SameRun (evalForLoop (k + 1) c body last) st (pure last)
        (stateAfter (evalI k body) (stateAfter (evalI k c) st)))
    ∧ (outcome (evalI k body) (stateAfter (evalI k c) st) = .ok (.ret v "CONTINUE") →
      SameRun (evalForLoop (k + 1) c body last) st (evalForLoop k c body last)
        (stateAfter (evalI k body) (stateAfter (evalI k c) st)))
    ∧ (outcome (evalI k body) (stateAfter (evalI k c) st) = .ok (.ret v "RETURN") →
      SameRun (evalForLoop (k + 1) c body last) st (pure (.ret v "RETURN"))
        (stateAfter (evalI k body) (stateAfter (evalI k c) st)))
    ∧ (outcome (evalI k body) (stateAfter (evalI k c) st) = .ok (.error m) →
      SameRun (evalForLoop (k + 1) c body last) st (pure (.error m))
        (stateAfter (evalI k body) (stateAfter (evalI k c) st))) := by
  have h := C01.run_while k c body last _ st hc fun _ _ h => by cases h
  refine ⟨fun hb => ?_, fun hb => ?_, fun hb => ?_, fun hb => ?_⟩ <;>
    exact SameRun.of_run (h.trans (run_bind_ok _ hb))

/-- an integer condition `for n {body}`: the counting loop over `[0, n)` without a loop variable, started in
the state the evaluation of `n` left -/
theorem C01.while_int (k : Nat) (c body : Node) (last : Obj) (n : Int64) (st : St)
    (hc : outcome (evalI k c) st = .ok (.int n)) :
    SameRun (evalForLoop (k + 1) c body last) st (evalForInteger k body 0 n.toInt "" .null)
      (stateAfter (evalI k c) st) :=
  SameRun.of_run (C01.run_while k c body last _ st hc fun _ _ h => by cases h)

/-- any other condition value (a string, an array, …) is an error -/
theorem C01.while_bad_condition (k : Nat) (c body : Node) (last : Obj) (s : Grol.Wire.Bytes) (st : St)
    (hc : outcome (evalI k c) st = .ok (.str s)) :
    outcome (evalForLoop (k + 1) c body last) st =
      .ok (err "for condition is not a boolean nor integer nor assignment") :=
  (of_run_eq (C01.run_while k c body last _ st hc fun _ _ h => by cases h)).1

/-! the counting loop (`evalForInteger`), no loop variable (`name = ""`) -/

/-- `for 0 {…}` and the end of every counting loop: no iteration left, the value so far, NO effect at all -/
theorem C01.forInteger_done (k : Nat) (body : Node) (i : Int) (name : String) (last : Obj) :
    evalForInteger (k + 1) body i i name last = pure last := by
  rw [evalForInteger]
  simp

/-- a negative count is an error -/
theorem C01.forInteger_negative (k : Nat) (body : Node) (i endV : Int) (name : String) (last : Obj)
    (h : endV < i) :
    evalForInteger (k + 1) body i endV name last = pure (err "for loop with negative count") := by
  rw [evalForInteger]
  have : endV - i < 0 := by omega
  simp [this]

/-- the general rule of the counting loop without a loop variable: with iterations left (`i < end`) the body runs, and
its value `r` decides how the loop goes on -/
theorem C01.run_forInteger (k : Nat) (body : Node) (i endV : Int) (last r : Obj) (st : St)
    (h : i < endV) (hb : outcome (evalI k body) st = .ok r) :
    run (evalForInteger (k + 1) body i endV "" last) st = run (match r with
      | .error _ => pure r
      | .ret _ kind =>
        if kind == "BREAK" then pure last
        else if kind == "CONTINUE" then evalForInteger k body (i + 1) endV "" last
        else if kind == "RETURN" then pure r
        else pure (err "for loop unexpected control type")
      | _ => evalForInteger k body (i + 1) endV "" r) (stateAfter (evalI k body) st) := by
  have h1 : ¬ (endV - i < 0) := by omega
  have h2 : ¬ (i ≥ endV) := by omega
  rw [evalForInteger]
  simp only [h1, h2, if_false, bne_self_eq_false, Bool.false_eq_true]
  rw [run_bind_ok _ hb]
  rfl

/-- the unrolling law: with iterations left (`i < end`), the loop is the body, and then — when the body ran
to an ordinary value `r` — the loop from `i + 1` in the state the body left, with `r` as the value so far -/
theorem C01.forInteger_unroll (k : Nat) (body : Node) (i endV : Int) (last r : Obj) (st : St)
    (h : i < endV) (hb : outcome (evalI k body) st = .ok r) (hr : r.stops = false) :
    SameRun (evalForInteger (k + 1) body i endV "" last) st (evalForInteger k body (i + 1) endV "" r)
      (stateAfter (evalI k body) st) := by
  have h := SameRun.of_run (C01.run_forInteger k body i endV last r st h hb)
  cases r <;> first | exact h | cases hr

/-- `break` / `continue` / `return` / error value in a counting loop -/
theorem C01.forInteger_control (k : Nat) (body : Node) (i endV : Int) (last v : Obj) (st : St) (m : String)
    (h : i < endV) :
    (outcome (evalI k body) st = .ok (.ret v "BREAK") →
      SameRun (evalForInteger (k + 1) body i endV "" last) st (pure last) (stateAfter (evalI k body) st))
    ∧ (outcome (evalI k body) st = .ok (.ret v "CONTINUE") →
      SameRun (evalForInteger (k + 1) body i endV "" last) st (evalForInteger k body (i + 1) endV "" last)
        (stateAfter (evalI k body) st))
    ∧ (outcome (evalI k body) st = .ok (.ret v "RETURN") →
      SameRun (evalForInteger (k + 1) body i endV "" last) st (pure (.ret v "RETURN")) (stateAfter (evalI k body) st))
    ∧ (outcome (evalI k body) st = .ok (.error m) →
      SameRun (evalForInteger (k + 1) body i endV "" last) st (pure (.error m)) (stateAfter (evalI k body) st)) := by
  refine ⟨fun hb => ?_, fun hb => ?_, fun hb => ?_, fun hb => ?_⟩ <;>
    exact SameRun.of_run (C01.run_forInteger k body i endV last _ st h hb)

/-- `for n {body}` as a node, `n` an integer literal: the prologue, the literal, then the counting loop -/
example : outcome (evalI 9 (.forE (.int 3) (.int 7))) {} = .ok (.int 7) := C01.eq_ok_int (by decide +kernel)
example : outcome (evalI 6 (.forE (.int 0) (.ident "nosuch"))) {} = .ok .null := rfl
example : outcome (evalI 6 (.forE (.bool false) (.int 7))) {} = .ok .null := rfl
example : outcome (evalI 1 (.int 7)) {} = .ok (.int 7) ∧ (Obj.int 7).stops = false := ⟨rfl, rfl⟩

theorem C01.cmpInt64_spec (a b : Int64) :
    (cmpInt64 a b == -1) = decide (a < b) ∧ (cmpInt64 a b == 1) = decide (b < a)
    ∧ (cmpInt64 a b == 0) = decide (a = b)
    ∧ decide (cmpInt64 a b ≤ 0) = decide (a ≤ b) ∧ decide (cmpInt64 a b ≥ 0) = decide (b ≤ a) := by
  unfold cmpInt64
  -- over `Int` every branch of the three-way comparison is linear arithmetic
  simp only [GT.gt, Int64.lt_iff_toInt_lt, Int64.le_iff_toInt_le, ← Int64.toInt_inj]
  split
  · simp; omega
  · split <;> simp <;> omega

/-- `< > <= >= == !=` on two integers: booleans that agree with the order of `Int64`; no state change -/
theorem C01.int_compare (a b : Int64) (st : St) :
    outcome (evalInfixOp "LT" (.int a) (.int b)) st = .ok (.bool (decide (a < b)))
    ∧ outcome (evalInfixOp "GT" (.int a) (.int b)) st = .ok (.bool (decide (b < a)))
    ∧ outcome (evalInfixOp "LTEQ" (.int a) (.int b)) st = .ok (.bool (decide (a ≤ b)))
    ∧ outcome (evalInfixOp "GTEQ" (.int a) (.int b)) st = .ok (.bool (decide (b ≤ a)))
    ∧ outcome (evalInfixOp "EQ" (.int a) (.int b)) st = .ok (.bool (decide (a = b)))
    ∧ outcome (evalInfixOp "NOTEQ" (.int a) (.int b)) st = .ok (.bool (!decide (a = b)))
    ∧ (∀ op, op ∈ ["LT", "GT", "LTEQ", "GTEQ", "EQ", "NOTEQ"] →
        stateAfter (evalInfixOp op (.int a) (.int b)) st = st) := by
  obtain ⟨h1, h2, h3, h4, h5⟩ := C01.cmpInt64_spec a b
  refine ⟨?_, ?_, ?_, ?_, ?_, ?_, ?_⟩
  · rw [← h1]; rfl
  · rw [← h2]; rfl
  · rw [← h4]; rfl
  · rw [← h5]; rfl
  · rw [← h3]; rfl
  · rw [← h3]; rfl
  · exact fun op _ => evalInfixOp_readOnly op _ _ st

/-- below the model's allocation bound the guard does nothing -/
theorem C01.mustBeOk_small {n : Int} (h : n ≤ sizeLimit) : mustBeOk n = pure () :=
  if_neg (Int.not_lt.mpr h)

/-- string `+` is concatenation (below the model's allocation bound); no state change -/
theorem C01.string_concat (l r : Grol.Wire.Bytes) (st : St)
    (hsz : ((l.length + r.length : Nat) : Int) / 16 ≤ sizeLimit) :
    outcome (evalInfixOp "PLUS" (.str l) (.str r)) st = .ok (.str (l ++ r))
    ∧ stateAfter (evalInfixOp "PLUS" (.str l) (.str r)) st = st := by
  have h : evalInfixOp "PLUS" (.str l) (.str r) = (do
      mustBeOk (((l.length + r.length : Nat) : Int) / 16)
      pure (.str (l ++ r))) := rfl
  rw [h, C01.mustBeOk_small hsz]
  exact ⟨rfl, rfl⟩

/-- array `+` array is the concatenation, array `+` other value appends it; the result is a NEW value: the
state — hence every binding that held the left operand — is unchanged -/
theorem C01.array_append (l r : List Obj) (v : Obj) (st : St)
    (hsz : ((l.length : Int) + r.length) ≤ sizeLimit)
    (hv : (∀ els, v ≠ .array els) ∧ (∀ e n, v ≠ .ref e n) ∧ (∀ b, v ≠ .float b)) :
    (outcome (evalInfixOp "PLUS" (.array l) (.array r)) st = .ok (.array (l ++ r))
      ∧ stateAfter (evalInfixOp "PLUS" (.array l) (.array r)) st = st)
    ∧ (outcome (evalInfixOp "PLUS" (.array l) v) st = .ok (.array (l ++ [v]))
      ∧ stateAfter (evalInfixOp "PLUS" (.array l) v) st = st) := by
  constructor
  · have h : evalInfixOp "PLUS" (.array l) (.array r) = (do
        mustBeOk ((l.length : Int) + r.length)
        pure (newArray (l ++ r))) := rfl
    rw [h, C01.mustBeOk_small hsz]
    exact ⟨rfl, rfl⟩
  · cases v with
    | array els => exact absurd rfl (hv.1 els)
    | ref e n => exact absurd rfl (hv.2.1 e n)
    | float b => exact absurd rfl (hv.2.2 b)
    | _ => exact ⟨rfl, rfl⟩

example : outcome (evalInfixOp "LT" (.int 2) (.int 3)) {} = .ok (.bool true) := rfl
example : outcome (evalInfixOp "PLUS" (.str [97]) (.str [98])) {} = .ok (.str [97, 98]) := rfl
example : outcome (evalInfixOp "PLUS" (.array [.int 1]) (.int 2)) {} = .ok (.array [.int 1, .int 2]) := rfl

/-- the current frame binds `name` to the plain (non-reference) value `v`, and `name` is an ordinary
identifier: not an extension, not `info` / `self`, not the name of the function the frame is running -/
structure C01.Binds (st : St) (name : String) (v : Obj) : Prop where
  frame : ∃ fr, st.frames[st.cur]? = some fr ∧ lookupStore fr.store name = some v
    ∧ (∀ fn, fr.function = some fn → fn.name ≠ some name)
  plain : ∀ e n, v ≠ .ref e n
  notExt : st.extNames.contains name = false
  notInfo : name ≠ "info"
  notSelf : name ≠ "self"

/-- `Get` of an ordinary name (not `info`, `self` or the name of the function the frame is running) is decided by
the frame's store -/
theorem C01.run_envGet_ordinary {st : St} {e : Nat} {fr : Frame} {name : String} (hfr : st.frames[e]? = some fr)
    (hi : name ≠ "info") (hs : name ≠ "self") (hfn : ∀ fn, fr.function = some fn → fn.name ≠ some name) :
    run (envGet e name) st = run (envGetStored e name fr) st := by
  have hown : (name == "self" || fr.function.any (·.name == some name)) = false := by
    rw [beq_false_of_ne hs, Bool.false_or]
    cases hf : fr.function with
    | none => rfl
    | some fn => exact beq_false_of_ne (hfn fn hf)
  rw [run_envGet, beq_false_of_ne hi, if_neg Bool.false_ne_true, hfr]
  dsimp only
  rw [hown, if_neg Bool.false_ne_true]

/-- `evalIdentifier`: an identifier bound in the current frame evaluates to the bound value; no state change -/
theorem C01.lookup_bound (name : String) (v : Obj) (st : St) (h : C01.Binds st name v) :
    run (evalIdentifier name) st = (.ok v, st) := by
  obtain ⟨⟨fr, hfr, hl, hfn⟩, hp, he, hi, hs⟩ := h
  exact run_evalIdentifier_bound he hfr (beq_false_of_ne hi) (beq_false_of_ne hs)
    (fun fn h => beq_false_of_ne (hfn fn h)) hl hp

theorem C01.run_valueOf_plain (v : Obj) (hp : ∀ e n, v ≠ .ref e n) (st : St) : run (valueOf v) st = (.ok v, st) := by
  rw [C01.valueOf_nonref v hp]; rfl

theorem C01.cur_lt (st : St) (fr : Frame) (hfr : st.frames[st.cur]? = some fr) : st.cur < st.frames.size :=
  (Array.getElem?_eq_some_iff.mp hfr).1

/-- the conditions under which an assignment to `name` in the current frame is an ordinary store there -/
structure C01.Assignable (st : St) (name : String) (fr : Frame) : Prop where
  frame : st.frames[st.cur]? = some fr
  notFn : ∀ fn, fr.function = some fn → fn.name ≠ some name
  notConst : isConstant name = false
  notExt : st.extNames.contains name = false
  notInfo : name ≠ "info"
  notSelf : name ≠ "self"

/-- `s1` is `st` after `v` was stored under `name` in the current frame, which was `fr`: same current frame, now
binding `name` to `v`, otherwise as `fr` for every lookup; the miss counter and the memo cache may differ -/
structure C01.Stored (st s1 : St) (name : String) (v : Obj) (fr : Frame) : Prop where
  cur : s1.cur = st.cur
  cfg : s1.cfg = st.cfg
  extNames : s1.extNames = st.extNames
  depth : s1.depth = st.depth
  frame : ∃ fr', s1.frames[st.cur]? = some fr' ∧ fr'.store = setStore fr.store name v
    ∧ fr'.function = fr.function ∧ fr'.outer = fr.outer

theorem C01.stored_set (st s : St) (name : String) (v : Obj) (fr fr' : Frame) (cache : List CacheEntry)
    (hs : s.cur = st.cur ∧ s.cfg = st.cfg ∧ s.extNames = st.extNames ∧ s.depth = st.depth)
    (hlt : st.cur < s.frames.size) (hstore : fr'.store = setStore fr.store name v)
    (hfun : fr'.function = fr.function) (hout : fr'.outer = fr.outer) :
    C01.Stored st { s with frames := s.frames.setIfInBounds st.cur fr', cache := cache } name v fr :=
  ⟨hs.1, hs.2.1, hs.2.2.1, hs.2.2.2, fr', by simp [hlt], hstore, hfun, hout⟩

theorem C01.Stored.binds {st s1 : St} {name : String} {v : Obj} {fr : Frame} (h : C01.Stored st s1 name v fr)
    (ha : C01.Assignable st name fr) (hp : ∀ e n, v ≠ .ref e n) : C01.Binds s1 name v := by
  obtain ⟨fr', h1, h2, h3, _⟩ := h.frame
  refine ⟨⟨fr', by rw [h.cur]; exact h1, by rw [h2]; exact lookupStore_setStore_eq _ _ _, by rw [h3]; exact ha.notFn⟩,
    hp, by rw [h.extNames]; exact ha.notExt, ha.notInfo, ha.notSelf⟩

theorem C01.envCreate_stores (st : St) (name : String) (v : Obj) (fr : Frame) (hfr : st.frames[st.cur]? = some fr)
    (hp : ∀ e n, v ≠ .ref e n) :
    ∃ s1, run (envCreate st.cur name v) st = (.ok v, s1) ∧ C01.Stored st s1 name v fr := by
  unfold envCreate rootBindsFunc
  simp only [run_bind, C01.run_valueOf_plain v hp, run_get, run_pure, run_modifyFrame, hfr]
  exact ⟨_, rfl, C01.stored_set st st name v fr _ st.cache ⟨rfl, rfl, rfl, rfl⟩ (C01.cur_lt st fr hfr) rfl rfl rfl⟩

/-- in the top level frame (no outer frame) an unbound name has nothing to refer to -/
theorem C01.run_makeRef_global (st : St) (name : String) (fr : Frame) (hfr : st.frames[st.cur]? = some fr)
    (ho : fr.outer = none) : run (makeRef st.cur name) st = (.ok none, st) := by
  have hlt := C01.cur_lt st fr hfr
  obtain ⟨k, hk⟩ : ∃ k, st.frames.size = k + 1 := ⟨st.frames.size - 1, by omega⟩
  unfold makeRef
  simp only [run_bind, run_get]
  rw [hk, makeRef.go]
  simp only [run_bind, run_getFrame, hfr, ho]
  rfl

theorem C01.envStoreAt_stores (st : St) (name : String) (v r : Obj) (fr : Frame)
    (hfr : st.frames[st.cur]? = some fr) (hr : lookupStore fr.store name = some r) :
    ∃ s1, run (envStoreAt st.cur st.cur name v) st = (.ok v, s1) ∧ C01.Stored st s1 name v fr := by
  have hlt := C01.cur_lt st fr hfr
  unfold envStoreAt functionChanged rootBindsFunc
  simp only [run_bind, run_getFrame, hfr, hr]
  cases hf : isFuncObj r
  · simp only [Bool.false_eq_true, if_false, run_pure, run_get, run_modifyFrame, hfr]
    exact ⟨_, rfl, C01.stored_set st st name v fr _ st.cache ⟨rfl, rfl, rfl, rfl⟩ hlt rfl rfl rfl⟩
  · -- a function is overwritten: a miss is counted on the frame and the memo cache emptied first
    rw [if_pos rfl]
    simp only [run_bind, run_modifyFrame, hfr, run_modify, run_get, run_pure]
    have h2 : ∀ fr2 : Frame, (st.frames.setIfInBounds st.cur fr2)[st.cur]? = some fr2 := by
      intro fr2; simp [hlt]
    simp only [h2]
    exact ⟨_, rfl, C01.stored_set st
      { st with frames := st.frames.setIfInBounds st.cur { fr with getMiss := fr.getMiss + 1 }, cache := [] }
      name v fr _ [] ⟨rfl, rfl, rfl, rfl⟩ (by simp [hlt]) rfl rfl rfl⟩

/-- `CreateOrSet` of an ordinary name whose store goes to the current frame: `:=`; or the name is unbound and the
frame is the top level one; or the name is bound there to a non-reference -/
theorem C01.createOrSet_stores (st : St) (name : String) (v : Obj) (create : Bool) (fr : Frame)
    (ha : C01.Assignable st name fr) (hp : ∀ e n, v ≠ .ref e n)
    (hcase : create = true ∨ (lookupStore fr.store name = none ∧ fr.outer = none)
      ∨ (∃ r, lookupStore fr.store name = some r ∧ ∀ re rn, r ≠ .ref re rn)) :
    ∃ s1, run (createOrSet st.cur name v create) st = (.ok v, s1) ∧ C01.Stored st s1 name v fr := by
  obtain ⟨hfr, hfn, hc, hext, hi, hs⟩ := ha
  unfold createOrSet
  simp only [hc, Bool.false_eq_true, if_false, run_bind, run_get, hext, pure_bind]
  unfold setNoChecks
  cases create with
  | true =>
    rw [if_pos rfl]
    exact C01.envCreate_stores st name v fr hfr hp
  | false =>
    simp only [Bool.false_eq_true, if_false, run_bind, run_getFrame, hfr]
    rcases hcase with h | ⟨h1, h2⟩ | ⟨r, h1, h2⟩
    · cases h
    · rw [h1]
      simp only [run_bind, C01.run_makeRef_global st name fr hfr h2]
      exact C01.envCreate_stores st name v fr hfr hp
    · rw [h1]
      unfold envUpdate
      have ht : updTarget st.cur name r = (st.cur, name) := by
        cases r <;> first | rfl | exact absurd rfl (h2 _ _)
      simp only [ht, pure_bind]
      exact C01.envStoreAt_stores st name v r fr hfr h1

theorem C01.createOrSet_binds (st : St) (name : String) (v : Obj) (create : Bool) (fr : Frame)
    (ha : C01.Assignable st name fr) (hp : ∀ e n, v ≠ .ref e n)
    (hcase : create = true ∨ (lookupStore fr.store name = none ∧ fr.outer = none)
      ∨ (∃ r, lookupStore fr.store name = some r ∧ ∀ re rn, r ≠ .ref re rn)) :
    ∃ s1, run (createOrSet st.cur name v create) st = (.ok v, s1) ∧ C01.Binds s1 name v :=
  let ⟨s1, h1, h2⟩ := C01.createOrSet_stores st name v create fr ha hp hcase
  ⟨s1, h1, h2.binds ha hp⟩

/-- the step counter is no part of a binding -/
theorem C01.Binds.bump {st : St} {name : String} {v : Obj} (h : C01.Binds st name v) :
    C01.Binds (C15.bump st) name v := ⟨h.1, h.2, h.3, h.4, h.5⟩

theorem C01.evalI_ident (f : Nat) (name : String) : evalI (f + 1) (.ident name) = C15.enter (evalIdentifier name) := by
  rw [evalI]; exact C15.enter_of _

/-- an identifier node, bound in the current frame: its value; the only state change is the step count -/
theorem C01.ident_bound (g : Nat) (name : String) (v : Obj) (st : St) (hd : st.cfg.deadlineAfter = none)
    (h : C01.Binds st name v) :
    outcome (evalI (g + 1) (.ident name)) st = .ok v ∧ stateAfter (evalI (g + 1) (.ident name)) st = C15.bump st := by
  rw [C01.evalI_ident]
  exact of_run_eq (by rw [C15.run_enter _ _ hd, C01.lookup_bound name v _ h.bump])

/-- an unbound identifier in the top level frame is the error value "identifier not found" -/
theorem C01.ident_unbound (g : Nat) (name : String) (st : St) (fr : Frame) (hd : st.cfg.deadlineAfter = none)
    (ha : C01.Assignable st name fr) (hl : lookupStore fr.store name = none) (ho : fr.outer = none) :
    outcome (evalI (g + 1) (.ident name)) st = .ok (err ("identifier not found: " ++ name)) := by
  obtain ⟨hfr, hfn, hc, hext, hi, hs⟩ := ha
  have hget : run (envGet (C15.bump st).cur name) (C15.bump st) = (.ok none, C15.bump st) := by
    rw [C01.run_envGet_ordinary (st := C15.bump st) (e := (C15.bump st).cur) hfr hi hs hfn]
    unfold envGetStored
    rw [hl, ho]
    rfl
  have hext' : (C15.bump st).extNames.contains name = false := hext
  rw [C01.evalI_ident, outcome_eq_run, C15.run_enter _ _ hd]
  unfold evalIdentifier
  simp only [run_bind, run_get, hext', Bool.false_eq_true, if_false, hget]
  rfl

theorem C01.sameRun_curEnv {α : Type} (g : Nat → M α) (s : St) : SameRun (curEnv >>= g) s (g s.cur) s :=
  ⟨rfl, rfl⟩

theorem C01.evalI_assign (f : Nat) (op : String) (l r : Node) (hop : (op == "ASSIGN" || op == "DEFINE") = true) :
    evalI (f + 1) (.inf op l r) = C15.enter (do
      let right ← eval f r
      evalAssignment f right op l) := by
  rw [evalI]; refine (C15.enter_of _).trans (congrArg C15.enter ?_)
  rw [hop]; rfl

/-- `evalAssignment` to an identifier: an error value on the right is the result, nothing is stored;
otherwise `CreateOrSet` in the current environment (`:=` creates) -/
theorem C01.evalAssignment_ident (f : Nat) (right : Obj) (op name : String) :
    evalAssignment (f + 1) right op (.ident name) =
      if right.isError then pure right
      else (do let e ← curEnv; createOrSet e name right (op == "DEFINE")) :=
  _root_.Grol.E.evalAssignment_ident f right op name

/-- `x = e` / `x := e` then `x`, in one frame: the assignment evaluates `e` (first, through `Eval`), stores
its value `v` in the current frame and has the value `v`; looking `x` up afterwards yields `v`.
Stated for an ordinary name (`C01.Assignable`: not all-caps constant, not an extension, `info`, `self` or the
running function's own name) and for the three cases in which the store goes to the current frame: `:=`; the
name is unbound and the frame is the top level one; the name is bound there to a non-reference. -/
theorem C01.assign_then_lookup (f g : Nat) (op name : String) (e : Node) (st : St) (v : Obj) (fr : Frame)
    (hd : st.cfg.deadlineAfter = none) (hop : op = "ASSIGN" ∨ op = "DEFINE")
    (he : outcome (eval (f + 1) e) (C15.bump st) = .ok v) (hv : v.isError = false) (hp : ∀ en n, v ≠ .ref en n)
    (ha : C01.Assignable (stateAfter (eval (f + 1) e) (C15.bump st)) name fr)
    (hcase : op = "DEFINE" ∨ (lookupStore fr.store name = none ∧ fr.outer = none)
      ∨ (∃ r, lookupStore fr.store name = some r ∧ ∀ re rn, r ≠ .ref re rn)) :
    outcome (evalI (f + 2) (.inf op (.ident name) e)) st = .ok v
    ∧ outcome (evalI (g + 1) (.ident name)) (stateAfter (evalI (f + 2) (.inf op (.ident name) e)) st) = .ok v := by
  have hop' : (op == "ASSIGN" || op == "DEFINE") = true := by
    rcases hop with h | h <;> subst h <;> rfl
  have hcase' : (op == "DEFINE") = true ∨ (lookupStore fr.store name = none ∧ fr.outer = none)
      ∨ (∃ r, lookupStore fr.store name = some r ∧ ∀ re rn, r ≠ .ref re rn) := by
    rcases hcase with h | h
    · left; subst h; rfl
    · right; exact h
  obtain ⟨s1, hrun, hb⟩ := C01.createOrSet_binds _ name v (op == "DEFINE") fr ha hp hcase'
  have hcfg := (((allGood (f + 2)).evalI (.inf op (.ident name) e)).h st).1.cfg
  have key : SameRun (evalI (f + 2) (.inf op (.ident name) e)) st
      (createOrSet (stateAfter (eval (f + 1) e) (C15.bump st)).cur name v (op == "DEFINE"))
      (stateAfter (eval (f + 1) e) (C15.bump st)) := by
    rw [C01.evalI_assign _ _ _ _ hop']
    refine (C01.sameRun_enter _ st hd).trans ((C01.sameRun_bind_ok _ _ _ _ he).trans ?_)
    rw [C01.evalAssignment_ident]
    simp only [hv, Bool.false_eq_true, if_false]
    exact C01.sameRun_curEnv _ _
  obtain ⟨h1, h2⟩ := of_run_eq hrun
  refine ⟨key.1.trans h1, ?_⟩
  rw [key.2.trans h2] at hcfg ⊢
  exact (C01.ident_bound g name v s1 (by rw [hcfg]; exact hd) hb).1

/-! non-vacuity: `x = 5` then `x` in the initial top level state -/
example : outcome (evalI 4 (.inf "ASSIGN" (.ident "x") (.int 5))) (initState {}) = .ok (.int 5) := C01.eq_ok_int (by decide +kernel)
example : outcome (evalI 2 (.ident "x")) (stateAfter (evalI 4 (.inf "ASSIGN" (.ident "x") (.int 5))) (initState {})) = .ok (.int 5) := C01.eq_ok_int (by decide +kernel)

theorem C01.evalI_return_nil (f : Nat) : evalI (f + 1) (.ret .none) = C15.enter (pure (.ret .null "RETURN")) := by
  rw [evalI]; exact C15.enter_of _

/-- `return e`: the value of `e` (evaluated by `evalInternal`, not unwrapped) wrapped as a RETURN value -/
theorem C01.evalI_return (f : Nat) (e : Node) (he : e = .none → False) :
    evalI (f + 1) (.ret e) = C15.enter (do pure (.ret (← evalI f e) "RETURN")) := by
  rw [evalI]
  · exact C15.enter_of _
  · exact he

/-- `break` / `continue` are control values with a nil payload -/
theorem C01.evalI_ctl (f : Nat) (kind : String) : evalI (f + 1) (.ctl kind) = C15.enter (pure (.ret .null kind)) := by
  rw [evalI]; exact C15.enter_of _

/-- `return e` stops the block it is in: the statements after it are NOT evaluated; the block's value is the
RETURN value carrying the value of `e`, the state is the one `e` left -/
theorem C01.return_stops_block (f : Nat) (e : Node) (rest : List Node) (res v : Obj) (st : St)
    (hd : st.cfg.deadlineAfter = none) (hne : e = .none → False)
    (he : outcome (evalI f e) (C15.bump st) = .ok v) :
    outcome (evalStatements (f + 2) (.ret e :: rest) res) st = .ok (.ret v "RETURN")
    ∧ stateAfter (evalStatements (f + 2) (.ret e :: rest) res) st = stateAfter (evalI f e) (C15.bump st) := by
  have h1 : SameRun (evalI (f + 1) (.ret e)) st (pure (.ret v "RETURN")) (stateAfter (evalI f e) (C15.bump st)) := by
    rw [C01.evalI_return f e hne]
    refine (C01.sameRun_enter _ st hd).trans ((C01.sameRun_bind_ok _ _ _ _ he).trans ?_)
    exact SameRun.refl _ _
  have h2 := C01.stmts_cons_stops (f + 1) (.ret e) rest res (.ret v "RETURN") st (fun h => by cases h) h1.1 rfl
  exact h2.trans h1

def C01.deeper (st : St) : St := { st with depth := st.depth + 1 }
def C01.shallower (st : St) : St := { st with depth := st.depth - 1 }

/-- `(*State).Eval`, depth guard: beyond `MaxDepth` nothing is evaluated -/
theorem C01.eval_depth_guard (f : Nat) (node : Node) (st : St) (h : st.depth > st.cfg.maxDepth) :
    outcome (eval (f + 1) node) st = .error .depthGuard ∧ stateAfter (eval (f + 1) node) st = st := by
  rw [outcome_eq_run, stateAfter_eq_run, run_eval, if_pos h]
  exact ⟨rfl, rfl⟩

/-- `(*State).Eval` below the depth limit: `evalInternal` one level deeper; then a RETURN value is unwrapped
(this is where `return` ends at the function boundary), `break`/`continue` outside a loop are an error, and
any other plain value is passed through -/
theorem C01.eval_unwrap (f : Nat) (node : Node) (st : St) (r : Obj) (h : ¬ st.depth > st.cfg.maxDepth)
    (hr : outcome (evalI f node) (C01.deeper st) = .ok r) :
    (∀ v, r = .ret v "RETURN" → (∀ e n, v ≠ .ref e n) →
        outcome (eval (f + 1) node) st = .ok v
        ∧ stateAfter (eval (f + 1) node) st = C01.shallower (stateAfter (evalI f node) (C01.deeper st)))
    ∧ (∀ v kind, r = .ret v kind → kind ≠ "RETURN" →
        outcome (eval (f + 1) node) st = .ok (err "unexpected control type outside of for loops"))
    ∧ ((∀ v kind, r ≠ .ret v kind) → (∀ e n, r ≠ .ref e n) →
        outcome (eval (f + 1) node) st = .ok r
        ∧ stateAfter (eval (f + 1) node) st = C01.shallower (stateAfter (evalI f node) (C01.deeper st))) := by
  have hrun : run (eval (f + 1) node) st =
      run (unwrapResult r) (C01.shallower (stateAfter (evalI f node) (C01.deeper st))) := by
    rw [run_eval, if_neg h, show run (evalI f node) { st with depth := st.depth + 1 } = (.ok r, _) from Prod.ext hr rfl]
    rfl
  rw [outcome_eq_run, stateAfter_eq_run, hrun]
  refine ⟨fun v hv hp => ?_, fun v kind hv hk => ?_, fun h1 h2 => ?_⟩
  · subst hv
    cases v with
    | ref e n => exact absurd rfl (hp e n)
    | _ => exact ⟨rfl, rfl⟩
  · subst hv
    unfold unwrapResult
    rw [show unwrapReturn (.ret v kind) = _ from if_pos (bne_iff_ne.mpr hk)]
    rfl
  · cases r with
    | ret v kind => exact absurd rfl (h1 v kind)
    | ref e n => exact absurd rfl (h2 e n)
    | _ => exact ⟨rfl, rfl⟩

example : outcome (evalStatements 4 [.ret (.int 1), .ident "nosuch"] .null) {} = .ok (.ret (.int 1) "RETURN") := rfl
example : outcome (eval 5 (.stmts [.ret (.int 1), .ident "nosuch"])) {} = .ok (.int 1) := rfl

/-- a function literal evaluates to a closure over the CURRENT environment; no state change but the step -/
theorem C01.evalI_lambda (f : Nat) (params : List String) (variadic lambda : Bool) (key : String) (body : Node) :
    evalI (f + 1) (.fn none params variadic lambda key body) = C15.enter (do
      let e ← curEnv
      pure (.func { name := none, params := params, variadic := variadic, lambda := lambda || true,
                    key := key, body := body, env := e })) := by
  rw [evalI]; exact C15.enter_of _

/-- a call node: the function expression (through `Eval`), then the arguments left to right, then the
application; an error value in function position is the result and no argument is evaluated -/
theorem C01.evalI_call (f : Nat) (fnode : Node) (args : List Node) :
    evalI (f + 1) (.call fnode args) = C15.enter (do
      let fv ← eval f fnode
      if fv.isError then pure fv
      else match ← evalExpressions f args [] with
        | .error e => pure e
        | .ok argv =>
          match fv with
          | .ext name => applyExtension f name argv
          | _ => applyFunction f fv argv) := by
  rw [evalI]; exact C15.enter_of _

/-- arguments are evaluated left to right, each in the state its predecessor left; the first error value stops -/
theorem C01.evalExpressions_cons (f : Nat) (e : Node) (rest : List Node) (acc : List Obj) :
    evalExpressions (f + 1) (e :: rest) acc = (do
      let v ← evalI f e
      if v.isError then pure (.error v) else evalExpressions f rest (v :: acc))
    ∧ evalExpressions (f + 1) [] acc = pure (.ok acc.reverse) := by
  constructor <;> rw [evalExpressions]

/-- the end of a call with the cache switched off: whatever the bookkeeping does (replaying the captured
output into the caller's writer, propagating a miss to the caller's frame), the VALUE of the call is the value
of the body -/
theorem C01.finishCall_value (f : FuncVal) (args : List Obj) (curState before after : Nat) (cc : Bool)
    (res : Obj) (output : Grol.Wire.Bytes) (s : St) (cfr : Frame)
    (hoff : s.cfg.cacheOn = false) (hc : s.frames[curState]? = some cfr) :
    outcome (finishCall f args curState before after cc res output) s = .ok res :=
  outcome_finishCall hc

theorem C01.run_curEnv (s : St) : run curEnv s = (.ok s.cur, s) := rfl

/-- FUNCTION APPLICATION, cache switched off (`cfg.cacheOn = false`): the value of applying a function value
to argument values is the value of its BODY, evaluated (through `Eval`, which unwraps `return`) in the
environment `extendFunctionEnv` built (new frame `nenv` with the parameters bound, parented to the closure's
environment), with a fresh output buffer -/
theorem C01.apply_is_body (fuel : Nat) (f : FuncVal) (args : List Obj) (st s1 : St) (cf : Frame) (nenv : Nat)
    (res : Obj) (hoff : st.cfg.cacheOn = false) (hcf : st.frames[st.cur]? = some cf)
    (hext : run (extendFunctionEnv f args) st = (.ok (.ok nenv), s1))
    (hn : nenv < s1.frames.size) (hc : s1.cur < s1.frames.size)
    (hbody : outcome (eval fuel f.body) { s1 with cur := nenv, outs := [] :: s1.outs } = .ok res) :
    outcome (applyFunction (fuel + 1) (.func f) args) st = .ok res := by
  have hb : run (eval fuel f.body) (bodyState s1 nenv) = (.ok res, stateAfter (eval fuel f.body) (bodyState s1 nenv)) :=
    Prod.ext hbody rfl
  -- the frames of the callee and of the caller are still there after the body
  have hg := eval_grows fuel f.body (bodyState s1 nenv)
  generalize stateAfter (eval fuel f.body) (bodyState s1 nenv) = s3 at hb hg
  have hfr := Array.getElem?_eq_getElem (Nat.lt_of_lt_of_le hn hg.size)
  have hcfr := Array.getElem?_eq_getElem (Nat.lt_of_lt_of_le hc hg.size)
  rw [outcome_eq_run, run_applyFunction, hcf]
  dsimp only
  rw [cacheLookup_off hoff, ite_self, hext]
  dsimp only
  rw [hb]
  dsimp only
  rw [hfr]
  exact outcome_finishCall hcfr

/-- … an error from binding the arguments (wrong number of arguments, …) is the value of the call: the body
is not evaluated -/
theorem C01.apply_bind_error (fuel : Nat) (f : FuncVal) (args : List Obj) (st s1 : St) (cf : Frame) (e : Obj)
    (hoff : st.cfg.cacheOn = false) (hcf : st.frames[st.cur]? = some cf)
    (hext : run (extendFunctionEnv f args) st = (.ok (.error e), s1)) :
    outcome (applyFunction (fuel + 1) (.func f) args) st = .ok e
    ∧ stateAfter (applyFunction (fuel + 1) (.func f) args) st = s1 := by
  rw [outcome_eq_run, stateAfter_eq_run, run_applyFunction, hcf]
  dsimp only
  rw [cacheLookup_off hoff, ite_self, hext]
  exact ⟨rfl, rfl⟩

/-- applying a value that is not a function is the error "not a function" -/
theorem C01.apply_non_function (fuel : Nat) (v : Obj) (args : List Obj) (hv : ∀ f, v ≠ .func f) :
    applyFunction (fuel + 1) v args = pure (err "not a function") := by
  rw [applyFunction]
  exact hv

/-! non-vacuity: `func(a){return a+1}(41)` in a one-frame state with the cache switched off (kernel evaluation) -/
example : (match outcome (eval 12 (.call (.fn none ["a"] false true "k" (.stmts [.ret (.inf "PLUS" (.ident "a") (.int 1))])) [.int 41]))
    { cfg := { cacheOn := false }, frames := #[{}] } with
    | .ok (.int v) => v == 42
    | _ => false) = true := by decide +kernel

def C01.bindStore (store : List (String × Obj)) (pas : List (String × Obj)) : List (String × Obj) :=
  pas.foldl (fun s pa => setStore s pa.1 pa.2) store

/-- `s'` differs from `s` only in frame `e`, which went from `fr0` to a frame with the parameters bound -/
structure C01.Bound (s s' : St) (e : Nat) (fr0 : Frame) (pas : List (String × Obj)) : Prop where
  size : s'.frames.size = s.frames.size
  cur : s'.cur = s.cur
  cfg : s'.cfg = s.cfg
  outs : s'.outs = s.outs
  extNames : s'.extNames = s.extNames
  others : ∀ i, i ≠ e → s'.frames[i]? = s.frames[i]?
  frame : ∃ fr', s'.frames[e]? = some fr' ∧ fr'.store = C01.bindStore fr0.store pas ∧ fr'.outer = fr0.outer
    ∧ fr'.function = fr0.function ∧ fr'.depth = fr0.depth

/-- ordinary parameters and argument values: not all-caps, not an extension's name; plain non-error values -/
def C01.PlainBinding (s : St) (pa : String × Obj) : Prop :=
  isConstant pa.1 = false ∧ s.extNames.contains pa.1 = false ∧ (∀ e n, pa.2 ≠ .ref e n) ∧ pa.2.isError = false

theorem C01.bind_one (e : Nat) (p : String) (a : Obj) (s : St) (fr0 : Frame) (hfr : s.frames[e]? = some fr0)
    (hb : C01.PlainBinding s (p, a)) :
    ∃ fr1, run (createOrSet e p a true) s = (.ok a, { s with frames := s.frames.setIfInBounds e fr1 })
      ∧ fr1.store = setStore fr0.store p a ∧ fr1.outer = fr0.outer ∧ fr1.function = fr0.function
      ∧ fr1.depth = fr0.depth := by
  obtain ⟨hc, hx, hpl, hne⟩ := hb
  simp only at hc hx hpl hne
  unfold createOrSet setNoChecks envCreate rootBindsFunc
  simp only [run_bind, hc, Bool.false_eq_true, if_false, run_get, hx]
  rw [if_pos trivial]
  simp only [run_bind, C01.run_valueOf_plain a hpl, run_get, run_pure, run_modifyFrame, hfr]
  exact ⟨_, rfl, rfl, rfl, rfl, rfl⟩

theorem C01.bindParams_run (e : Nat) (pas : List (String × Obj)) (s : St) (fr0 : Frame)
    (hfr : s.frames[e]? = some fr0) (hp : ∀ pa, pa ∈ pas → C01.PlainBinding s pa) :
    ∃ s', run (bindParams e pas) s = (.ok none, s') ∧ C01.Bound s s' e fr0 pas := by
  induction pas generalizing s fr0 with
  | nil =>
    refine ⟨s, ?_, rfl, rfl, rfl, rfl, rfl, fun _ _ => rfl, fr0, hfr, rfl, rfl, rfl, rfl⟩
    rw [bindParams]; rfl
  | cons pa rest ih =>
    obtain ⟨p, a⟩ := pa
    have hpa := hp (p, a) (List.mem_cons_self ..)
    obtain ⟨fr1, hone, h1s, h1o, h1f, h1d⟩ := C01.bind_one e p a s fr0 hfr hpa
    obtain ⟨hc, hx, hpl, hne⟩ := hpa
    simp only at hc hx hpl hne
    have hlt : e < s.frames.size := (Array.getElem?_eq_some_iff.mp hfr).1
    rw [bindParams]
    simp only [run_bind, C01.run_valueOf_plain a hpl, hc, Bool.false_eq_true, if_false, hone, hne]
    have hget : ({ s with frames := s.frames.setIfInBounds e fr1 } : St).frames[e]? = some fr1 := by
      simp [hlt]
    obtain ⟨s', hrun, hb⟩ := ih { s with frames := s.frames.setIfInBounds e fr1 } fr1 hget
      (fun pa hpa => hp pa (List.mem_cons_of_mem _ hpa))
    refine ⟨s', hrun, ?_⟩
    obtain ⟨b1, b2, b3, b4, b5, b6, fr', b7, b8, b9, b10, b11⟩ := hb
    refine ⟨?_, b2, b3, b4, b5, ?_, fr', b7, ?_, b9.trans h1o, b10.trans h1f, b11.trans h1d⟩
    · rw [b1]; simp
    · intro i hi
      rw [b6 i hi]
      simp [Ne.symm hi]
    · rw [b8, h1s]; rfl

/-- what `extendFunctionEnv` builds for a plain call (not variadic, not a recursive call of the function the
caller's frame is running, as many arguments as parameters, ordinary parameter names, plain argument values):
a NEW frame at the end of the heap, parented to the closure's DEFINING environment `f.env` (lexical scoping),
one level deeper than it, running `f`, whose store binds the parameters to the arguments in order; the caller's
current environment, the writers and every existing frame are untouched -/
theorem C01.extend_plain (f : FuncVal) (args : List Obj) (st : St) (cf pf : Frame)
    (hcf : st.frames[st.cur]? = some cf) (hpf : st.frames[f.env]? = some pf)
    (hnv : f.variadic = false) (hns : sameFunction cf f = false) (hlen : args.length = f.params.length)
    (hp : ∀ pa, pa ∈ f.params.zip args → C01.PlainBinding st pa) :
    ∃ s1 fr, run (extendFunctionEnv f args) st = (.ok (.ok st.frames.size), s1)
      ∧ s1.cur = st.cur ∧ s1.cfg = st.cfg ∧ s1.outs = st.outs ∧ s1.frames.size = st.frames.size + 1
      ∧ (∀ i, i < st.frames.size → s1.frames[i]? = st.frames[i]?)
      ∧ s1.frames[st.frames.size]? = some fr ∧ fr.outer = some f.env ∧ fr.function = some f
      ∧ fr.depth = pf.depth + 1 ∧ fr.store = C01.bindStore [] (f.params.zip args) := by
  have hne : (args.length != f.params.length) = false := by simp [hlen]
  unfold extendFunctionEnv newFrame splitArgs
  simp only [run_bind, C01.run_curEnv, run_getFrame, hcf, hns, Bool.false_eq_true, if_false, hpf, run_get, run_set,
    run_pure, hnv, hne, Bool.false_and]
  have hget : ∀ F0 : Frame, ({ st with frames := st.frames.push F0 } : St).frames[st.frames.size]? = some F0 := by
    intro F0; simp
  obtain ⟨s', hrun, b1, b2, b3, b4, b5, b6, fr', b7, b8, b9, b10, b11⟩ :=
    C01.bindParams_run st.frames.size (f.params.zip args) _ _ (hget _) hp
  rw [hrun]
  refine ⟨s', fr', rfl, b2, b3, b4, ?_, ?_, b7, b9, b10, b11, b8⟩
  · rw [b1]; simp
  · intro i hi
    rw [b6 i (Nat.ne_of_lt hi)]
    simp [Array.getElem?_push, Nat.ne_of_lt hi]

/-- APPLICATION of a plain function, cache off, all in one: there is a state `s1` = the caller's state plus ONE
new frame `fr` (parent = the closure's defining environment, parameters bound to the arguments in order, nothing
else changed) such that the value of the call is the value of the body evaluated with `fr` as the current
environment and a fresh output buffer -/
theorem C01.apply_plain (fuel : Nat) (f : FuncVal) (args : List Obj) (st : St) (cf pf : Frame)
    (hoff : st.cfg.cacheOn = false)
    (hcf : st.frames[st.cur]? = some cf) (hpf : st.frames[f.env]? = some pf)
    (hnv : f.variadic = false) (hns : sameFunction cf f = false) (hlen : args.length = f.params.length)
    (hp : ∀ pa, pa ∈ f.params.zip args → C01.PlainBinding st pa) :
    ∃ (s1 : St) (fr : Frame), s1.frames.size = st.frames.size + 1
      ∧ (∀ i, i < st.frames.size → s1.frames[i]? = st.frames[i]?)
      ∧ s1.frames[st.frames.size]? = some fr ∧ fr.outer = some f.env ∧ fr.function = some f
      ∧ fr.store = C01.bindStore [] (f.params.zip args)
      ∧ s1.cur = st.cur ∧ s1.outs = st.outs ∧ s1.cfg = st.cfg
      ∧ ∀ res, outcome (eval fuel f.body) { s1 with cur := st.frames.size, outs := [] :: s1.outs } = .ok res →
          outcome (applyFunction (fuel + 1) (.func f) args) st = .ok res := by
  obtain ⟨s1, fr, hrun, c1, c2, c3, c4, c5, c6, c7, c8, _, c10⟩ :=
    C01.extend_plain f args st cf pf hcf hpf hnv hns hlen hp
  refine ⟨s1, fr, c4, c5, c6, c7, c8, c10, c1, c3, c2, fun res hres => ?_⟩
  have hlt := C01.cur_lt st cf hcf
  exact C01.apply_is_body fuel f args st s1 cf st.frames.size res hoff hcf hrun (by omega) (by omega) hres

/-! non-vacuity of the hypotheses: a closure of the top level frame called from the top level -/
example : C01.PlainBinding {} ("a", .int 41) :=
  ⟨by decide, rfl, fun _ _ h => (by cases h), rfl⟩
example : sameFunction ({} : Frame) { name := none, params := ["a"], variadic := false, lambda := true, key := "k", body := .ident "a", env := 0 } = false := by
  decide

/-! ## the remaining node kinds: one step of `evalInternal` (so that every constructor of `Node` has its rule) -/

theorem C01.evalI_incr_decr (f : Nat) (op : String) (right : Node) (hop : (op == "INCR" || op == "DECR") = true) :
    evalI (f + 1) (.pre op right) = C15.enter (evalPrefixIncrDecr op right) := by
  rw [evalI]; refine (C15.enter_of _).trans (congrArg C15.enter ?_)
  rw [hop]; rfl
theorem C01.evalI_post (f : Nat) (op name : String) : evalI (f + 1) (.post op name) = C15.enter (evalPostfix op name) := by
  rw [evalI]; exact C15.enter_of _
theorem C01.evalI_builtin (f : Nat) (name : String) (ps : List Node) :
    evalI (f + 1) (.builtin name ps) = C15.enter (evalBuiltin f name ps) := by
  rw [evalI]; exact C15.enter_of _
/-- an array literal: the elements left to right (first error value wins), dereferenced, in a new array -/
theorem C01.evalI_arr (f : Nat) (els : List Node) :
    evalI (f + 1) (.arr els) = C15.enter (do
      match ← evalExpressions f els [] with
      | .error e => pure e
      | .ok v => do pure (newArray (← derefList v))) := by
  rw [evalI]; exact C15.enter_of _
theorem C01.evalI_mapLit (f : Nat) (keys vals : List Node) :
    evalI (f + 1) (.mapLit keys vals) = C15.enter (do
      let cfg := (← get).cfg
      evalMapLiteral f keys vals (newMapBig cfg keys.length) []) := by
  rw [evalI]; exact C15.enter_of _
/-- an index node `l[i]` / `l.i`: the indexed expression first (through `Eval`), then `evalIndexExpression` -/
theorem C01.evalI_idx (f : Nat) (tok : String) (l i : Node) :
    evalI (f + 1) (.idx tok l i) = C15.enter (do
      if tok == "DOT" then
        if (← get).extNames.contains (l.literal ++ "." ++ i.literal) then stop (.unmodelled "namespaced extension")
      let left ← eval f l
      evalIndexExpression f left tok i) := by
  rw [evalI]; exact C15.enter_of _
theorem C01.evalI_comment (f : Nat) : evalI (f + 1) .comment = C15.enter (pure .null) := by
  rw [evalI]; exact C15.enter_of _
theorem C01.evalI_nil_node (f : Nat) : evalI (f + 1) .none = C15.enter (pure (err "unknown node type: <nil>")) := by
  rw [evalI]; exact C15.enter_of _
theorem C01.evalI_macroLit (f : Nat) (ps : List String) (b : Node) :
    evalI (f + 1) (.macroLit ps b) = C15.enter (stop (.unmodelled "macro literal reached the evaluator")) := by
  rw [evalI]; exact C15.enter_of _
/-- a NAMED function literal `func f(..){..}` also binds its name in the current environment (`Set`) -/
theorem C01.evalI_func_named (f : Nat) (n : String) (params : List String) (variadic lambda : Bool) (key : String)
    (body : Node) :
    evalI (f + 1) (.fn (some n) params variadic lambda key body) = C15.enter (do
      let e ← curEnv
      let fv : FuncVal := ⟨some n, params, variadic, lambda || false, key, body, e⟩
      let oerr ← envSet e n (.func fv)
      if oerr.isError then pure oerr else pure (.func fv)) := by
  rw [evalI]; exact C15.enter_of _
/-- running out of fuel is the outcome "fuel", for every node -/
theorem C01.evalI_no_fuel (node : Node) : evalI 0 node = stop .fuel := by
  rw [evalI]

/-- arguments / elements: left to right, each in the state its predecessor left; a non-error value is kept … -/
theorem C01.exprs_continue (f : Nat) (e : Node) (rest : List Node) (acc : List Obj) (st : St) (v : Obj)
    (h : outcome (evalI f e) st = .ok v) (hv : v.isError = false) :
    SameRun (evalExpressions (f + 1) (e :: rest) acc) st (evalExpressions f rest (v :: acc))
      (stateAfter (evalI f e) st) := by
  rw [(C01.evalExpressions_cons f e rest acc).1]
  refine (C01.sameRun_bind_ok _ _ _ _ h).trans ?_
  simp only [hv, Bool.false_eq_true, if_false]
  exact SameRun.refl _ _

/-- … the first error value ends the list: the remaining expressions are NOT evaluated -/
theorem C01.exprs_error (f : Nat) (e : Node) (rest : List Node) (acc : List Obj) (st : St) (m : String)
    (h : outcome (evalI f e) st = .ok (.error m)) :
    outcome (evalExpressions (f + 1) (e :: rest) acc) st = .ok (.error (.error m))
    ∧ stateAfter (evalExpressions (f + 1) (e :: rest) acc) st = stateAfter (evalI f e) st := by
  rw [(C01.evalExpressions_cons f e rest acc).1]
  exact C01.sameRun_bind_ok _ _ _ _ h

example : outcome (evalI 4 (.arr [.int 1, .int 2])) {} = .ok (.array [.int 1, .int 2]) := rfl

/-- the counting loop WITH a loop variable (`for i = n {body}`): with iterations left, the variable is set to
the iteration number in the current frame (here: an ordinary name whose store goes to the current frame, see
`C01.createOrSet_binds`), the body runs in that state — where the variable reads `i` — and, when it ran to an
ordinary value `r`, the loop goes on from `i + 1` in the state the body left -/
theorem C01.forInteger_named_unroll (k : Nat) (body : Node) (i endV : Int) (name : String) (last : Obj) (st : St)
    (fr : Frame) (h : i < endV) (hname : name ≠ "") (ha : C01.Assignable st name fr)
    (hcase : (lookupStore fr.store name = none ∧ fr.outer = none)
      ∨ (∃ r, lookupStore fr.store name = some r ∧ ∀ re rn, r ≠ .ref re rn)) :
    ∃ s1, C01.Binds s1 name (.int (Int64.ofInt i))
      ∧ ∀ r, outcome (evalI k body) s1 = .ok r → r.stops = false →
          SameRun (evalForInteger (k + 1) body i endV name last) st (evalForInteger k body (i + 1) endV name r)
            (stateAfter (evalI k body) s1) := by
  obtain ⟨s1, hrun, hb⟩ := C01.createOrSet_binds st name (.int (Int64.ofInt i)) false fr ha
    (fun _ _ h => by cases h) (Or.inr hcase)
  refine ⟨s1, hb, fun r hr hstop => ?_⟩
  have h1 : ¬ (endV - i < 0) := by omega
  have h2 : ¬ (i ≥ endV) := by omega
  have h3 : (name != "") = true := by simpa using hname
  rw [evalForInteger]
  simp only [h1, h2, if_false, h3]
  rw [if_pos trivial]
  refine (C01.sameRun_curEnv _ st).trans ?_
  obtain ⟨hset, hs1⟩ := of_run_eq (x := envSet st.cur name (.int (Int64.ofInt i))) hrun
  refine (C01.sameRun_bind_ok _ _ _ _ hset).trans ?_
  rw [hs1]
  simp only [Obj.isError, Bool.false_eq_true, if_false]
  refine (C01.sameRun_bind_ok _ _ _ _ hr).trans ?_
  cases r <;> first | exact SameRun.refl _ _ | cases hstop

/-- `for i = n {body}` is the counting loop over `[0, n)` with the loop variable `i` -/
theorem C01.for_named_is_counting (k : Nat) (name : String) (r body : Node) (st : St) (n : Int64)
    (hr : outcome (evalI k r) st = .ok (.int n)) (hnc : ∀ a b, r ≠ .inf "COLON" a b) :
    SameRun (evalFor (k + 2) (.inf "ASSIGN" (.ident name) r) body) st
      (evalForInteger k body 0 n.toInt name .null) (stateAfter (evalI k r) st) := by
  rw [evalFor, evalForSpecialForms]
  · have hd : ¬ (("ASSIGN" != "ASSIGN" && "ASSIGN" != "DEFINE") = true) := by decide
    rw [if_neg hd]
    simp only [bind_assoc]
    refine (C01.sameRun_bind_ok _ _ _ _ hr).trans ?_
    rw [C01.valueOf_nonref _ (fun _ _ h' => by cases h'), pure_bind]
    simp only [bind_assoc, pure_bind, bind_pure]
    exact SameRun.refl _ _
  · intro a b hab; exact hnc a b hab

example : (match outcome (evalI 9 (.forE (.inf "ASSIGN" (.ident "i") (.int 3)) (.ident "i"))) { frames := #[{}] } with
    | .ok (.int v) => v == 2
    | _ => false) = true := by decide +kernel

end Grol.E
