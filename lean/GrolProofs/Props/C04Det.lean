import GrolProofs.RenQMain
import GrolProofs.Props.C04
/-
C04 (B1) — a miss-free ("quiet") call depends only on the bindings the purity test trusts.

`applyFunction` stores a result when the callee frame's miss counter did not move during the body
(`C04.store_condition`); the footprint lemma (`C04.purity_footprint`, `C04.quiet_get`, …) says what such a
call did NOT do.  This file proves what that buys: two runs of a quiet call, from two states that differ

  * by a renaming of the frame indices (`Grol.R.Sh`: the frames allocated since the runs diverged are shifted,
    as in the C10 simulation), and
  * on a set `D` of bindings of the frames that already existed — DIRTY bindings: bindings the purity test does
    not trust (in run T: bound, under a name that is not all-caps, to a value that is not a reference and not a
    function of a depth-0 frame) and that no value of run T refers to (`clean`: no reference to a dirty binding inside any
    argument or stored value, at any depth of arrays and maps) —

with the cache off, give the same result up to the renaming, the same output, and the call is quiet in the
other run too (`C04.quiet_call_deterministic`).  The relation is `Grol.R.StRq` (GrolProofs/RenQBase.lean): frames
related on outer / depth / cacheKey / function and on every binding outside `D`, miss counters of the old frames
up to their initial offsets.  The proof is a simulation through all 19 functions of the tree walker
(GrolProofs/RenQ*.lean) in which run T is assumed to end normally without moving the counter of the frame it
works for: every read of an outer binding goes through `makeRef`, and a `makeRef` that finds a dirty binding
moves that counter (`Grol.R.qsim_makeRef_go`); a nested call whose callee counter moves moves the caller's
(`Grol.R.finishCall_loud`); `del` moves it first thing.

`clean` is needed: the statement with only "untrusted" is FALSE of the code — a reference nested in a container
(the variadic rest array `..` holds the raw arguments) is dereferenced by `Value` without a miss, so a quiet
call can read an untrusted binding through it.

Corollary in the vocabulary of C04 (`C04.quiet_call_depends_only_on_trusted`): same frame indices, two states
that agree except on `D`: the call returns the same value, writes the same output, and is quiet in both.

NOT proved: (B) a cache HIT returns what evaluating the call would return now (`C04.HitIsEvaluation`) and
(C) the session equivalence (`C04.Statement`).  Both relate a run that evaluates a body to a run that does not
(a hit allocates no frame, evaluates nothing): they need a non-lockstep simulation with a general renaming ρ of
frame indices (not a shift), relating the state after a hit to the state after the evaluation (extra garbage
frames, different miss counters and `cantCache` flags of the callers), plus an invariant "every cache entry was
stored by a quiet call whose trusted bindings are unchanged since" maintained through `functionChanged` / `del`.
The theorem here is the step that invariant needs: it turns "trusted bindings unchanged" into "same result".
-/
namespace Grol.E
open Grol.R

/-- the miss counters of the two runs, frame by frame: equal on the new frames, up to the initial offsets on the
old ones -/
theorem stRq_miss {P : Qp} {s t : St} (hR : StRq P s t) (i : Nat) :
    missOf s (sh P.σ i) + (if i < P.σ.n0 then P.mt i else 0) = missOf t i + (if i < P.σ.n0 then P.ms i else 0) := by
  cases hte : t.frames[i]? with
  | none =>
    have h1 : t.frames.size ≤ i := by
      rcases Nat.lt_or_ge i t.frames.size with h2 | h2
      · rw [Array.getElem?_eq_getElem h2] at hte; cases hte
      · exact h2
    have h2 : ¬ i < P.σ.n0 := by have := hR.n0; omega
    unfold missOf
    rw [hte, hR.none hte]
    simp [h2]
  | some ft =>
    obtain ⟨fs, hfs, hfr⟩ := hR.frames i ft hte
    rw [missOf_of_frame hte, missOf_of_frame hfs]
    by_cases h : i < P.σ.n0
    · simp only [h, if_true]; exact hfr.missOld h
    · simp only [h, if_false]; rw [(hfr.missNew (by omega)).1]

/-- (B1) A call that ends normally without moving its caller's miss counter (the hypothesis of
`C04.purity_footprint`; with the cache off: the body did not move the callee's counter), run from a state `s`
related to `t` by `StRq P` — the frames allocated since the runs diverged are shifted by `P.σ`, the older frames
agree except on the dirty bindings `P.D`, the cache is off in both — on the renamed arguments (no reference to a
dirty binding inside them): ends normally in run S too, with the renamed result, in a related state (in
particular with the same output, `StRq.outs`), and without moving the caller's counter there either.
(`P.e` is the caller's frame, `StRq.curq`; with `P.pre := True` it may be any frame, old or new, `StRq.enew`.) -/
theorem C04.quiet_call_deterministic (P : Qp) (fuel : Nat) (f : FuncVal) (args : List Obj) (s t : St)
    (hR : StRq P s t) (hargs : cleanL P args) (v : Obj) (t' : St)
    (hrun : runM (applyFunction fuel (.func f) args) t = (.ok v, t'))
    (hquiet : missOf t' t.cur = missOf t t.cur) :
    ∃ s', runM (applyFunction fuel (.func (renFn P.σ f)) (renL P.σ args)) s = (.ok (ren P.σ v), s') ∧
      StRq P s' t' ∧ clean P v ∧ s'.outs = t'.outs ∧ missOf s' s.cur = missOf s s.cur := by
  have h := (qSpec_all fuel).applyFunction P (.func f) args s t hR hargs v t' hrun (by rw [← hR.curq]; exact hquiet)
  obtain ⟨a, s', hS, hR', ha, hc⟩ := h
  subst ha
  refine ⟨s', ?_, hR', hc, hR'.outs, ?_⟩
  · have : ren P.σ (.func f) = .func (renFn P.σ f) := by simp only [ren]
    rw [← this]; exact hS
  · have h1 := stRq_miss hR t.cur
    have h2 := stRq_miss hR' t.cur
    rw [hR.cur]
    omega

theorem sh_id {σ : Sh} (h : σ.d = 0) (i : Nat) : sh σ i = i := by
  unfold sh; split <;> omega

theorem renFn_id {σ : Sh} (h : σ.d = 0) (f : FuncVal) : renFn σ f = f := by
  unfold renFn; rw [sh_id h]

mutual
theorem ren_id {σ : Sh} (h : σ.d = 0) : ∀ o : Obj, ren σ o = o
  | .array els => by simp only [ren]; rw [renL_id h els]
  | .map b kvs => by simp only [ren]; rw [renP_id h kvs]
  | .func f => by simp only [ren]; rw [renFn_id h]
  | .ret v k => by simp only [ren]; rw [ren_id h v]
  | .ref e n => by simp only [ren]; rw [sh_id h]
  | .null => rfl
  | .bool _ => rfl
  | .int _ => rfl
  | .float _ => rfl
  | .str _ => rfl
  | .ext _ => rfl
  | .error _ => rfl
  | .quote _ => rfl
theorem renL_id {σ : Sh} (h : σ.d = 0) : ∀ l : List Obj, renL σ l = l
  | [] => rfl
  | x :: xs => by simp only [renL]; rw [ren_id h x, renL_id h xs]
theorem renP_id {σ : Sh} (h : σ.d = 0) : ∀ l : List (Obj × Obj), renP σ l = l
  | [] => rfl
  | (k, v) :: xs => by simp only [renP]; rw [ren_id h k, ren_id h v, renP_id h xs]
end

/-- the states `s` and `t` agree except on the bindings `D` (pairs frame index, name) of `t`, which the purity
test does not trust and which no value of `t` refers to; the cache is off -/
structure C04.AgreeExcept (D : Nat → String → Prop) (s t : St) : Prop where
  cfg : s.cfg = t.cfg
  off : t.cfg.cacheOn = false
  extNames : s.extNames = t.extNames
  depth : s.depth = t.depth
  steps : s.steps = t.steps
  outs : s.outs = t.outs
  cur : s.cur = t.cur
  root : s.root = t.root
  size : s.frames.size = t.frames.size
  pos : 0 < t.frames.size
  /-- frame by frame: same parent, depth, function, local-function flag, and the same bindings outside `D` -/
  frames : ∀ i ft, t.frames[i]? = some ft → ∃ fs, s.frames[i]? = some fs ∧ fs.outer = ft.outer ∧
    fs.depth = ft.depth ∧ fs.cacheKey = ft.cacheKey ∧ fs.function = ft.function ∧ fs.localFunc = ft.localFunc ∧
    ∀ n, ¬ D i n → lookupStore fs.store n = lookupStore ft.store n
  /-- a binding of `D` is one the purity test does not trust: in `t` it is bound, under a name that is not all-caps,
  to a value that is not a reference and not a function of a depth-0 frame (a function held by a variable of a
  NON-root frame is untrusted as well, grol 103fa2c) -/
  dirty : ∀ i n, D i n → isConstant n = false ∧
    ∃ ft v, t.frames[i]? = some ft ∧ lookupStore ft.store n = some v ∧ notRef v = true ∧
      (isFuncObj v = false ∨ ft.depth ≠ 0)
  /-- in `s` too a binding of `D` of a depth-0 frame does not hold a function (whether the top level frame binds a name
  to a function decides the local-function flag of the frames that shadow it) -/
  dirtyS : ∀ i n, D i n → ∀ fs ft w, s.frames[i]? = some fs → t.frames[i]? = some ft → lookupStore fs.store n = some w →
    (isFuncObj w = false ∨ ft.depth ≠ 0)
  /-- no value bound in `t` (outside `D`) contains a reference to a binding of `D` -/
  untracked : ∀ i ft n v, t.frames[i]? = some ft → ¬ D i n → lookupStore ft.store n = some v → cleanD D v
  /-- parents and references point to smaller frame indices (true of every reachable state) -/
  dec : RefDec t

def C04.agreeP (D : Nat → String → Prop) (s t : St) : Qp :=
  { σ := ⟨t.frames.size, 0⟩, D := D, ms := missOf s, mt := missOf t, e := t.cur, pre := True }

theorem C04.agree_stRq {D : Nat → String → Prop} {s t : St} (h : C04.AgreeExcept D s t) :
    StRq (C04.agreeP D s t) s t := by
  have hd : (C04.agreeP D s t).σ.d = 0 := rfl
  have hlt : ∀ i n, D i n → i < t.frames.size := by
    intro i n hD
    obtain ⟨_, ft, v, hft, _⟩ := h.dirty i n hD
    exact lt_of_frame hft
  refine ⟨h.cfg, h.off, h.extNames, h.depth, h.steps, h.outs, by rw [sh_id hd]; exact h.cur,
    by rw [sh_id hd]; exact h.root, h.size, Nat.le_refl _, h.pos, ?_, h.dec, hlt, rfl, Or.inl trivial⟩
  intro i ft hi
  obtain ⟨fs, hfs, h1, h2, h3, h4, h6, h5⟩ := h.frames i ft hi
  have hilt := lt_of_frame hi
  refine ⟨fs, by rw [sh_id hd]; exact hfs, ?_⟩
  refine ⟨?_, h2, h3, ?_, ?_, ?_, ?_, ?_, ?_, h6, fun n hn w hw => h.dirtyS i n hn fs ft w hfs hi hw⟩
  · rw [h1]; cases ft.outer with
    | none => rfl
    | some o => simp only [Option.map]; rw [sh_id hd]
  · rw [h4]; cases ft.function with
    | none => rfl
    | some fn => simp only [Option.map]; rw [renFn_id hd]
  · intro n hn
    rw [h5 n hn]
    cases lookupStore ft.store n with
    | none => rfl
    | some v => simp only [Option.map]; rw [ren_id hd]
  · intro n v hn hl
    exact h.untracked i ft n v hi hn hl
  · intro n hn
    obtain ⟨hc, ft', v, hft', hl, hr, hf⟩ := h.dirty i n hn
    rw [hi] at hft'
    cases hft'
    exact ⟨hc, v, hl, hr, hf⟩
  · intro hge
    exact absurd hilt (by have : (C04.agreeP D s t).σ.n0 = t.frames.size := rfl; omega)
  · intro _
    show fs.getMiss + missOf t i = ft.getMiss + missOf s i
    rw [missOf_of_frame hi, missOf_of_frame hfs]
    exact Nat.add_comm _ _

/-- (B1, in the vocabulary of C04) A quiet call depends only on the trusted bindings: if `t` and `s` agree except
on a set `D` of untrusted, untracked bindings (`C04.AgreeExcept`; cache off), and the call `f(args)` run from `t`
ends normally with `v` without moving its caller's miss counter, then run from `s` it ends normally with the
same `v`, writes the same output, does not move the caller's counter either, and the final states agree except
on `D` in the sense of the simulation relation. -/
theorem C04.quiet_call_depends_only_on_trusted (D : Nat → String → Prop) (fuel : Nat) (f : FuncVal) (args : List Obj)
    (s t : St) (hag : C04.AgreeExcept D s t) (hargs : cleanLD D args) (v : Obj) (t' : St)
    (hrun : runM (applyFunction fuel (.func f) args) t = (.ok v, t'))
    (hquiet : missOf t' t.cur = missOf t t.cur) :
    ∃ s', runM (applyFunction fuel (.func f) args) s = (.ok v, s') ∧ s'.outs = t'.outs ∧
      missOf s' s.cur = missOf s s.cur ∧ StRq (C04.agreeP D s t) s' t' := by
  have hd : (C04.agreeP D s t).σ.d = 0 := rfl
  obtain ⟨s', h1, h2, _, h4, h5⟩ := C04.quiet_call_deterministic (C04.agreeP D s t) fuel f args s t
    (C04.agree_stRq hag) hargs v t' hrun hquiet
  rw [renFn_id hd, renL_id hd, ren_id hd] at h1
  exact ⟨s', h1, h4, h5, h2⟩


/-! ### non-vacuity: `fib(6)` from two states that differ in a global `x` -/

/-- the state after `func fib(n){…}; x = v`, cache off -/
def detState (v : Int64) : St :=
  { cfg := { cacheOn := false }, frames := #[{ store := [("fib", .func fibVal), ("x", .int v)] }] }

def detD : Nat → String → Prop := fun i n => i = 0 ∧ n = "x"

theorem det_agree : C04.AgreeExcept detD (detState 7) (detState 5) := by
  have hframe : ∀ i ft, (detState 5).frames[i]? = some ft → i = 0 ∧ ft = { store := [("fib", .func fibVal), ("x", .int 5)] } := by
    intro i ft h
    cases i with
    | zero => exact ⟨rfl, by simpa [detState] using h.symm⟩
    | succ i => simp [detState] at h
  refine ⟨rfl, rfl, rfl, rfl, rfl, rfl, rfl, rfl, rfl, by decide, ?_, ?_, ?_, ?_, ?_⟩
  · intro i ft h
    obtain ⟨rfl, rfl⟩ := hframe i ft h
    refine ⟨{ store := [("fib", .func fibVal), ("x", .int 7)] }, rfl, rfl, rfl, rfl, rfl, rfl, ?_⟩
    intro n hn
    have hx : ¬ n = "x" := fun hh => hn ⟨rfl, hh⟩
    have hx' : ("x" == n) = false := by simpa using fun hh : "x" = n => hx hh.symm
    simp only [lookupStore, hx', Bool.false_eq_true, if_false]
  · rintro i n ⟨rfl, rfl⟩
    exact ⟨by decide, _, .int 5, rfl, rfl, rfl, Or.inl rfl⟩
  · rintro i n ⟨rfl, rfl⟩ fs ft w hfs _ hw
    have hfs' : fs = { store := [("fib", .func fibVal), ("x", .int 7)] } := by simpa [detState] using hfs.symm
    subst hfs'
    have : w = .int 7 := by simpa [lookupStore] using hw.symm
    subst this
    exact Or.inl rfl
  · intro i ft n v h hn hl
    obtain ⟨rfl, rfl⟩ := hframe i ft h
    have hx : ¬ n = "x" := fun hh => hn ⟨rfl, hh⟩
    have hx' : ("x" == n) = false := by simpa using fun hh : "x" = n => hx hh.symm
    simp only [lookupStore, hx', Bool.false_eq_true, if_false] at hl
    split at hl
    · cases hl; trivial
    · cases hl
  · intro i ft h
    obtain ⟨rfl, rfl⟩ := hframe i ft h
    refine ⟨fun o ho => (by cases ho), ?_⟩
    intro k e n hm
    simp at hm

/-- `fib(6)` from the state with `x = 5`, evaluated once: it returns 8 without moving the caller's counter and leaves
the writers as they were -/
theorem fib6_eval : (match runM (applyFunction 100 (.func fibVal) [.int 6]) (detState 5) with
    | (.ok (.int v), t) => v == 8 && missOf t (detState 5).cur == missOf (detState 5) (detState 5).cur &&
        t.outs == (detState 5).outs
    | _ => false) = true := by decide +kernel

theorem fib6_run : ∃ t, runM (applyFunction 100 (.func fibVal) [.int 6]) (detState 5) = (.ok (.int 8), t) ∧
    missOf t (detState 5).cur = missOf (detState 5) (detState 5).cur ∧ t.outs = (detState 5).outs := by
  have h := fib6_eval
  split at h
  · next v t hr =>
    simp only [Bool.and_eq_true, beq_iff_eq] at h
    obtain ⟨⟨rfl, hq⟩, ho⟩ := h
    exact ⟨t, hr, hq, ho⟩
  · cases h

/-- the hypotheses hold for `fib(6)` from the state with `x = 5`: it returns 8 without moving the caller's counter … -/
theorem det_run : (match runM (applyFunction 100 (.func fibVal) [.int 6]) (detState 5) with
    | (.ok (.int v), st) => v == 8 && missOf st (detState 5).cur == missOf (detState 5) (detState 5).cur
    | _ => false) = true := by
  obtain ⟨t, hr, hq, -⟩ := fib6_run
  rw [hr]
  simp [hq]

/-- … so it returns 8 from the state with `x = 7` too, with the same output, quietly -/
example : ∃ s', runM (applyFunction 100 (.func fibVal) [.int 6]) (detState 7) = (.ok (.int 8), s') ∧
    missOf s' (detState 7).cur = missOf (detState 7) (detState 7).cur := by
  obtain ⟨t', hr, hq, -⟩ := fib6_run
  obtain ⟨s', h1, _, h3, _⟩ := C04.quiet_call_depends_only_on_trusted detD 100 fibVal [.int 6] (detState 7)
    (detState 5) det_agree ⟨trivial, trivial⟩ (.int 8) t' hr hq
  exact ⟨s', h1, h3⟩


/-- Binding a parameter with an all-caps name moves the callee frame's counter (`TriggerNoCache`: whether `CreateOrSet`
accepts it depends on the outer constants of that name, now or later), and `applyFunction` compares the counter
after the body with 0, not with its value after the binding (`applyFunction_quiet_full`): such a call is never
stored.  (Before grol 577ed27 `f = func(N){N+1}; f(6); N = 5; f(6)` served the stale 7 from the cache instead of
refusing to change the constant `N`.) -/
theorem C04.constant_param_is_miss (nenv : Nat) : ∀ (l : List (String × Obj)) (t t' : St),
    runM (bindParams nenv l) t = (.ok none, t') → (∃ pa ∈ l, isConstant pa.1 = true) → missOf t nenv < missOf t' nenv
  | [], _, _, _, h => by obtain ⟨_, hm, _⟩ := h; cases hm
  | (p, a) :: rest, t, t', hrun, hex => by
    unfold bindParams at hrun
    rw [runM_bind] at hrun
    cases hv : runM (valueOf a) t with
    | mk rv t1 =>
      rw [hv] at hrun
      have h1 : missOf t nenv ≤ missOf t1 nenv := by
        have := missOf_mono (tr_valueOf (o := a)) t nenv; rw [hv] at this; exact this
      cases rv with
      | error e => cases hrun
      | ok pval =>
        dsimp only at hrun
        -- the rest of the loop, from any state
        have hrest : ∀ u u', runM (do
              let oerr ← createOrSet nenv p pval true
              if oerr.isError = true then pure (some oerr) else bindParams nenv rest) u = (.ok none, u') →
            missOf u nenv ≤ missOf u' nenv ∧ ((∃ pa ∈ rest, isConstant pa.1 = true) → missOf u nenv < missOf u' nenv) := by
          intro u u' hr
          rw [runM_bind] at hr
          cases hc : runM (createOrSet nenv p pval true) u with
          | mk rc u1 =>
            rw [hc] at hr
            have h2 : missOf u nenv ≤ missOf u1 nenv := by
              have := missOf_mono (tr_createOrSet (e := nenv) (n := p) (v := pval) (c := true)) u nenv
              rw [hc] at this; exact this
            cases rc with
            | error e => cases hr
            | ok oerr =>
              dsimp only at hr
              split at hr
              · rw [runM_pure] at hr; cases hr
              · have h3 : missOf u1 nenv ≤ missOf u' nenv := by
                  have := missOf_mono (tr_bindParams (nenv := nenv) (l := rest)) u1 nenv; rw [hr] at this; exact this
                refine ⟨by omega, fun hex' => ?_⟩
                have := C04.constant_param_is_miss nenv rest u1 u' hr hex'
                omega
        by_cases hp : isConstant p = true
        · simp only [hp, if_true] at hrun
          rw [runM_bind] at hrun
          cases ht : runM (triggerNoCache nenv) t1 with
          | mk rt t2 =>
            rw [ht] at hrun
            cases rt with
            | error e => cases hrun
            | ok u0 =>
              have h2 := Loud.triggerNoCache (e := nenv) t1 u0 t2 ht
              have h3 := (hrest t2 t' hrun).1
              omega
        · simp only [hp, Bool.false_eq_true, if_false] at hrun
          obtain ⟨pa, hm, hpa⟩ := hex
          rcases List.mem_cons.1 hm with h | h
          · subst h; exact absurd hpa hp
          · have := (hrest t1 t' hrun).2 ⟨pa, h, hpa⟩
            omega

def C04.cacheOff (st : St) : St := { st with cfg := { st.cfg with cacheOn := false }, cache := [] }

/-- a state reached by a session: the inputs `progs` run one after the other from the initial state -/
def C04.Reached (cfg : Cfg) (st : St) : Prop :=
  ∃ progs : List Node, st = progs.foldl (fun acc p => (runInput acc p).1) (initState cfg)

/-- (B), full strength, NOT proved: in every state a session reaches, a cache hit returns the value and the output
that evaluating the call there with the cache off returns.  Missing: the invariant "every entry was stored by a
quiet call and the trusted bindings it read are unchanged since" through `functionChanged` and `del`, and a
non-lockstep simulation (general renaming of frame indices) relating the stored run to the run evaluated now;
`C04.quiet_call_deterministic` is the step from "trusted bindings unchanged" to "same result".  The statement has
to exclude float arguments (`0.0` and `-0.0` share an entry).  The finding
`recursive-call-hit-ignores-callers-local-function` (a same-function call is parented to its caller's frame) refuted
it until the repair (grol e958f06, 9bbdbcc: such a call skips the cache when the caller's frame hides a top level
function).  The invariant, the proved parts ((a) initially, (c0) frame-free steps, (d) hit = evaluation for a valid
cache) and the missing statements are in Props/C04Hit.lean. -/
def C04.HitIsEvaluation : Prop :=
  ∀ (cfg : Cfg) (st : St), C04.Reached cfg st → ∀ (f : FuncVal) (args : List Obj) (v : Obj) (out : Grol.Wire.Bytes),
    outcome (cacheGet f.key args) st = .ok (some (v, out)) →
    ∀ (fuel : Nat) (r : Obj) (st' : St),
      runM (applyFunction fuel (.func f) args) { C04.cacheOff st with outs := [[]] } = (.ok r, st') →
      r = v ∧ (match st'.outs with | o :: _ => chunksBytes o | [] => []) = out

/-- (C), full strength, NOT proved: `C04.Statement` (Props/C04.lean): every session gives the same observations
with the cache on and off.  Needs `C04.HitIsEvaluation` and the same non-lockstep simulation for the rest of the
session after a hit. -/
def C04.SessionEquivalence : Prop := C04.Statement

end Grol.E
