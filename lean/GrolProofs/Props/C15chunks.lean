import GrolProofs.EvalOps
/-!
# C15 part 3 — chunked evaluation, the model-level fold lemma

"Feeding the top-level statements in chunks equals evaluating them in one go", at the level of
the evaluator model's statement loop `Grol.E.evalStatements` (lean/Grol/Eval/Eval.lean, the model
of `evalStatements` in eval/eval.go).

## What IS proved here (for every fuel parameter `n`, all statement lists, every state)

Equations between computations in `M = ExceptT Stop (StateM St)`; such an equation says that for
every start state the two sides produce the same outcome (value / Go panic / depth guard / fuel /
unmodelled stop) AND the same final state (frames, output writers, memo cache, step counter, …).

* `C15.evalStatements_append` — evaluating `a ++ b` from an incoming non-stopping result `res`
  = evaluating `a`, and then, unless its result is a return / error VALUE (`Obj.stops`), evaluating
  `b` from the state `a` left, starting with `a`'s result.  Fuel bookkeeping is exact: with total
  fuel `n + |a| + 1`, every statement gets the same fuel on both sides and `b` runs with `n + 1`.
* `C15.evalStatements_append_null` — the same for the block start value `.null`.
* `C15.evalStatements_init_irrelevant`, `C15.evalStatements_all_comments`,
  `C15.evalStatements_append_fresh` — the start value of a block matters only when the block
  consists of comments only; hence if `b` holds a real statement, `b` is evaluated exactly like a
  FRESH block (start value `.null`) in the state left by `a`.  (If `b` is comments only, the one-go
  value is `a`'s value whereas a separate block yields `.null`: see the `example`s at the end.)
* `C15.evalI_stmts`, `C15.evalI_stmts_append` — a block node at the `evalI` level: the prologue
  `C15.enter` (step count + context-deadline check) followed by the statement loop;
  `C15.run_enter`, `C15.evalI_stmts_outcome`, `C15.evalI_stmts_append_outcome` — the same in
  outcome / final-state form when no deadline is configured (`cfg.deadlineAfter = none`).
* `C15.chunks_outcome` (`C15.chunks_outcome_gen`), `C15.chunks_outcome_stops`, `C15.chunks_outcome_error` — the
  three cases in `outcome` / `stateAfter` form: `a` ran to a non-stopping value (then the whole is
  `b` run from there); `a` ended in a return / error value; `a` stopped abnormally (Go panic,
  depth guard, fuel, unmodelled) — in the last two the whole has that very outcome and state.
* `C15.chunks_fold` (`C15.chunks_fold_gen`) — any number of chunks: `evalStatements` on `chunks.flatten`
  = `evalChunks` (chunk after chunk, threading value and state, stopping at a stops-value).

## What is NOT proved here

The `runInput`-level equality (lean/Grol/Eval/Sexp.lean: two REPL inputs `a`, `b` versus the one
input `a ++ b`) does NOT follow from the above alone.  It additionally needs
 (i)   fuel monotonicity of the whole mutual block (more fuel never changes a non-fuel outcome):
       `runInput` gives every input the same constant `defaultFuel`, whereas here the second chunk
       runs with `|a|` units less than the whole;
 (ii)  a frame lemma: evaluation depends on `St.steps` / `St.outs` only by counting / by appending
       to the innermost writer (`runInput` resets `steps := 0, outs := [[]]` per input, and with a
       configured deadline the step counter is observable);
 (iii) the depth counter is back at its entry value after a normal return (`runInput` enters through
       `eval`, which guards and bumps `St.depth` and unwraps return values / references, and it
       resets `cur` / `depth` after a Go panic or depth-guard stop).
Also, whether a later input still runs after an earlier one produced a return / error VALUE is
decided by the session driver, not by `evalStatements` (inside one block the rest is skipped); the
REPL-level statement is therefore about chunks whose values do not stop.
(i)–(iii) are validated by the `chunks` correspondence suite against the real interpreter rather
than proved.
-/
namespace Grol.E

/-- the values at which a statement list stops early: `ReturnValue` (return / break / continue)
and `Error` objects -/
def Obj.stops : Obj → Bool
  | .ret .. => true
  | .error _ => true
  | _ => false

theorem C15.evalStatements_zero (l : List Node) (res : Obj) :
    evalStatements 0 l res = stop .fuel := by
  rw [evalStatements]

theorem C15.evalStatements_nil (f : Nat) (res : Obj) :
    evalStatements (f + 1) [] res = pure res := by
  rw [evalStatements]

theorem C15.evalStatements_comment (f : Nat) (rest : List Node) (res : Obj) :
    evalStatements (f + 1) (.comment :: rest) res = evalStatements f rest res := by
  rw [evalStatements]

theorem C15.evalStatements_cons (f : Nat) (s : Node) (rest : List Node) (res : Obj)
    (hs : s ≠ .comment) :
    evalStatements (f + 1) (s :: rest) res =
      (do let r ← evalI f s
          if r.stops then pure r else evalStatements f rest r) := by
  rw [evalStatements]
  · congr 1
    funext r
    cases r <;> rfl
  · exact hs

theorem C15.evalStatements_append (n : Nat) (a b : List Node) (res : Obj)
    (hres : res.stops = false) :
    evalStatements (n + a.length + 1) (a ++ b) res =
      (do let r ← evalStatements (n + a.length + 1) a res
          if r.stops then pure r else evalStatements (n + 1) b r) := by
  induction a generalizing res with
  | nil =>
    simp only [List.nil_append, List.length_nil, Nat.add_zero]
    rw [C15.evalStatements_nil, pure_bind, hres]
    rfl
  | cons s a ih =>
    have hf : n + (s :: a).length + 1 = (n + a.length + 1) + 1 := rfl
    rw [hf, List.cons_append]
    by_cases hs : s = .comment
    · subst hs
      rw [C15.evalStatements_comment, C15.evalStatements_comment]
      exact ih res hres
    · rw [C15.evalStatements_cons _ _ _ _ hs, C15.evalStatements_cons _ _ _ _ hs, bind_assoc]
      congr 1
      funext r
      cases hr : r.stops
      · simp only [Bool.false_eq_true, if_false]
        exact ih r hr
      · simp only [if_true, pure_bind, hr]

/-- the top-level case (`evalI` starts a block with `.null`) -/
theorem C15.evalStatements_append_null (n : Nat) (a b : List Node) :
    evalStatements (n + a.length + 1) (a ++ b) .null =
      (do let r ← evalStatements (n + a.length + 1) a .null
          if r.stops then pure r else evalStatements (n + 1) b r) :=
  C15.evalStatements_append n a b .null rfl

/-! ### the initial result only matters for all-comment blocks -/

/-- a block with at least one non-comment statement does not depend on the incoming result -/
theorem C15.evalStatements_init_irrelevant (f : Nat) (b : List Node) (r r' : Obj)
    (hb : ∃ s, s ∈ b ∧ s ≠ .comment) :
    evalStatements f b r = evalStatements f b r' := by
  induction b generalizing f with
  | nil => obtain ⟨s, hs, _⟩ := hb; cases hs
  | cons s rest ih =>
    cases f with
    | zero => rw [C15.evalStatements_zero, C15.evalStatements_zero]
    | succ f =>
      by_cases hs : s = .comment
      · subst hs
        rw [C15.evalStatements_comment, C15.evalStatements_comment]
        apply ih
        obtain ⟨t, ht, htc⟩ := hb
        cases ht with
        | head => exact absurd rfl htc
        | tail _ h => exact ⟨t, h, htc⟩
      · rw [C15.evalStatements_cons _ _ _ _ hs, C15.evalStatements_cons _ _ _ _ hs]

/-- an all-comment block returns the incoming result unchanged (given enough fuel) -/
theorem C15.evalStatements_all_comments (n : Nat) (b : List Node) (r : Obj)
    (hb : ∀ s, s ∈ b → s = .comment) :
    evalStatements (n + b.length + 1) b r = pure r := by
  induction b with
  | nil => exact C15.evalStatements_nil _ _
  | cons s rest ih =>
    have hf : n + (s :: rest).length + 1 = (n + rest.length + 1) + 1 := rfl
    have hs : s = .comment := hb s (List.mem_cons_self ..)
    subst hs
    rw [hf, C15.evalStatements_comment]
    exact ih (fun t ht => hb t (List.mem_cons_of_mem _ ht))

/-- the "two separate blocks" form: when the second chunk has a real statement, it is evaluated
exactly as a fresh block (starting from `.null`) in the state the first chunk left -/
theorem C15.evalStatements_append_fresh (n : Nat) (a b : List Node)
    (hb : ∃ s, s ∈ b ∧ s ≠ .comment) :
    evalStatements (n + a.length + 1) (a ++ b) .null =
      (do let r ← evalStatements (n + a.length + 1) a .null
          if r.stops then pure r else evalStatements (n + 1) b .null) := by
  rw [C15.evalStatements_append_null]
  congr 1
  funext r
  rw [C15.evalStatements_init_irrelevant (n + 1) b r .null hb]

/-- the prologue of `evalI` (`evalInternal`): count the step, check the context deadline -/
def C15.enter (k : M Obj) : M Obj := do
  let st ← get
  set { st with steps := st.steps + 1 }
  match st.cfg.deadlineAfter with
  | some d => if st.steps ≥ d then pure (err "context deadline exceeded") else k
  | none => k

/-- the prologue as `evalI` spells it: `(evalI.eq_2 f node).trans (C15.enter_of _)` is the one-step equation
`evalI (f + 1) node = C15.enter k`, `k` the rule of the node kind -/
theorem C15.enter_of (k : M Obj) :
    (do let st ← get
        set { st with steps := st.steps + 1 }
        match st.cfg.deadlineAfter with
        | some d => if st.steps ≥ d then pure (err "context deadline exceeded") else k
        | _ => k) = C15.enter k := by
  unfold C15.enter
  congr 1; funext st; congr 1; funext _
  cases st.cfg.deadlineAfter <;> rfl

theorem C15.evalI_stmts (f : Nat) (l : List Node) :
    evalI (f + 1) (.stmts l) = C15.enter (evalStatements f l .null) :=
  (evalI.eq_2 _ _).trans (C15.enter_of _)

/-- a block node holding `a ++ b`: prologue, then the statements of `a`, then (unless `a` ended in
a return / error value) those of `b`, continuing from the result and state of `a` -/
theorem C15.evalI_stmts_append (n : Nat) (a b : List Node) :
    evalI (n + a.length + 2) (.stmts (a ++ b)) =
      C15.enter (do
        let r ← evalStatements (n + a.length + 1) a .null
        if r.stops then pure r else evalStatements (n + 1) b r) := by
  rw [show n + a.length + 2 = (n + a.length + 1) + 1 from rfl, C15.evalI_stmts,
    C15.evalStatements_append_null]

/-- the state `evalI` hands to the block body -/
def C15.bump (st : St) : St := { st with steps := st.steps + 1 }

/-- with no deadline configured the prologue only counts the step -/
theorem C15.run_enter (k : M Obj) (st : St) (hd : st.cfg.deadlineAfter = none) :
    run (C15.enter k) st = run k (C15.bump st) := by
  unfold C15.enter
  rw [run_bind_ok _ (a := st) rfl, run_bind_ok _ (a := ()) rfl]
  show run (match st.cfg.deadlineAfter with | some d => _ | none => k) _ = _
  rw [hd]
  rfl

/-- with a deadline configured and reached, nothing but the step count happens -/
theorem C15.run_enter_deadline (k : M Obj) (st : St) (d : Nat) (hd : st.cfg.deadlineAfter = some d) (hs : st.steps ≥ d) :
    run (C15.enter k) st = (.ok (err "context deadline exceeded"), C15.bump st) := by
  unfold C15.enter
  rw [run_bind_ok _ (a := st) rfl, run_bind_ok _ (a := ()) rfl]
  show run (match st.cfg.deadlineAfter with | some d => _ | none => k) _ = _
  rw [hd]
  show run (if st.steps ≥ d then _ else k) _ = _
  rw [if_pos hs]
  rfl

/-- whatever the configuration, the prologue counts the step and then either runs the rule or returns the
deadline error -/
theorem C15.run_enter_cases (k : M Obj) (st : St) :
    run (C15.enter k) st = run k (C15.bump st) ∨
      run (C15.enter k) st = (.ok (err "context deadline exceeded"), C15.bump st) := by
  cases hd : st.cfg.deadlineAfter with
  | none => exact .inl (C15.run_enter k st hd)
  | some d =>
    by_cases hs : st.steps ≥ d
    · exact .inr (C15.run_enter_deadline k st d hd hs)
    · left
      unfold C15.enter
      rw [run_bind_ok _ (a := st) rfl, run_bind_ok _ (a := ()) rfl]
      show run (match st.cfg.deadlineAfter with | some d => _ | none => k) _ = _
      rw [hd]
      show run (if st.steps ≥ d then _ else k) _ = _
      rw [if_neg hs]
      rfl

/-- the chunk `a` ran to a non-stopping value `r`: the whole is `b` run from there -/
theorem C15.chunks_outcome_gen (n : Nat) (a b : List Node) (res r : Obj) (st : St)
    (hres : res.stops = false)
    (ha : outcome (evalStatements (n + a.length + 1) a res) st = .ok r) (hr : r.stops = false) :
    outcome (evalStatements (n + a.length + 1) (a ++ b) res) st =
        outcome (evalStatements (n + 1) b r) (stateAfter (evalStatements (n + a.length + 1) a res) st)
    ∧ stateAfter (evalStatements (n + a.length + 1) (a ++ b) res) st =
        stateAfter (evalStatements (n + 1) b r) (stateAfter (evalStatements (n + a.length + 1) a res) st) := by
  exact SameRun.of_run (by rw [C15.evalStatements_append n a b res hres, run_bind_ok _ ha, hr]; rfl)

theorem C15.chunks_outcome (n : Nat) (a b : List Node) (r : Obj) (st : St)
    (ha : outcome (evalStatements (n + a.length + 1) a .null) st = .ok r) (hr : r.stops = false) :
    outcome (evalStatements (n + a.length + 1) (a ++ b) .null) st =
        outcome (evalStatements (n + 1) b r) (stateAfter (evalStatements (n + a.length + 1) a .null) st)
    ∧ stateAfter (evalStatements (n + a.length + 1) (a ++ b) .null) st =
        stateAfter (evalStatements (n + 1) b r) (stateAfter (evalStatements (n + a.length + 1) a .null) st) :=
  C15.chunks_outcome_gen n a b .null r st rfl ha hr

/-- the chunk `a` ended in a return / error VALUE: `b` is not run, same value, same state -/
theorem C15.chunks_outcome_stops (n : Nat) (a b : List Node) (r : Obj) (st : St)
    (ha : outcome (evalStatements (n + a.length + 1) a .null) st = .ok r) (hr : r.stops = true) :
    outcome (evalStatements (n + a.length + 1) (a ++ b) .null) st = .ok r
    ∧ stateAfter (evalStatements (n + a.length + 1) (a ++ b) .null) st =
        stateAfter (evalStatements (n + a.length + 1) a .null) st := by
  exact of_run_eq (by rw [C15.evalStatements_append_null, run_bind_ok _ ha, hr]; rfl)

/-- the chunk `a` stopped abnormally (Go panic, depth guard, out of fuel, unmodelled): `b` is not
run, same stop, same state -/
theorem C15.chunks_outcome_error (n : Nat) (a b : List Node) (e : Stop) (st : St)
    (ha : outcome (evalStatements (n + a.length + 1) a .null) st = .error e) :
    outcome (evalStatements (n + a.length + 1) (a ++ b) .null) st = .error e
    ∧ stateAfter (evalStatements (n + a.length + 1) (a ++ b) .null) st =
        stateAfter (evalStatements (n + a.length + 1) a .null) st := by
  exact of_run_eq (by rw [C15.evalStatements_append_null, run_bind_error _ ha])

/-- no deadline configured: a block node `{a; b}` evaluated by `evalI` from `st`, where `a` ran to the
non-stopping `r`, equals `b` run from the state `a` left -/
theorem C15.evalI_stmts_append_outcome (n : Nat) (a b : List Node) (r : Obj) (st : St)
    (hd : st.cfg.deadlineAfter = none)
    (ha : outcome (evalStatements (n + a.length + 1) a .null) (C15.bump st) = .ok r)
    (hr : r.stops = false) :
    outcome (evalI (n + a.length + 2) (.stmts (a ++ b))) st =
        outcome (evalStatements (n + 1) b r)
          (stateAfter (evalStatements (n + a.length + 1) a .null) (C15.bump st))
    ∧ stateAfter (evalI (n + a.length + 2) (.stmts (a ++ b))) st =
        stateAfter (evalStatements (n + 1) b r)
          (stateAfter (evalStatements (n + a.length + 1) a .null) (C15.bump st)) := by
  rw [C15.evalI_stmts_append, ← C15.evalStatements_append_null]
  exact (SameRun.of_run (C15.run_enter _ st hd)).trans (C15.chunks_outcome n a b r _ ha hr)

/-- … and the first chunk alone, as its own block node, leaves exactly that state and value -/
theorem C15.evalI_stmts_outcome (f : Nat) (a : List Node) (st : St)
    (hd : st.cfg.deadlineAfter = none) :
    outcome (evalI (f + 1) (.stmts a)) st = outcome (evalStatements f a .null) (C15.bump st)
    ∧ stateAfter (evalI (f + 1) (.stmts a)) st = stateAfter (evalStatements f a .null) (C15.bump st) := by
  rw [C15.evalI_stmts]
  exact SameRun.of_run (C15.run_enter _ st hd)

/-- evaluate chunk after chunk, threading result and state, stopping at a return / error value;
the first chunk of `c :: cs` gets the fuel the one-go evaluation of the concatenation has there -/
def evalChunks (n : Nat) : List (List Node) → Obj → M Obj
  | [], res => pure res
  | c :: cs, res => do
    let r ← evalStatements (n + cs.flatten.length + c.length + 1) c res
    if r.stops then pure r else evalChunks n cs r

theorem C15.chunks_fold_gen (n : Nat) (chunks : List (List Node)) (res : Obj)
    (hres : res.stops = false) :
    evalStatements (n + chunks.flatten.length + 1) chunks.flatten res = evalChunks n chunks res := by
  induction chunks generalizing res with
  | nil => exact C15.evalStatements_nil _ _
  | cons c cs ih =>
    have hf : n + (c :: cs).flatten.length + 1 = (n + cs.flatten.length) + c.length + 1 := by
      simp only [List.flatten_cons, List.length_append]
      omega
    rw [hf, List.flatten_cons, C15.evalStatements_append _ _ _ _ hres]
    unfold evalChunks
    congr 1
    funext r
    cases hr : r.stops
    · simp only [Bool.false_eq_true, if_false]
      exact ih r hr
    · rfl

theorem C15.chunks_fold (n : Nat) (chunks : List (List Node)) :
    evalStatements (n + chunks.flatten.length + 1) chunks.flatten .null = evalChunks n chunks .null :=
  C15.chunks_fold_gen n chunks .null rfl

/-! ### the statements typecheck at concrete programs -/

example :
    evalStatements (5 + 2 + 1) ([.int 1, .comment] ++ [.int 2]) .null =
      (do let r ← evalStatements (5 + 2 + 1) [.int 1, .comment] .null
          if r.stops then pure r else evalStatements (5 + 1) [.int 2] r) :=
  C15.evalStatements_append 5 [.int 1, .comment] [.int 2] .null rfl

example :
    evalStatements (3 + 3 + 1) [.int 1, .comment, .int 2] .null =
      evalChunks 3 [[.int 1, .comment], [], [.int 2]] .null :=
  C15.chunks_fold 3 [[.int 1, .comment], [], [.int 2]]

/-! ### non-vacuity: the hypotheses of the outcome forms hold at concrete programs
(kernel evaluation of the model; `{}` is the default state, no deadline) -/

/-- first chunk `1; // comment` runs to the non-stopping `1` … -/
example : outcome (evalStatements (1 + 2 + 1) [.int 1, .comment] .null) {} = .ok (.int 1) := rfl
example : (Obj.int 1).stops = false := rfl
/-- … and the whole `1; // comment; 2` gives `2` after two counted steps -/
example : outcome (evalStatements (1 + 2 + 1) ([.int 1, .comment] ++ [.int 2]) .null) {} = .ok (.int 2) := rfl
example : (stateAfter (evalStatements (1 + 2 + 1) ([.int 1, .comment] ++ [.int 2]) .null) {}).steps = 2 := rfl
/-- a first chunk ending in a return value: `chunks_outcome_stops` applies -/
example : outcome (evalStatements (1 + 2 + 1) [.ret .none, .comment] .null) {} =
    .ok (.ret .null "RETURN") := rfl
/-- out of fuel inside the first chunk: `chunks_outcome_error` applies -/
example : outcome (evalStatements (0 + 1 + 1) [.stmts [.int 1]] .null) {} = .error .fuel := rfl
/-- why `evalStatements_append_fresh` needs a real statement in `b`: a comment-only second chunk
keeps the first chunk's value in one go, but yields `.null` as a block of its own -/
example : outcome (evalStatements (1 + 1 + 1) ([.int 1] ++ [.comment]) .null) {} = .ok (.int 1) := rfl
example : outcome (evalStatements (1 + 1) [.comment] .null) {} = .ok .null := rfl

end Grol.E
