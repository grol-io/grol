import GrolProofs.RenMain
import GrolProofs.Props.C10
import GrolProofs.Props.C07
/-
C10 — a failed input leaves no trace in the session: the heap-extension simulation.

`Grol.C10.renaming_invariance` is the general two-state theorem: if the state `s` of one run is the
state `t` of another up to a shift `σ` of the frame indices (`Grol.R.StR σ s t`: `s` may hold extra,
unreachable frames at the indices `[σ.n0, σ.n0 + σ.d)`; the miss counters, can't-cache flags and set
counters of the frames below `σ.n0` and the instrumentation log may differ; the caches are equal up
to the renaming), then evaluating ANY syntax tree with ANY fuel from `s` and from `t` ends the same
way — both normally with results equal up to the renaming, or both with the same stop — in states
that are related again.  It is proved by a simulation over the whole evaluator model
(lean/GrolProofs/Ren{Base,Val,Env,Ops,Helpers,Main}.lean, one lemma per function, induction on the
fuel for the 19 mutually recursive functions).

From it: one REPL input (`runInput_sim`), a continuation of inputs (`runInputs_sim`), and the
statement of C10 from its own hypotheses (`statement_core`): after a failed input that only left
unreachable frames, counters and log entries behind, every continuation produces the same output,
error flag and panic kind for every input, and results equal up to the renaming.

`C10.Statement` itself also compares the RENDERED result (`InputObs.val = renderValue st v`);
`renderValue` (lean/Grol/Eval/Sexp.lean) is a total function — structural over the value, with a bound
of 1000 on the references followed in a row — and `renderValue_ren` shows it invariant under the
renaming (functions render by their cache key, references as their target).  Hence
`statement_full : C10.Statement`, without any hypothesis.
-/
namespace Grol.C10
open Grol.E Grol.R

/-- **Renaming invariance**, the two-run theorem -/
theorem renaming_invariance (σ : Sh) (fuel : Nat) (prog : Node) (s t : St) (hR : StR σ s t) :
    match outcome (eval fuel prog) s, outcome (eval fuel prog) t with
    | .ok a, .ok b => a = ren σ b ∧ StR σ (stateAfter (eval fuel prog) s) (stateAfter (eval fuel prog) t)
    | .error e, .error e' => e = e' ∧ StR σ (stateAfter (eval fuel prog) s) (stateAfter (eval fuel prog) t)
    | _, _ => False := by
  have h := (simSpec_all σ fuel).eval prog s t hR
  unfold SimAt at h
  rw [outcome_eq, outcome_eq, stateAfter_eq, stateAfter_eq]
  generalize runM (eval fuel prog) s = rs at h
  generalize runM (eval fuel prog) t = rt at h
  obtain ⟨ra, s'⟩ := rs
  obtain ⟨rb, t'⟩ := rt
  cases ra <;> cases rb <;> first | exact h.elim | exact ⟨h.1, h.2⟩ | exact ⟨h.2, h.1⟩

/-- the one fact about the renderer that C10 needs: rendering a renamed value in the state of run S gives what
rendering the value in the state of run T gives -/
def RenderInv : Prop := ∀ (σ : Sh) (s t : St) (v : Obj), StR σ s t → renderValue s (ren σ v) = renderValue t v

/-- the observations of one input in the two runs: same decline reason, or same output, error flag
and panic kind — and the same rendered value if the renderer is invariant -/
def ObsR : Except String InputObs → Except String InputObs → Prop
  | .ok a, .ok b => a.out = b.out ∧ a.isErr = b.isErr ∧ a.panic = b.panic ∧ (RenderInv → a.val = b.val)
  | .error a, .error b => a = b
  | _, _ => False

theorem runInput_sim (σ : Sh) (s t : St) (p : Node) (hR : StR σ s t) :
    StR σ (runInput s p).1 (runInput t p).1 ∧ ObsR (runInput s p).2 (runInput t p).2 := by
  rw [runInput_eq, runInput_eq]
  by_cases hm : mentions unmodelledRootNames p = true
  · rw [if_pos hm, if_pos hm]; exact ⟨hR, rfl⟩
  · rw [if_neg hm, if_neg hm]
    have hR0 : StR σ (startInput s) (startInput t) :=
      ⟨hR.cfg, hR.extNames, hR.depth, rfl, rfl, hR.cache, hR.cur, hR.root, hR.size, hR.n0, hR.pos, hR.frames, hR.dec⟩
    have h := renaming_invariance σ defaultFuel p _ _ hR0
    generalize outcome (eval defaultFuel p) (startInput s) = rs at h
    generalize outcome (eval defaultFuel p) (startInput t) = rt at h
    generalize stateAfter (eval defaultFuel p) (startInput s) = s1 at h
    generalize stateAfter (eval defaultFuel p) (startInput t) = t1 at h
    cases rs with
    | ok a =>
      cases rt with
      | ok b =>
        obtain ⟨rfl, h1⟩ := h
        exact ⟨h1, by simp only [finishInput, ObsR, h1.outs, ren_isError, true_and]; exact fun hren => hren σ s1 t1 b h1⟩
      | error e' => exact h.elim
    | error e =>
      cases rt with
      | ok b => exact h.elim
      | error e' =>
        obtain ⟨rfl, h1⟩ := h
        have hreset : StR σ { s1 with cur := s1.root, depth := 0 } { t1 with cur := t1.root, depth := 0 } :=
          ⟨h1.cfg, h1.extNames, rfl, h1.steps, h1.outs, h1.cache, h1.root, h1.root, h1.size, h1.n0, h1.pos, h1.frames,
            h1.dec⟩
        cases e with
        | goPanic site => exact ⟨hreset, by simp only [finishInput, ObsR, h1.outs, true_and, implies_true, and_self]⟩
        | depthGuard => exact ⟨hreset, by simp only [finishInput, ObsR, h1.outs, true_and, implies_true, and_self]⟩
        | fuel => exact ⟨h1, rfl⟩
        | unmodelled w => exact ⟨h1, rfl⟩

inductive AllR (r : α → β → Prop) : List α → List β → Prop
  | nil : AllR r [] []
  | cons {a b l l'} : r a b → AllR r l l' → AllR r (a :: l) (b :: l')

theorem runInputs_sim (σ : Sh) : ∀ (ps : List Node) (s t : St), StR σ s t →
    AllR ObsR (runInputs s ps) (runInputs t ps)
  | [], _, _, _ => .nil
  | p :: ps, s, t, hR => by
    obtain ⟨h1, h2⟩ := runInput_sim σ s t p hR
    exact .cons h2 (runInputs_sim σ ps _ _ h1)

/-- what the user sees of an input, without the rendered value -/
def visible0 (r : Except String InputObs) : Except String (Grol.Wire.Bytes × Bool × String) :=
  r.map fun o => (o.out, o.isErr, o.panic)

theorem visible0_of_obsR {a b : Except String InputObs} (h : ObsR a b) : visible0 a = visible0 b := by
  cases a <;> cases b <;> simp only [ObsR] at h
  · subst h; rfl
  · simp only [visible0, Except.map, h.1, h.2.1, h.2.2.1]

theorem map_visible0_of_allR : ∀ {l l' : List (Except String InputObs)}, AllR ObsR l l' →
    l.map visible0 = l'.map visible0
  | _, _, .nil => rfl
  | _, _, .cons h hs => by simp only [List.map_cons, visible0_of_obsR h, map_visible0_of_allR hs]

mutual
theorem ren_of_ok (σ : Sh) : ∀ (o : Obj), okObj σ.n0 o = true → ren σ o = o
  | .array els, h => by
    simp only [okObj] at h; simp only [ren]; rw [renL_of_ok σ els h]
  | .map _ kvs, h => by
    simp only [okObj] at h; simp only [ren]; rw [renP_of_ok σ kvs h]
  | .func f, h => by
    simp only [okObj, decide_eq_true_eq] at h
    simp only [ren, renFn, sh_of_lt σ h]
  | .ret v _, h => by
    simp only [okObj] at h; simp only [ren]; rw [ren_of_ok σ v h]
  | .ref e _, h => by
    simp only [okObj, decide_eq_true_eq] at h
    simp only [ren, sh_of_lt σ h]
  | .null, _ | .bool _, _ | .int _, _ | .float _, _ | .str _, _ | .ext _, _ | .error _, _ | .quote _, _ => rfl
theorem renL_of_ok (σ : Sh) : ∀ (l : List Obj), okList σ.n0 l = true → renL σ l = l
  | [], _ => rfl
  | x :: xs, h => by
    simp only [okList, Bool.and_eq_true] at h
    simp only [renL]; rw [ren_of_ok σ x h.1, renL_of_ok σ xs h.2]
theorem renP_of_ok (σ : Sh) : ∀ (l : List (Obj × Obj)), okPairs σ.n0 l = true → renP σ l = l
  | [], _ => rfl
  | (k, v) :: xs, h => by
    simp only [okPairs, Bool.and_eq_true] at h
    simp only [renP]; rw [ren_of_ok σ k h.1.1, ren_of_ok σ v h.1.2, renP_of_ok σ xs h.2]
end

theorem renStore_of_ok (σ : Sh) : ∀ (store : List (String × Obj)),
    (∀ k v, (k, v) ∈ store → okObj σ.n0 v = true) → renStore σ store = store
  | [], _ => rfl
  | (k, v) :: rest, h => by
    simp only [renStore, List.map_cons]
    rw [ren_of_ok σ v (h k v List.mem_cons_self)]
    congr 1
    exact renStore_of_ok σ rest (fun k' v' hm => h k' v' (List.mem_cons_of_mem _ hm))

theorem cacheR_refl (σ : Sh) : ∀ (l : List CacheEntry), (∀ c, c ∈ l → okObj σ.n0 c.result = true) → CacheR σ l l
  | [], _ => .nil
  | c :: rest, h =>
    .cons ⟨rfl, rfl, (ren_of_ok σ _ (h c List.mem_cons_self)).symm, fun _ => rfl⟩
      (cacheR_refl σ rest (fun c' hc => h c' (List.mem_cons_of_mem _ hc)))

def shiftOf (st st' : St) : Sh := ⟨st.frames.size, st'.frames.size - st.frames.size⟩

/-- a top-level state and a heap extension of it (same configuration, same cache) are related, once
the writer stack and the step counter are reset as every input does -/
theorem stR_of_heapExtends (st st' : St) (hI : Inv st) (htop : AtTop st) (htop' : AtTop st')
    (hk : Keeps st st') (hext : C10.HeapExtends st st') (hc : st'.cache = st.cache) :
    StR (shiftOf st st') (startInput st') (startInput st) := by
  obtain ⟨hsz, hfr⟩ := hext
  have hroot := hI.root
  refine ⟨hk.cfg, hk.extNames, by show st'.depth = st.depth; rw [htop.2, htop'.2], rfl, rfl, ?_, ?_, ?_, ?_, Nat.le_refl _, ?_, ?_, ?_⟩
  · show CacheR _ st'.cache st.cache
    rw [hc]
    exact cacheR_refl _ _ hI.cache
  · show st'.cur = sh _ st.cur
    rw [htop'.1, htop.1, hk.root, sh_of_lt _ (show st.root < (shiftOf st st').n0 from hroot)]
  · show st'.root = sh _ st.root
    rw [hk.root, sh_of_lt _ (show st.root < (shiftOf st st').n0 from hroot)]
  · show st'.frames.size = st.frames.size + (st'.frames.size - st.frames.size)
    omega
  · show 0 < st.frames.size
    omega
  · intro i ft hi
    have hi : st.frames[i]? = some ft := hi
    have hlt : i < st.frames.size := lt_of_frame hi
    have hlt' : i < st'.frames.size := by omega
    have hft : st.frames[i] = ft := by
      rw [Array.getElem?_eq_getElem hlt] at hi; exact Option.some.inj hi
    obtain ⟨h1, h2, h3, h4, h5, h6⟩ := hfr i hlt hlt'
    rw [hft] at h1 h2 h3 h4 h5 h6
    have hok := hI.frames i ft hi
    refine ⟨st'.frames[i], ?_, ?_⟩
    · show (startInput st').frames[sh _ i]? = _
      rw [sh_of_lt _ (show i < (shiftOf st st').n0 from hlt)]
      exact Array.getElem?_eq_getElem hlt'
    · refine ⟨?_, ?_, h3, h4, ?_, fun h => absurd h (by show ¬ st.frames.size ≤ i; omega), h6⟩
      · rw [h1, renStore_of_ok]
        intro k v hm
        exact (hok.store k v hm).1
      · rw [h2]
        cases ho : ft.outer with
        | none => rfl
        | some o =>
          have := (hok.outer o ho).1
          simp only [Option.map]
          rw [sh_of_lt _ (show o < (shiftOf st st').n0 by show o < st.frames.size; omega)]
      · rw [h5]
        cases hf : ft.function with
        | none => rfl
        | some fn =>
          have := hok.func fn hf
          simp only [Option.map, renFn]
          rw [sh_of_lt _ (show fn.env < (shiftOf st st').n0 from this)]
  · intro i f hi
    have hi : st.frames[i]? = some f := hi
    have hok := hI.frames i f hi
    refine ⟨fun o ho => (hok.outer o ho).1, ?_⟩
    intro k e n hm
    exact ((hok.store k _ hm).2 e n rfl).1

theorem visible_of_obsR (hren : RenderInv) {a b : Except String InputObs} (h : ObsR a b) :
    C10.visible a = C10.visible b := by
  cases a <;> cases b <;> simp only [ObsR] at h
  · subst h; rfl
  · simp only [C10.visible, Except.map, h.1, h.2.1, h.2.2.1, h.2.2.2 hren]

theorem map_visible_of_allR (hren : RenderInv) : ∀ {l l' : List (Except String InputObs)}, AllR ObsR l l' →
    l.map C10.visible = l'.map C10.visible
  | _, _, .nil => rfl
  | _, _, .cons h hs => by simp only [List.map_cons, visible_of_obsR hren h, map_visible_of_allR hren hs]

mutual
theorem renderObjW_ren (σ : Sh) (kS kT : Nat → String → String) (hk : ∀ e n, kS (sh σ e) n = kT e n) :
    ∀ (v : Obj), renderObjW kS (ren σ v) = renderObjW kT v
  | .ret v _ => by simp only [ren, renderObjW]; rw [renderObjW_ren σ kS kT hk v]
  | .array els => by simp only [ren, renderObjW]; rw [renderListW_ren σ kS kT hk els]
  | .map _ kvs => by simp only [ren, renderObjW]; rw [renderPairsW_ren σ kS kT hk kvs]
  | .ref e n => by simp only [ren, renderObjW]; exact hk e n
  | .func f => by simp only [ren, renderObjW, renFn]
  | .null | .bool _ | .int _ | .float _ | .str _ | .ext _ | .error _ | .quote _ => by simp only [ren, renderObjW]
theorem renderListW_ren (σ : Sh) (kS kT : Nat → String → String) (hk : ∀ e n, kS (sh σ e) n = kT e n) :
    ∀ (l : List Obj), renderListW kS (renL σ l) = renderListW kT l
  | [] => rfl
  | x :: xs => by
    simp only [renL, renderListW]; rw [renderObjW_ren σ kS kT hk x, renderListW_ren σ kS kT hk xs]
theorem renderPairsW_ren (σ : Sh) (kS kT : Nat → String → String) (hk : ∀ e n, kS (sh σ e) n = kT e n) :
    ∀ (l : List (Obj × Obj)), renderPairsW kS (renP σ l) = renderPairsW kT l
  | [] => rfl
  | (a, b) :: xs => by
    simp only [renP, renderPairsW]
    rw [renderObjW_ren σ kS kT hk a, renderObjW_ren σ kS kT hk b, renderPairsW_ren σ kS kT hk xs]
end

theorem renderFuel_ren (σ : Sh) {s t : St} (hR : StR σ s t) :
    ∀ (fuel : Nat) (v : Obj), renderFuel s fuel (ren σ v) = renderFuel t fuel v
  | 0, v => by
    unfold renderFuel
    exact renderObjW_ren σ _ _ (fun _ _ => rfl) v
  | fuel + 1, v => by
    unfold renderFuel
    refine renderObjW_ren σ _ _ ?_ v
    intro e n
    cases hte : t.frames[e]? with
    | none => rw [hR.none hte]
    | some ft =>
      obtain ⟨fs, hfs, hfr⟩ := hR.frames e ft hte
      rw [hfs]
      dsimp only
      rw [hfr.store, lookupStore_ren]
      cases lookupStore ft.store n with
      | none => rfl
      | some w => exact renderFuel_ren σ hR fuel w

/-- **the renderer is invariant**: rendering a renamed value in the state of run S gives what rendering
the value in the state of run T gives (functions render by their cache key, references as their target) -/
theorem renderValue_ren (σ : Sh) {s t : St} (hR : StR σ s t) (v : Obj) :
    renderValue s (ren σ v) = renderValue t v :=
  renderFuel_ren σ hR 1000 v

theorem renderInv : RenderInv := fun σ _ _ v hR => renderValue_ren σ hR v

/-- the pointwise form: from the hypotheses of `C10.Statement`, every input of every continuation is
observed the same way with and without the failed input -/
theorem statement_pointwise (st : St) (f : Node) (o : InputObs) (ps : List Node)
    (hreach : C10.Reachable st) (htop : AtTop st) (hf : (runInput st f).2 = .ok o)
    (hext : C10.HeapExtends st (runInput st f).1) (hcache : (runInput st f).1.cache = st.cache) :
    AllR ObsR (runInputs (runInput st f).1 ps) (runInputs st ps) := by
  have hI : Inv st := C07.reachable_inv st hreach
  have htop' := C10.reset st f o htop hf
  have hk := C10.runInput_keeps st f
  have hR := stR_of_heapExtends st (runInput st f).1 hI htop htop' hk hext hcache
  rw [C10.runInputs_congr (sameSession_startInput (runInput st f).1) ps,
    C10.runInputs_congr (sameSession_startInput st) ps]
  exact runInputs_sim _ ps _ _ hR

/-- **C10 without the rendered value**: from any reachable top-level state, an input that left only
unreachable frames, counters and log entries behind (every existing frame keeps its bindings, the
cache keeps its entries) is invisible to every continuation of inputs: same output, same error
flag, same panic kind, same decline reason for every later input.  (The hypotheses "the input
failed" and "it wrote nothing" of `C10.Statement` are not needed.) -/
theorem statement_core (st : St) (f : Node) (o : InputObs) (ps : List Node)
    (hreach : C10.Reachable st) (htop : AtTop st) (hf : (runInput st f).2 = .ok o)
    (hext : C10.HeapExtends st (runInput st f).1) (hcache : (runInput st f).1.cache = st.cache) :
    (runInputs (runInput st f).1 ps).map visible0 = (runInputs st ps).map visible0 :=
  map_visible0_of_allR (statement_pointwise st f o ps hreach htop hf hext hcache)

/-- `C10.Statement` from the invariance of the renderer (`renderInv`) -/
theorem statement (hren : RenderInv) : C10.Statement := by
  intro st f o ps hreach htop hf _ _ hext hcache
  exact map_visible_of_allR hren (statement_pointwise st f o ps hreach htop hf hext hcache)

/-- **C10, full strength, about the model** — no hypothesis -/
theorem statement_full : C10.Statement := statement renderInv

/-! ### non-vacuity: a failing input that allocates a frame -/

/-- `f = func(x) { x + "a" }` -/
def defProg : Node :=
  .stmts [.inf "ASSIGN" (.ident "f") (.fn none ["x"] false true "k" (.stmts [.inf "PLUS" (.ident "x") (.str [97])]))]
/-- `f(1)`: the error arises inside the call, after the callee's frame was allocated -/
def failProg : Node := .stmts [.call (.ident "f") [.int 1]]

/-- after `defProg`, the input `failProg` fails with an error result and leaves one extra frame behind
(so it is NOT covered by `C10.no_trace`, whose hypothesis is an unchanged heap); the existing frame
keeps its parent and the names it binds, the cache stays empty (checked by kernel evaluation; the
bound VALUES are not compared here because `Obj` has no decidable equality) -/
example :
    let st := stateAfter (eval 12 defProg) (startInput (initState {}))
    let r := finishInput (outcome (eval 16 failProg) (startInput st)) (stateAfter (eval 16 failProg) (startInput st))
    r.2.toOption.map (·.isErr) = some true ∧ st.frames.size = 1 ∧ r.1.frames.size = 2 ∧
      (r.1.frames[0]?).map (fun f => f.store.map (·.1)) = (st.frames[0]?).map (fun f => f.store.map (·.1)) ∧
      (r.1.frames[0]?).map Frame.outer = (st.frames[0]?).map Frame.outer ∧
      r.1.cache.length = 0 ∧ st.cache.length = 0 := by
  decide +kernel

end Grol.C10
