import GrolProofs.EvalOps
import GrolProofs.EvalFrame
import Grol.Eval.Session
/-
C10 — a failed input leaves no trace in the session.

The session model is `runInput` (Grol/Eval/Sexp.lean: one REPL input = evaluation + the recover
and `Reset` of `repl.EvalOne`) iterated on one persistent `St`.  Proved here, for ALL states,
programs and continuations:

* `C10.runInput_congr` / `C10.runInputs_congr`: an input's observation and successor state are a
  function of the session state *up to the writer stack and the step counter* (`≈` = `SameSession`).
  These are exactly the two fields a failing input can leave dirty without any side effect of the
  program (the private buffers of the calls that were active when the evaluation was abandoned, the
  consumed evaluation context), and `EvalOne` re-installs both at the start of every input.
* `C10.next_input_fresh_writer`: whatever an input left, the next one starts on a single fresh writer.
* `C10.reset_abnormal`: after a Go panic or the depth guard scope = root and depth = 0, from any state.
* `C10.reset`: from a top-level state, after ANY input the model does not decline (normal, error, Go
  panic, depth guard) the session is at top level again.  Uses `eval_restores` / `eval_keeps`
  (GrolProofs/EvalFrame.lean: induction over the whole mutual block of the evaluator).
* `C10.runInput_keeps`: no input changes the configuration, the root pointer, the extension names.
* `C10.no_trace`: from a top-level state, an input whose final state has the heap and the cache it
  started with leaves no trace: every continuation produces identical observations with and without it.

The full statement `C10.Statement` (the heap may have grown by unreachable frames, miss counters
may differ; cache unchanged) is stated below; it is proved in lean/GrolProofs/Props/C10Full.lean by a
two-run simulation of the whole evaluator up to a shift of the frame indices
(`Grol.C10.renaming_invariance`) and the invariance of the result renderer under that shift
(`Grol.C10.renderValue_ren`): `Grol.C10.statement_full : C10.Statement`, no hypothesis.
It is what the `session` correspondence suite checks on the real `repl.EvalOne`.
Without the cache hypothesis the statement is false of model and code alike (listed finding
`failed-input-leaves-cached-mutable-result`).
-/
namespace Grol.E

/-- `s ≈ t`: equal in every field except the writer stack `outs` and the step counter `steps`
(the C06/C19 instrumentation log `hazards` counts as a field: the evaluator never reads it, but that
non-interference is not proved here, so `≈` asks for equal logs) -/
def SameSession (s t : St) : Prop := startInput s = startInput t

theorem SameSession.refl (s : St) : SameSession s s := rfl
theorem SameSession.symm {s t : St} (h : SameSession s t) : SameSession t s := Eq.symm h
theorem SameSession.trans {s t u : St} (h : SameSession s t) (h' : SameSession t u) : SameSession s u := Eq.trans h h'

theorem sameSession_startInput (s : St) : SameSession s (startInput s) := rfl

theorem sameSession_iff (s t : St) :
    SameSession s t ↔ s.cfg = t.cfg ∧ s.frames = t.frames ∧ s.cur = t.cur ∧ s.root = t.root ∧ s.depth = t.depth ∧
      s.cache = t.cache ∧ s.extNames = t.extNames ∧ s.hazards = t.hazards := by
  cases s; cases t
  simp only [SameSession, startInput, St.mk.injEq]
  constructor
  · rintro ⟨h1, h2, h3, h4, h5, -, h6, -, h7, h8⟩; exact ⟨h1, h2, h3, h4, h5, h6, h7, h8⟩
  · rintro ⟨h1, h2, h3, h4, h5, h6, h7, h8⟩; exact ⟨h1, h2, h3, h4, h5, trivial, h6, trivial, h7, h8⟩

/-- the observation of an input and (up to `≈`) its successor state depend on the session state only
up to `≈`: the writer stack and the step counter an earlier input left behind are never read -/
theorem C10.runInput_congr {s t : St} (h : SameSession s t) (p : Node) :
    (runInput s p).2 = (runInput t p).2 ∧ SameSession (runInput s p).1 (runInput t p).1 := by
  have h' : ({ s with outs := [[]], steps := 0 } : St) = { t with outs := [[]], steps := 0 } := h
  unfold runInput
  split
  · exact ⟨rfl, h⟩
  · simp only [h']
    exact ⟨trivial, SameSession.refl _⟩

/-- a continuation of inputs on one persistent state: the observations in order -/
def runInputs (st : St) : List Node → List (Except String InputObs)
  | [] => []
  | p :: ps => (runInput st p).2 :: runInputs (runInput st p).1 ps

theorem C10.runInputs_congr {s t : St} (h : SameSession s t) (ps : List Node) : runInputs s ps = runInputs t ps := by
  induction ps generalizing s t with
  | nil => rfl
  | cons p ps ih =>
    have := C10.runInput_congr h p
    simp only [runInputs, this.1, ih this.2]

/-- whatever writers an input left stacked (the private buffers of the calls that were active when a
panic unwound the evaluation), the next input runs on a single fresh writer -/
theorem C10.next_input_fresh_writer (st : St) (q : Node) :
    (startInput st).outs = [[]] ∧ (runInput st q).2 = (runInput (startInput st) q).2 :=
  ⟨rfl, (C10.runInput_congr (sameSession_startInput st) q).1⟩

def AtTop (st : St) : Prop := st.cur = st.root ∧ st.depth = 0

/-- the second half of `runInput`: what the recover of `EvalOne` makes of the evaluation's outcome -/
def finishInput (r : Except Stop Obj) (st1 : St) : St × Except String InputObs :=
  let out := chunksBytes (st1.outs.getLast?.getD [])
  match r with
  | .ok v =>
    (st1, .ok { out := out, val := renderValue st1 v, isErr := v.isError, panic := "-", globals := renderGlobals st1 })
  | .error (.goPanic _) =>
    let st2 := { st1 with cur := st1.root, depth := 0 }
    (st2, .ok { out := out, val := "-", isErr := false, panic := "go", globals := renderGlobals st2 })
  | .error .depthGuard =>
    let st2 := { st1 with cur := st1.root, depth := 0 }
    (st2, .ok { out := out, val := "-", isErr := false, panic := "depth", globals := renderGlobals st2 })
  | .error .fuel => (st1, .error "fuel")
  | .error (.unmodelled w) => (st1, .error w)

theorem runInput_eq (st : St) (p : Node) :
    runInput st p =
      if mentions unmodelledRootNames p then (st, .error "grol-defined root helper")
      else finishInput (outcome (eval defaultFuel p) (startInput st)) (stateAfter (eval defaultFuel p) (startInput st)) := by
  unfold runInput
  split
  · rfl
  · rfl

/-- after an input that ended abnormally (Go panic, depth guard) the session is at top level, from
ANY state -/
theorem C10.reset_abnormal (st : St) (p : Node) (o : InputObs)
    (h : (runInput st p).2 = .ok o) (hp : o.panic ≠ "-") : AtTop (runInput st p).1 := by
  rw [runInput_eq] at h ⊢
  by_cases hm : mentions unmodelledRootNames p = true
  · rw [if_pos hm] at h; cases h
  · rw [if_neg hm] at h ⊢
    generalize outcome (eval defaultFuel p) (startInput st) = r at h ⊢
    generalize stateAfter (eval defaultFuel p) (startInput st) = st1 at h ⊢
    cases r with
    | ok v =>
      simp only [finishInput, Except.ok.injEq] at h
      subst h; exact absurd rfl hp
    | error e =>
      cases e with
      | goPanic s => exact ⟨rfl, rfl⟩
      | depthGuard => exact ⟨rfl, rfl⟩
      | fuel => cases h
      | unmodelled w => cases h

/-- no input ever changes the configuration, the root scope pointer or the extension names, whatever its
outcome (from `eval_keeps`, induction over the whole evaluator) -/
theorem C10.runInput_keeps (st : St) (p : Node) : Keeps st (runInput st p).1 := by
  rw [runInput_eq]
  by_cases hm : mentions unmodelledRootNames p = true
  · rw [if_pos hm]; exact ⟨rfl, rfl, rfl⟩
  · rw [if_neg hm]
    have k := eval_keeps defaultFuel p (startInput st)
    have k' : Keeps st (stateAfter (eval defaultFuel p) (startInput st)) := ⟨k.cfg, k.root, k.extNames⟩
    generalize outcome (eval defaultFuel p) (startInput st) = r
    generalize stateAfter (eval defaultFuel p) (startInput st) = st1 at k'
    cases r with
    | ok v => exact k'
    | error e =>
      cases e with
      | goPanic s => exact ⟨k'.cfg, k'.root, k'.extNames⟩
      | depthGuard => exact ⟨k'.cfg, k'.root, k'.extNames⟩
      | fuel => exact k'
      | unmodelled w => exact k'

/-- **Reset.**  From a top-level state, after ANY input the model does not decline — normal result,
error result, Go panic, depth guard — the session is at top level again: scope = root scope, depth 0.
Abnormal ends: by the explicit reset in the recover; normal returns (error objects included): the
evaluator restores scope and depth itself (`eval_restores`, induction over the whole evaluator). -/
theorem C10.reset (st : St) (p : Node) (o : InputObs) (hTop : AtTop st)
    (h : (runInput st p).2 = .ok o) : AtTop (runInput st p).1 := by
  by_cases hp : o.panic = "-"
  · rw [runInput_eq] at h ⊢
    by_cases hm : mentions unmodelledRootNames p = true
    · rw [if_pos hm] at h; cases h
    · rw [if_neg hm] at h ⊢
      have k := eval_keeps defaultFuel p (startInput st)
      cases hr : outcome (eval defaultFuel p) (startInput st) with
      | ok v =>
        have r := eval_restores defaultFuel p (startInput st) v hr
        show AtTop (stateAfter (eval defaultFuel p) (startInput st))
        exact ⟨by rw [r.1, k.root]; exact hTop.1, by rw [r.2]; exact hTop.2⟩
      | error e =>
        rw [hr] at h
        cases e with
        | goPanic s => exact ⟨rfl, rfl⟩
        | depthGuard => exact ⟨rfl, rfl⟩
        | fuel => cases h
        | unmodelled w => cases h
  · exact C10.reset_abnormal st p o h hp

/-- **No trace, same heap.**  If the state a (failing) input leaves is `≈` the state it started from —
same heap, cache, scope, depth and configuration; the writer stack and the step counter may differ
arbitrarily — then every continuation of inputs produces exactly the observations it produces
without that input. -/
theorem C10.no_trace_of_same {st : St} {f : Node} (h : SameSession (runInput st f).1 st) (ps : List Node) :
    runInputs (runInput st f).1 ps = runInputs st ps :=
  C10.runInputs_congr h ps

/-- **No trace.**  From a top-level state, an input (failing or not) whose final state has the heap,
the cache (and the instrumentation log of in-place writes, `hazards`: a failing input that wrote
nothing in place adds nothing to it) it started with leaves no trace: every continuation of inputs produces exactly the
observations it produces without it.  Scope and depth are supplied by `C10.reset`, configuration, root
pointer and extension names by `C10.runInput_keeps`; writer stack and step counter are irrelevant by
`C10.runInputs_congr`. -/
theorem C10.no_trace (st : St) (f : Node) (o : InputObs) (hTop : AtTop st)
    (hf : (runInput st f).2 = .ok o)
    (hframes : (runInput st f).1.frames = st.frames) (hcache : (runInput st f).1.cache = st.cache)
    (hhaz : (runInput st f).1.hazards = st.hazards)
    (ps : List Node) :
    runInputs (runInput st f).1 ps = runInputs st ps := by
  have hr := C10.reset st f o hTop hf
  have hk := C10.runInput_keeps st f
  apply C10.no_trace_of_same
  rw [sameSession_iff]
  exact ⟨hk.cfg, hframes, by rw [hr.1, hk.root, hTop.1], hk.root, by rw [hr.2, hTop.2], hcache, hk.extNames, hhaz⟩

/-- top level is an invariant of the session: it holds initially … -/
theorem C10.atTop_init (cfg : Cfg) : AtTop (initState cfg) := ⟨rfl, rfl⟩

/-! ### non-vacuity: concrete evaluations checked by the kernel

(`runInput` itself starts with a test written as a `partial def`, which the kernel cannot unfold; the
examples are about its second half `finishInput`, see `runInput_eq`.) -/

/-- `1 + "a"` -/
def C10.errProg : Node := .stmts [.inf "PLUS" (.int 1) (.str [97])]
/-- `f()` with the depth limit at 0: the guard fires at top level, inside the nested `Eval` of the callee -/
def C10.deepProg : Node := .stmts [.call (.ident "f") []]

/-- a failing input (error result) with the heap and the cache it started with: the hypotheses of
`C10.no_trace` are met -/
example :
    let st := startInput (initState {})
    let r := finishInput (outcome (eval defaultFuel C10.errProg) st) (stateAfter (eval defaultFuel C10.errProg) st)
    r.2.toOption.map (·.isErr) = some true ∧ r.1.frames = st.frames ∧ r.1.cache = st.cache ∧
      r.1.hazards = st.hazards := by
  -- one call-by-value evaluation serves the four conjuncts (the elaborator's `whnf` behind `rfl` is very slow on
  -- this program, and `decide +kernel` is not available: frames and cache have no `DecidableEq`)
  cbv

/-- the depth guard leaves the depth counter at 1: the evaluation itself does NOT restore it, the
recover's reset does -/
example :
    let st := startInput (initState { maxDepth := 0 })
    outcome (eval defaultFuel C10.deepProg) st = .error .depthGuard ∧
    (stateAfter (eval defaultFuel C10.deepProg) st).depth = 1 ∧
    (finishInput (outcome (eval defaultFuel C10.deepProg) st) (stateAfter (eval defaultFuel C10.deepProg) st)).1.depth = 0 := by
  refine ⟨rfl, rfl, rfl⟩

/-! ### the full statement (proved in Props/C10Full.lean, see the header) -/

def C10.Reachable (st : St) : Prop :=
  ∃ (cfg : Cfg) (progs : List Node), st = progs.foldl (fun s p => (runInput s p).1) (initState cfg)

/-- `st'` extends the heap of `st` by frames only: every frame of `st` is still there with the same
bindings, parent, function and local-function flag (miss counters, the can't-cache flag and the set counter may differ) -/
def C10.HeapExtends (st st' : St) : Prop :=
  st.frames.size ≤ st'.frames.size ∧
  ∀ i (h : i < st.frames.size) (h' : i < st'.frames.size),
    (st'.frames[i]).store = (st.frames[i]).store ∧ (st'.frames[i]).outer = (st.frames[i]).outer ∧
    (st'.frames[i]).depth = (st.frames[i]).depth ∧ (st'.frames[i]).cacheKey = (st.frames[i]).cacheKey ∧
    (st'.frames[i]).function = (st.frames[i]).function ∧ (st'.frames[i]).localFunc = (st.frames[i]).localFunc

/-- what the user sees of an input: output, value, error flag, panic kind -/
def C10.visible (r : Except String InputObs) : Except String (Grol.Wire.Bytes × String × Bool × String) :=
  r.map fun o => (o.out, o.val, o.isErr, o.panic)

/-- **C10, full strength, about the model**: from any reachable top-level state, an input that fails
(error result, Go panic or depth guard) having written nothing (no output; every existing frame keeps
its bindings — new, unreachable frames and miss counters are allowed; the cache keeps its entries) is
invisible to every continuation of inputs. -/
def C10.Statement : Prop :=
  ∀ (st : St) (f : Node) (o : InputObs) (ps : List Node),
    C10.Reachable st → AtTop st →
    (runInput st f).2 = .ok o → (o.isErr = true ∨ o.panic ≠ "-") → o.out = [] →
    C10.HeapExtends st (runInput st f).1 → (runInput st f).1.cache = st.cache →
    (runInputs (runInput st f).1 ps).map C10.visible = (runInputs st ps).map C10.visible

end Grol.E
