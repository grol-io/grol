import GrolProofs.Props.C13
import Grol.Eval.MacroSpec
/-
C13, whole-program form — macro expansion IS hand substitution.

`handExpand` / `handSubst` (lean/Grol/Eval/MacroSpec.lean) are the total structural specification
the `macro` correspondence suite judges the real implementation against (MacroSuite.specExpand is
defined as `handExpand`).  Here:

  `expand_is_hand_substitution`   for EVERY program `p` on which `handExpand store p` is defined (all the
        macros it calls — at any nesting depth, any number of call sites, arguments that are macro
        calls themselves, a callee that is a macro call — are one `quote(T)` with distinct parameters,
        parameter-only unquotes, and are called with the right arity), the model's ExpandMacros returns
        exactly the hand-substituted program.
        No hypothesis on `Limits`: on such programs the macro body never reaches the evaluator model
        (`general`), every unquote is a parameter lookup, so neither the fuel, the depth limit nor the
        deadline of `lim` can make the expansion stop.  The theorem holds for all `lim`.
  `call_sites_independent`        what one site expands to does not depend on its siblings
  `expand_again`                  when the result contains no macro call a second expansion changes nothing
  `hand_noCalls`                  on programs without macro calls hand expansion is the identity

Side condition built into `handExpand` (MacroSpec.handCall): a call of a macro NAMED `info` or `self`
is outside the quantifier (`none`); the implementation never finds such a macro.
-/
namespace Grol.Macro.C13
open Grol.E Grol.Macro

theorem identName_some (x : Node) (p : String) (h : identName x = some p) : x = .ident p := by
  cases x <;> simp [identName] at h
  rw [h]

theorem unquoteParam_some (n : String) (l : List Node) (p : String) (h : unquoteParam n l = some p) :
    n = "UNQUOTE" ∧ l = [.ident p] := by
  unfold unquoteParam at h
  by_cases hn : n = "UNQUOTE"
  · simp only [hn, if_true] at h
    match l, h with
    | [], h => simp at h
    | [x], h => exact ⟨hn, by rw [identName_some x p h]⟩
    | _ :: _ :: _, h => simp at h
  · simp [hn] at h

theorem unquoteParam_ne (n : String) (l : List Node) (hn : n ≠ "UNQUOTE") : unquoteParam n l = none := by
  simp [unquoteParam, hn]

/-! ### the environment of `extendMacroEnv` and the zipped parameter list agree -/

theorem lookup_zip_none (p : String) : ∀ (ps : List String) (as : List Node), ps.contains p = false →
    (ps.zip as).lookup p = none
  | [], _, _ => by simp
  | _ :: _, [], _ => by simp
  | q :: ps, a :: as, h => by
    simp only [List.contains_cons, Bool.or_eq_false_iff] at h
    simp only [List.zip_cons_cons, List.lookup_cons, h.1]
    exact lookup_zip_none p ps as h.2

theorem lookupArg_extend (p : String) : ∀ (ps : List String) (as : List Node) (env : MEnv), distinct ps = true →
    lookupArg (extendMacroEnv ps as env) p
      = match (ps.zip as).lookup p with
        | some a => some a
        | none => lookupArg env p
  | [], as, env, _ => by simp [extendMacroEnv]
  | _ :: _, [], env, _ => by simp [extendMacroEnv]
  | q :: ps, a :: as, env, h => by
    simp only [distinct, Bool.and_eq_true, Bool.not_eq_true'] at h
    simp only [extendMacroEnv]
    rw [lookupArg_extend p ps as (setArg env q a) h.2, lookupArg_setArg]
    simp only [List.zip_cons_cons, List.lookup_cons]
    by_cases hpq : p = q
    · subst hpq
      simp [lookup_zip_none p ps as h.1]
    · have h1 : (p == q) = false := by simp [hpq]
      have h2 : (q == p) = false := by simp [Ne.symm hpq]
      simp [h1, h2]

/-- on the parameters `ps` the macro environment `env` and the association list `zenv` bind the same trees -/
def EnvOK (ps : List String) (env : MEnv) (zenv : List (String × Node)) : Prop :=
  ∀ p, ps.contains p = true → p ≠ "info" ∧ p ≠ "self" ∧ ∃ a, lookupArg env p = some a ∧ zenv.lookup p = some a

theorem envOK_extend (ps : List String) (as : List Node) (hd : distinct ps = true) (hl : as.length = ps.length)
    (hi : ps.contains "info" = false) (hs : ps.contains "self" = false) :
    EnvOK ps (extendMacroEnv ps as []) (ps.zip as) := by
  intro p hp
  refine ⟨?_, ?_, ?_⟩
  · intro h; subst h; rw [hi] at hp; cases hp
  · intro h; subst h; rw [hs] at hp; cases hp
  · have hb := bound_extend p ps as [] hl (.inl (by simpa using hp))
    have he := lookupArg_extend p ps as [] hd
    cases hz : (ps.zip as).lookup p with
    | none =>
      rw [hz] at he
      simp only [lookupArg] at he
      rw [he] at hb
      cases hb
    | some a =>
      rw [hz] at he
      exact ⟨a, he, rfl⟩

/-! ### `handSubst` is the `subst` of the local theorems, and its side condition implies theirs -/

mutual
theorem hand_bridge (ps : List String) (env : MEnv) (zenv : List (String × Node)) (H : EnvOK ps env zenv) :
    ∀ (t : Node), handParamOnly ps t = true → paramOnly env t = true ∧ subst env t = handSubst zenv t
  | .builtin n l, h => by
    by_cases hn : n = "UNQUOTE"
    · subst hn
      simp only [handParamOnly, if_true] at h
      cases hu : unquoteParam "UNQUOTE" l with
      | none => simp [hu] at h
      | some p =>
        simp only [hu] at h
        obtain ⟨_, hl⟩ := unquoteParam_some _ _ _ hu
        subst hl
        obtain ⟨h1, h2, a, ha, hz⟩ := H p h
        constructor
        · simp [paramOnly, paramOnlyList, substList, subst, okUnquote, h1, h2, ha]
        · simp [subst, substList, substUnquote, handSubst, hu, ha, hz]
    · simp only [handParamOnly, hn, if_false] at h
      have ⟨h1, h2⟩ := hand_bridgeList ps env zenv H l h
      constructor
      · simp [paramOnly, h1, okUnquote, hn]
      · simp [subst, substUnquote, hn, handSubst, unquoteParam_ne _ _ hn, h2]
  | .pre op r, h => by
    have ⟨a1, a2⟩ := hand_bridge ps env zenv H r h
    exact ⟨by rw [paramOnly, a1], by rw [subst, handSubst, a2]⟩
  | .fn _ _ _ _ _ body, h => by
    have ⟨a1, a2⟩ := hand_bridge ps env zenv H body h
    exact ⟨by rw [paramOnly, a1], by rw [subst, handSubst, a2]⟩
  | .macroLit _ body, h => by
    have ⟨a1, a2⟩ := hand_bridge ps env zenv H body h
    exact ⟨by rw [paramOnly, a1], by rw [subst, handSubst, a2]⟩
  | .ret v, h => by
    have ⟨a1, a2⟩ := hand_bridge ps env zenv H v h
    exact ⟨by rw [paramOnly, a1], by rw [subst, handSubst, a2]⟩
  | .inf op l r, h => by
    have ⟨h1, h2⟩ := Bool.and_eq_true_iff.1 h
    have ⟨a1, a2⟩ := hand_bridge ps env zenv H l h1
    have ⟨b1, b2⟩ := hand_bridge ps env zenv H r h2
    exact ⟨by rw [paramOnly, a1, b1]; rfl, by rw [subst, handSubst, a2, b2]⟩
  | .idx t l i, h => by
    have ⟨h1, h2⟩ := Bool.and_eq_true_iff.1 h
    have ⟨a1, a2⟩ := hand_bridge ps env zenv H l h1
    have ⟨b1, b2⟩ := hand_bridge ps env zenv H i h2
    exact ⟨by rw [paramOnly, a1, b1]; rfl, by rw [subst, handSubst, a2, b2]⟩
  | .forE c b, h => by
    have ⟨h1, h2⟩ := Bool.and_eq_true_iff.1 h
    have ⟨a1, a2⟩ := hand_bridge ps env zenv H c h1
    have ⟨b1, b2⟩ := hand_bridge ps env zenv H b h2
    exact ⟨by rw [paramOnly, a1, b1]; rfl, by rw [subst, handSubst, a2, b2]⟩
  | .ifE c a b, h => by
    have ⟨h12, h3⟩ := Bool.and_eq_true_iff.1 h
    have ⟨h1, h2⟩ := Bool.and_eq_true_iff.1 h12
    have ⟨a1, a2⟩ := hand_bridge ps env zenv H c h1
    have ⟨b1, b2⟩ := hand_bridge ps env zenv H a h2
    have ⟨c1, c2⟩ := hand_bridge ps env zenv H b h3
    exact ⟨by rw [paramOnly, a1, b1, c1]; rfl, by rw [subst, handSubst, a2, b2, c2]⟩
  | .call f as, h => by
    have ⟨h1, h2⟩ := Bool.and_eq_true_iff.1 h
    have ⟨a1, a2⟩ := hand_bridge ps env zenv H f h1
    have ⟨b1, b2⟩ := hand_bridgeList ps env zenv H as h2
    exact ⟨by rw [paramOnly, a1, b1]; rfl, by rw [subst, handSubst, a2, b2]⟩
  | .mapLit ks vs, h => by
    have ⟨h1, h2⟩ := Bool.and_eq_true_iff.1 h
    have ⟨a1, a2⟩ := hand_bridgeList ps env zenv H ks h1
    have ⟨b1, b2⟩ := hand_bridgeList ps env zenv H vs h2
    exact ⟨by rw [paramOnly, a1, b1]; rfl, by rw [subst, handSubst, a2, b2]⟩
  | .stmts l, h => by
    have ⟨a1, a2⟩ := hand_bridgeList ps env zenv H l h
    exact ⟨by rw [paramOnly, a1], by rw [subst, handSubst, a2]⟩
  | .arr els, h => by
    have ⟨a1, a2⟩ := hand_bridgeList ps env zenv H els h
    exact ⟨by rw [paramOnly, a1], by rw [subst, handSubst, a2]⟩
  | .ident _, _ => ⟨rfl, rfl⟩
  | .int _, _ => ⟨rfl, rfl⟩
  | .float _, _ => ⟨rfl, rfl⟩
  | .str _, _ => ⟨rfl, rfl⟩
  | .bool _, _ => ⟨rfl, rfl⟩
  | .post _ _, _ => ⟨rfl, rfl⟩
  | .none, _ => ⟨rfl, rfl⟩
  | .ctl _, _ => ⟨rfl, rfl⟩
  | .comment, _ => ⟨rfl, rfl⟩
theorem hand_bridgeList (ps : List String) (env : MEnv) (zenv : List (String × Node)) (H : EnvOK ps env zenv) :
    ∀ (l : List Node), handParamOnlyList ps l = true → paramOnlyList env l = true ∧ substList env l = handSubstList zenv l
  | [], _ => ⟨rfl, rfl⟩
  | x :: xs, h => by
    have ⟨h1, h2⟩ := Bool.and_eq_true_iff.1 h
    have ⟨a1, a2⟩ := hand_bridge ps env zenv H x h1
    have ⟨b1, b2⟩ := hand_bridgeList ps env zenv H xs h2
    exact ⟨by rw [paramOnlyList, a1, b1]; rfl, by rw [substList, handSubstList, a2, b2]⟩
end

theorem simpleTemplate_some (m : MacroDef) (t : Node) (h : simpleTemplate m = some t) :
    m.body = .stmts [.builtin "QUOTE" [t]] ∧ distinct m.params = true ∧ m.params.contains "info" = false
      ∧ m.params.contains "self" = false ∧ handParamOnly m.params t = true := by
  unfold simpleTemplate at h
  split at h
  · rename_i t' hb
    split at h
    · rename_i hc
      cases h
      simp only [Bool.and_eq_true, Bool.not_eq_true'] at hc
      exact ⟨hb, hc.1.1.1, hc.1.1.2, hc.1.2, hc.2⟩
    · cases h
  · cases h

theorem isMacroCall_nonIdent (store : Store) (f : Node) (h : identName f = none) : isMacroCall store f = none := by
  cases f <;> simp [identName, isMacroCall] at h ⊢

/-- `handCall` is what the callback of ExpandMacros does at a call site -/
theorem expandCb_hand (lim : Limits) (store : Store) (f' : Node) (as' : List Node) (q : Node)
    (h : handCall store f' as' = some q) : expandCb lim store (.call f' as') = .ok q := by
  unfold handCall at h
  cases hi : identName f' with
  | none =>
    simp only [hi] at h
    cases h
    exact expandCb_notMacro _ _ _ _ (isMacroCall_nonIdent store f' hi)
  | some name =>
    have hf := identName_some f' name hi
    subst hf
    simp only [hi] at h
    cases hl : lookupDef store name with
    | none =>
      simp only [hl] at h
      cases h
      apply expandCb_notMacro
      simp only [isMacroCall, hl]
      split <;> rfl
    | some m =>
      simp only [hl] at h
      by_cases hn : (name == "info" || name == "self") = true
      · simp [hn] at h
      · have hn' : (name == "info" || name == "self") = false := by simpa using hn
        simp only [hn', Bool.false_eq_true, if_false] at h
        cases hs : simpleTemplate m with
        | none => simp [hs] at h
        | some t =>
          simp only [hs] at h
          by_cases hlen : as'.length = m.params.length
          · have : (as'.length != m.params.length) = false := by simp [hlen]
            simp only [this, Bool.false_eq_true, if_false] at h
            cases h
            obtain ⟨hb, hd, hinfo, hself, hp⟩ := simpleTemplate_some m t hs
            have hname : name ≠ "info" ∧ name ≠ "self" := by
              simp only [Bool.or_eq_false_iff, beq_eq_false_iff_ne, ne_eq] at hn'
              exact hn'
            have hE := envOK_extend m.params as' hd hlen hinfo hself
            have ⟨b1, b2⟩ := hand_bridge m.params _ _ hE t hp
            rw [expandCb_simple lim store name m t as' hname hl hb hlen b1, b2]
          · have : (as'.length != m.params.length) = true := by simp [hlen]
            simp [this] at h

theorem bind_some {α β : Type} {x : Option α} {f : α → Option β} {b : β} (h : (x >>= f) = some b) :
    ∃ a, x = some a ∧ f a = some b := Option.bind_eq_some_iff.1 h

mutual
theorem modify_hand (lim : Limits) (store : Store) :
    ∀ (p q : Node), handExpand store p = some q → modify (expandCb lim store) p = .ok q
  | .pre op r, q, h => by
    obtain ⟨x', hx, h⟩ := bind_some h
    cases h
    rw [modify, modify_hand lim store r x' hx]; rfl
  | .fn a b c d e body, q, h => by
    obtain ⟨x', hx, h⟩ := bind_some h
    cases h
    rw [modify, modify_hand lim store body x' hx]; rfl
  | .macroLit ps body, q, h => by
    obtain ⟨x', hx, h⟩ := bind_some h
    cases h
    rw [modify, modify_hand lim store body x' hx]; rfl
  | .inf op l r, q, h => by
    obtain ⟨x', hx, h⟩ := bind_some h
    obtain ⟨y', hy, h⟩ := bind_some h
    cases h
    rw [modify, modify_hand lim store l x' hx, modify_hand lim store r y' hy]; rfl
  | .idx t l i, q, h => by
    obtain ⟨x', hx, h⟩ := bind_some h
    obtain ⟨y', hy, h⟩ := bind_some h
    cases h
    rw [modify, modify_hand lim store l x' hx, modify_hand lim store i y' hy]; rfl
  | .forE c b, q, h => by
    obtain ⟨x', hx, h⟩ := bind_some h
    obtain ⟨y', hy, h⟩ := bind_some h
    cases h
    rw [modify, modify_hand lim store c x' hx, modify_hand lim store b y' hy]; rfl
  | .ifE c a b, q, h => by
    obtain ⟨c', hc, h⟩ := bind_some h
    obtain ⟨a', ha, h⟩ := bind_some h
    obtain ⟨b', hb, h⟩ := bind_some h
    cases h
    by_cases hn : b = .none
    · subst hn; cases hb
      rw [modify, modify_hand lim store c c' hc, modify_hand lim store a a' ha]; rfl
    · rw [modify_ifE _ _ _ _ hn, modify_hand lim store c c' hc, modify_hand lim store a a' ha, modify_hand lim store b b' hb]; rfl
  | .ret v, q, h => by
    obtain ⟨v', hv, h⟩ := bind_some h
    cases h
    by_cases hn : v = .none
    · subst hn; cases hv; rfl
    · rw [modify_ret _ _ hn, modify_hand lim store v v' hv]; rfl
  | .stmts l, q, h => by
    obtain ⟨x', hx, h⟩ := bind_some h
    cases h
    rw [modify, modifyList_hand lim store l x' hx]; rfl
  | .arr l, q, h => by
    obtain ⟨x', hx, h⟩ := bind_some h
    cases h
    rw [modify, modifyList_hand lim store l x' hx]; rfl
  | .builtin n l, q, h => by
    obtain ⟨x', hx, h⟩ := bind_some h
    cases h
    rw [modify, modifyList_hand lim store l x' hx]; rfl
  | .mapLit ks vs, q, h => by
    obtain ⟨ks', hk, h⟩ := bind_some h
    obtain ⟨vs', hv, h⟩ := bind_some h
    cases h
    rw [modify, modifyList_hand lim store ks ks' hk, modifyList_hand lim store vs vs' hv]; rfl
  | .call f as, q, h => by
    obtain ⟨f', hf, h⟩ := bind_some h
    obtain ⟨as', ha, h⟩ := bind_some h
    rw [modify, modify_hand lim store f f' hf, modifyList_hand lim store as as' ha]
    exact expandCb_hand lim store f' as' q h
  | .ident _, q, h => by cases h; rfl
  | .int _, q, h => by cases h; rfl
  | .float _, q, h => by cases h; rfl
  | .str _, q, h => by cases h; rfl
  | .bool _, q, h => by cases h; rfl
  | .post _ _, q, h => by cases h; rfl
  | .none, q, h => by cases h; rfl
  | .ctl _, q, h => by cases h; rfl
  | .comment, q, h => by cases h; rfl
theorem modifyList_hand (lim : Limits) (store : Store) :
    ∀ (l l' : List Node), handExpandList store l = some l' → modifyList (expandCb lim store) l = .ok l'
  | [], l', h => by cases h; rfl
  | x :: xs, l', h => by
    obtain ⟨x', hx, h⟩ := bind_some h
    obtain ⟨xs', hxs, h⟩ := bind_some h
    cases h
    rw [modifyList, modify_hand lim store x x' hx, modifyList_hand lim store xs xs' hxs]; rfl
end

/-- WHOLE-PROGRAM form of C13.  For every macro store, every program `p` and every `Limits`: if the
hand-substitution specification is defined on `p` (every macro called anywhere in `p`, at any depth,
is a one-`quote` template with distinct parameters and parameter-only unquotes, called with the right
arity), the model's ExpandMacros succeeds and returns exactly the hand-substituted program.
No side condition on `lim` is needed (the macro bodies of such programs never run the evaluator). -/
theorem expand_is_hand_substitution (lim : Limits) (store : Store) (p q : Node)
    (h : handExpand store p = some q) : expandMacros lim store p = .ok q :=
  modify_hand lim store p q h

theorem expandList_is_hand_substitution (lim : Limits) (store : Store) (l l' : List Node)
    (h : handExpandList store l = some l') : expandList lim store l = .ok l' :=
  modifyList_hand lim store l l' h

/-- in particular the expansion of such a program does not depend on the limits of the session -/
theorem expand_limits_irrelevant (lim lim' : Limits) (store : Store) (p q : Node)
    (h : handExpand store p = some q) : expandMacros lim store p = expandMacros lim' store p := by
  rw [expand_is_hand_substitution lim store p q h, expand_is_hand_substitution lim' store p q h]

theorem handExpandList_append (store : Store) : ∀ (xs ys : List Node) (r : List Node),
    handExpandList store (xs ++ ys) = some r →
    ∃ xs' ys', handExpandList store xs = some xs' ∧ handExpandList store ys = some ys' ∧ r = xs' ++ ys'
  | [], ys, r, h => ⟨[], r, by simp [handExpandList], by simpa using h, by simp⟩
  | x :: xs, ys, r, h => by
    simp only [List.cons_append, handExpandList] at h
    cases hx : handExpand store x with
    | none => simp [hx] at h
    | some x' =>
      cases hxs : handExpandList store (xs ++ ys) with
      | none => simp [hx, hxs] at h
      | some r' =>
        simp [hx, hxs] at h
        subst h
        obtain ⟨xs', ys', h1, h2, h3⟩ := handExpandList_append store xs ys r' hxs
        refine ⟨x' :: xs', ys', ?_, h2, by simp [h3]⟩
        simp [handExpandList, hx, h1]

/-- call sites are independent: in a block (argument list, array, …) `xs ++ y :: zs` on which the
specification is defined, the model's expansion is the concatenation of the expansions of the parts, and the
tree at the site `y` is the expansion of `y` ALONE — it does not depend on the siblings `xs`, `zs`. -/
theorem call_sites_independent (lim : Limits) (store : Store) (xs zs : List Node) (y : Node) (r : List Node)
    (h : handExpandList store (xs ++ y :: zs) = some r) :
    ∃ xs' y' zs', r = xs' ++ y' :: zs' ∧ expandList lim store (xs ++ y :: zs) = .ok (xs' ++ y' :: zs')
      ∧ expandMacros lim store y = .ok y' ∧ handExpand store y = some y'
      ∧ expandList lim store xs = .ok xs' ∧ expandList lim store zs = .ok zs' := by
  obtain ⟨xs', yzs', h1, h2, h3⟩ := handExpandList_append store xs (y :: zs) r h
  simp only [handExpandList] at h2
  cases hy : handExpand store y with
  | none => simp [hy] at h2
  | some y' =>
    cases hz : handExpandList store zs with
    | none => simp [hy, hz] at h2
    | some zs' =>
      simp [hy, hz] at h2
      subst h2
      subst h3
      exact ⟨xs', y', zs', rfl, expandList_is_hand_substitution lim store _ _ h,
        expand_is_hand_substitution lim store y y' hy, rfl,
        expandList_is_hand_substitution lim store xs xs' h1, expandList_is_hand_substitution lim store zs zs' hz⟩

/-- replacing the siblings of a site changes nothing at the site -/
theorem site_ignores_siblings (lim : Limits) (store : Store) (xs zs us ws : List Node) (y : Node) (r s : List Node)
    (h1 : handExpandList store (xs ++ y :: zs) = some r) (h2 : handExpandList store (us ++ y :: ws) = some s) :
    r[xs.length]? = s[us.length]? ∧ r[xs.length]? = (expandMacros lim store y).toOption := by
  obtain ⟨xs', y', zs', e1, _, hy, hy', hx, _⟩ := call_sites_independent lim store xs zs y r h1
  obtain ⟨us', y'', ws', e2, _, _, hy'', hu, _⟩ := call_sites_independent lim store us ws y s h2
  rw [hy'] at hy''
  cases hy''
  have l1 : xs'.length = xs.length := modifyList_length _ _ _ hx
  have l2 : us'.length = us.length := modifyList_length _ _ _ hu
  subst e1 e2
  rw [hy, ← l1, ← l2]
  simp [Except.toOption]

/-- a second expansion changes nothing when the hand-substituted program contains no macro call -/
theorem expand_again (lim : Limits) (store : Store) (p q : Node) (h : handExpand store p = some q)
    (hq : noCalls store q = true) :
    (expandMacros lim store p >>= expandMacros lim store) = .ok q := by
  rw [expand_is_hand_substitution lim store p q h]
  simp only [ok_bind]
  exact expand_noCalls lim store q hq

mutual
/-- on a program without macro calls the specification is the identity (and defined), provided no macro
is named `info` / `self` (a call of such a name is kept by the implementation — `noCalls` holds — but is
outside the specification's quantifier) -/
theorem hand_noCalls (store : Store) (hst : lookupDef store "info" = none ∧ lookupDef store "self" = none) : ∀ (p : Node), noCalls store p = true → handExpand store p = some p
  | .pre op r, h => by rw [handExpand, hand_noCalls store hst r h]; rfl
  | .ret v, h => by rw [handExpand, hand_noCalls store hst v h]; rfl
  | .fn _ _ _ _ _ body, h => by rw [handExpand, hand_noCalls store hst body h]; rfl
  | .macroLit _ body, h => by rw [handExpand, hand_noCalls store hst body h]; rfl
  | .inf op l r, h => by
    have ⟨h1, h2⟩ := Bool.and_eq_true_iff.1 h
    rw [handExpand, hand_noCalls store hst l h1, hand_noCalls store hst r h2]; rfl
  | .idx t l r, h => by
    have ⟨h1, h2⟩ := Bool.and_eq_true_iff.1 h
    rw [handExpand, hand_noCalls store hst l h1, hand_noCalls store hst r h2]; rfl
  | .forE l r, h => by
    have ⟨h1, h2⟩ := Bool.and_eq_true_iff.1 h
    rw [handExpand, hand_noCalls store hst l h1, hand_noCalls store hst r h2]; rfl
  | .ifE c a b, h => by
    have ⟨h12, h3⟩ := Bool.and_eq_true_iff.1 h
    have ⟨h1, h2⟩ := Bool.and_eq_true_iff.1 h12
    rw [handExpand, hand_noCalls store hst c h1, hand_noCalls store hst a h2, hand_noCalls store hst b h3]; rfl
  | .stmts l, h => by rw [handExpand, hand_noCallsList store hst l h]; rfl
  | .arr l, h => by rw [handExpand, hand_noCallsList store hst l h]; rfl
  | .builtin _ l, h => by rw [handExpand, hand_noCallsList store hst l h]; rfl
  | .mapLit ks vs, h => by
    have ⟨h1, h2⟩ := Bool.and_eq_true_iff.1 h
    rw [handExpand, hand_noCallsList store hst ks h1, hand_noCallsList store hst vs h2]; rfl
  | .call f as, h => by
    simp only [noCalls, Bool.and_eq_true, Option.isNone_iff_eq_none] at h
    simp only [handExpand, hand_noCalls store hst f h.1.1, hand_noCallsList store hst as h.1.2]
    show handCall store f as = some (.call f as)
    unfold handCall
    cases hi : identName f with
    | none => rfl
    | some name =>
      have hf := identName_some f name hi
      subst hf
      have h2 := h.2
      simp only [isMacroCall] at h2
      cases hl : lookupDef store name with
      | none => simp [hl]
      | some m =>
        by_cases hn : (name == "info" || name == "self") = true
        · simp only [Bool.or_eq_true, beq_iff_eq] at hn
          cases hn with
          | inl e => subst e; rw [hst.1] at hl; cases hl
          | inr e => subst e; rw [hst.2] at hl; cases hl
        · simp [hn, hl] at h2
  | .ident _, _ => rfl
  | .int _, _ => rfl
  | .float _, _ => rfl
  | .str _, _ => rfl
  | .bool _, _ => rfl
  | .post _ _, _ => rfl
  | .none, _ => rfl
  | .ctl _, _ => rfl
  | .comment, _ => rfl
theorem hand_noCallsList (store : Store) (hst : lookupDef store "info" = none ∧ lookupDef store "self" = none) : ∀ (l : List Node), noCallsList store l = true → handExpandList store l = some l
  | [], _ => rfl
  | x :: xs, h => by
    have ⟨h1, h2⟩ := Bool.and_eq_true_iff.1 h
    rw [handExpandList, hand_noCalls store hst x h1, hand_noCallsList store hst xs h2]; rfl
end

/-! ### `distinct` (a structural recursion) is "`List.eraseDups` removes nothing" -/

theorem eraseDups_length_le : ∀ (n : Nat) (l : List String), l.length ≤ n → l.eraseDups.length ≤ l.length
  | _, [], _ => by simp
  | 0, _ :: _, h => by simp at h
  | n + 1, a :: as, h => by
    rw [List.eraseDups_cons]
    have h1 := List.length_filter_le (fun b => !b == a) as
    have h2 := eraseDups_length_le n (as.filter fun b => !b == a) (by simp at h; omega)
    simp only [List.length_cons]
    omega

theorem distinct_iff_eraseDups : ∀ (n : Nat) (l : List String), l.length ≤ n →
    (distinct l = true ↔ l.eraseDups.length = l.length)
  | _, [], _ => by simp [distinct]
  | 0, _ :: _, h => by simp at h
  | n + 1, a :: as, h => by
    have hlen : as.length ≤ n := by simp at h; omega
    rw [List.eraseDups_cons]
    have h1 := List.length_filter_le (fun b => !b == a) as
    have h2 := eraseDups_length_le n (as.filter fun b => !b == a) (by omega)
    simp only [distinct, List.length_cons, Bool.and_eq_true, Bool.not_eq_true']
    constructor
    · intro ⟨hc, hd⟩
      have hf : as.filter (fun b => !b == a) = as := by
        rw [List.filter_eq_self]
        intro b hb
        have : b ≠ a := by
          intro e; subst e
          have : as.contains b = true := by simpa using hb
          rw [this] at hc; cases hc
        simp [this]
      rw [hf, (distinct_iff_eraseDups n as hlen).1 hd]
    · intro he
      have hfl : (as.filter fun b => !b == a).length = as.length := by omega
      have hf : as.filter (fun b => !b == a) = as := by
        rw [List.filter_eq_self]; exact List.length_filter_eq_length_iff.1 hfl
      rw [hf] at he
      refine ⟨?_, (distinct_iff_eraseDups n as hlen).2 (by omega)⟩
      rw [List.filter_eq_self] at hf
      cases hc : as.contains a with
      | false => rfl
      | true =>
        have := hf a (by simpa using hc)
        simp at this

theorem distinct_eq_eraseDups (l : List String) : distinct l = (l.eraseDups.length == l.length) := by
  have := distinct_iff_eraseDups l.length l (Nat.le_refl _)
  cases hd : distinct l with
  | true => simp [this.1 hd]
  | false =>
    cases he : (l.eraseDups.length == l.length) with
    | false => rfl
    | true =>
      have := this.2 (by simpa using he)
      rw [hd] at this; cases this
/-- `simpleTemplate` with the parameter test spelled with `eraseDups` -/
theorem simpleTemplate_eq_suite (m : MacroDef) :
    simpleTemplate m = (match m.body with
      | .stmts [.builtin "QUOTE" [t]] =>
        if m.params.eraseDups.length == m.params.length && !m.params.contains "info" && !m.params.contains "self" && handParamOnly m.params t
        then some t else none
      | _ => none) := by
  unfold simpleTemplate
  rw [distinct_eq_eraseDups]
  split
  · rename_i t h; simp only [h]
  · rename_i h
    split
    · rename_i t h'; exact absurd h' (h t)
    · rfl

/-! ### non-vacuity (store0 of Props/C13.lean: `m(x) = x * 2`, `d(x) = x + x`, `k(y) = m(y)` as a template) -/

/-- `for i < 3 { func f(a) { return m(a) }; s = m(1) + d(m(i)) }`: a macro call inside a function body inside
a loop, two different macros in one expression, an argument that is itself a macro call -/
def loopFn : Node :=
  .forE (.inf "LT" (.ident "i") (.int 3))
    (.stmts [.fn (some "f") ["a"] false false "" (.stmts [.ret (.call (.ident "m") [.ident "a"])]),
             .inf "ASSIGN" (.ident "s") (.inf "PLUS" (.call (.ident "m") [.int 1]) (.call (.ident "d") [.call (.ident "m") [.ident "i"]]))])
/-- the same program substituted by hand -/
def loopFnHand : Node :=
  .forE (.inf "LT" (.ident "i") (.int 3))
    (.stmts [.fn (some "f") ["a"] false false "" (.stmts [.ret (.inf "ASTERISK" (.ident "a") (.int 2))]),
             .inf "ASSIGN" (.ident "s") (.inf "PLUS" (.inf "ASTERISK" (.int 1) (.int 2))
               (.inf "PLUS" (.inf "ASTERISK" (.ident "i") (.int 2)) (.inf "ASTERISK" (.ident "i") (.int 2))))])

example : handExpand store0 loopFn = some loopFnHand := by rfl
/-- … so, whatever the limits of the session, the model's ExpandMacros returns the hand-substituted program -/
example (lim : Limits) : expandMacros lim store0 loopFn = .ok loopFnHand :=
  expand_is_hand_substitution lim store0 loopFn loopFnHand (by rfl)
/-- even with no fuel, depth 0 and an expired deadline -/
example : expandMacros { fuel := 0, maxDepth := 0, deadlineAfter := some 0 } store0 loopFn = .ok loopFnHand :=
  expand_is_hand_substitution _ store0 loopFn loopFnHand (by rfl)

/-- nested: `[d(m(m(1))), k(d(2))]` — three levels, and `k`'s template brings in a call of `m` that one pass keeps -/
example : handExpand store0 (.arr [.call (.ident "d") [.call (.ident "m") [.call (.ident "m") [.int 1]]],
                                   .call (.ident "k") [.call (.ident "d") [.int 2]]])
    = some (.arr [.inf "PLUS" (.inf "ASTERISK" (.inf "ASTERISK" (.int 1) (.int 2)) (.int 2))
                              (.inf "ASTERISK" (.inf "ASTERISK" (.int 1) (.int 2)) (.int 2)),
                  .call (.ident "m") [.inf "PLUS" (.int 2) (.int 2)]]) := by rfl

/-- outside the quantifier: wrong arity; a macro whose body is not one quote -/
example : handExpand store0 (.stmts [.call (.ident "m") [.int 1, .int 2]]) = none := by rfl
example : handExpand [("z", { params := [], body := .stmts [.int 1] })] (.call (.ident "z") []) = none := by rfl
/-- a call of something that is not a macro is kept, its arguments expanded -/
example : handExpand store0 (.call (.ident "g") [.call (.ident "m") [.int 1]])
    = some (.call (.ident "g") [.inf "ASTERISK" (.int 1) (.int 2)]) := by rfl

/-- the hypotheses of `expand_again` and `hand_noCalls` are satisfiable -/
example : noCalls store0 loopFnHand = true := by rfl
example : lookupDef store0 "info" = none ∧ lookupDef store0 "self" = none := ⟨by rfl, by rfl⟩
example (lim : Limits) : (expandMacros lim store0 loopFn >>= expandMacros lim store0) = .ok loopFnHand :=
  expand_again lim store0 loopFn loopFnHand (by rfl) (by rfl)

end Grol.Macro.C13
