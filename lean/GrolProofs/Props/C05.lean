import Grol.Registers
import GrolProofs.RegRewrite
import Grol.Generated.RegFacts
/-
C05 — integer registers are unobservable.

Part 1 (`Grol.Reg`): the allocation discipline: with the post-fix protocol (allocate when a register
is free, otherwise fall back; release on every exit) no sequence or nesting of counted loops can
exhaust the register file or release out of order.

Part 2 (`Grol.RegRewrite`): the optimisation itself.  `modifyR` is the model of
`ast.Modify(body, ModifyRegister(register))`, tied to the code by the `regrewrite` suite.
`rewrite_shape`: a successful rewrite replaced exactly the identifier nodes of the name, nothing else;
`rewrite_refuses`: it gives up exactly on the listed syntactic conditions; `useRegister_spec`: the whole
decision of `evalForInteger` / `extendFunctionEnv`.

Part 3 (`GrolProofs/RegSim.lean`): the simulation between the two configurations — see there for what
is proved and what is only stated.
-/
namespace Grol.Reg

/-- a computation on the register file is balanced: no panic, and the count on exit = on entry -/
def Balanced (body : File → Out File) : Prop :=
  ∀ f, f.numReg ≤ numRegisters → ∃ f', body f = .ok f' ∧ f'.numReg = f.numReg

/-- a loop around a balanced body is balanced: any exit releases, exhaustion falls back -/
theorem C05.loop_balanced (v : Int) (body : File → Out File) (hb : Balanced body) :
    Balanced (fun f => f.withLoopRegister v body) := by
  intro f hf
  unfold File.withLoopRegister
  by_cases h : f.hasRegisters = true
  · simp only [h, if_true]
    have hlt : f.numReg < numRegisters := by simpa [File.hasRegisters] using h
    simp only [File.make, h, Bool.not_true, Bool.false_eq_true, if_false]
    obtain ⟨f2, h2, hn⟩ := hb { regs := f.regs.set f.numReg v, numReg := f.numReg + 1 } (by simp; omega)
    simp only [h2]
    simp at hn
    refine ⟨{ f2 with numReg := f2.numReg - 1 }, ?_, by simp [hn]⟩
    simp [File.release, hn]
  · simp only [h, Bool.false_eq_true, if_false]
    exact hb f hf

/-- any nesting depth of loops (here: `n` loops nested around a balanced innermost body) is balanced,
so "No more registers available" and "Releasing non last register" are unreachable -/
theorem C05.nested_loops_balanced (body : File → Out File) (hb : Balanced body) (vs : List Int) :
    Balanced (vs.foldr (fun v inner => fun f => f.withLoopRegister v inner) body) := by
  induction vs with
  | nil => exact hb
  | cons v vs ih => exact C05.loop_balanced v _ ih

/-- running balanced computations one after the other from an `ok` state -/
def runSeq (bodies : List (File → Out File)) (acc : Out File) : Out File :=
  bodies.foldl (fun acc b => match acc with | .ok f => b f | .goPanic s => .goPanic s) acc

/-- any sequence of balanced computations is balanced (any number of top-level loops in a session) -/
theorem C05.sequence_balanced (bodies : List (File → Out File)) (hb : ∀ b ∈ bodies, Balanced b) :
    Balanced (fun f => runSeq bodies (.ok f)) := by
  induction bodies with
  | nil => intro f _; exact ⟨f, rfl, rfl⟩
  | cons b bs ih =>
    intro f hf
    obtain ⟨f1, h1, hn1⟩ := hb b (by simp) f hf
    obtain ⟨f2, h2, hn2⟩ := ih (fun b' hb' => hb b' (by simp [hb'])) f1 (by omega)
    refine ⟨f2, ?_, by omega⟩
    simp only [runSeq, List.foldl_cons, h1] at h2 ⊢
    exact h2

/-- non-vacuity: 9 nested loops around a trivial body (one more than there are registers) -/
example : ∃ f', (List.replicate 9 (0 : Int)).foldr (fun v inner => fun f => File.withLoopRegister f v inner) (fun f => .ok f) {} = .ok f' ∧ f'.numReg = 0 :=
  C05.nested_loops_balanced (fun f => .ok f) (fun f _ => ⟨f, rfl, rfl⟩) _ {} (by decide)

end Grol.Reg

namespace Grol.RegRewrite
open Grol.E

/-- (a) shape of a successful rewrite, for a body that may already hold registers of enclosing
rewrites: erasing the registers gives the same tree as before; the result is the body with every
identifier node of the name replaced and nothing else changed (`substAll`); no identifier node of
the name is left; the new register occurs once per replaced identifier -/
theorem C05.rewrite_shape_nested (name : String) (idx : Nat) (b b' : RNode) (h : modifyR name idx b = some b') :
    erase b' = erase b ∧ b' = substAll name idx b ∧ countIdent name b' = 0 ∧
      countReg name idx b' = countIdent name b + countReg name idx b := by
  cases modifyR_eq_some h
  obtain ⟨h1, h2, h3⟩ := substAll_shape name idx b
  exact ⟨h1, rfl, h2, h3⟩

/-- (a) for a parsed body: `erase b' = b` and every identifier occurrence of the name is a register -/
theorem C05.rewrite_shape (name : String) (idx : Nat) (b : Node) (b' : RNode) (h : modifyRegister name idx b = some b') :
    erase b' = b ∧ b' = substAll name idx (embed b) ∧ countIdent name b' = 0 ∧
      countReg name idx b' = countIdent name (embed b) := by
  obtain ⟨h1, h2, h3, h4⟩ := C05.rewrite_shape_nested name idx (embed b) b' h
  refine ⟨by rw [h1, erase_embed], h2, h3, ?_⟩
  rw [h4, countReg_embed]; omega

/-- (b) the rewrite gives up exactly when the body `refuses` the register: it contains a function literal,
`x++`/`x--`, `x = …`/`x := …` (also as the variable of an inner loop), `++x`/`--x`, `m.x`, `del(x)`, a `quote(…)`,
a direct call `eval(…)` (repo fix 5c922e6), or a macro literal with the parameter `x` (`refuses` is this list, as a
recursive predicate on the tree) -/
theorem C05.rewrite_refuses (name : String) (idx : Nat) (b : RNode) :
    modifyR name idx b = none ↔ refuses name idx b = true := by
  rw [modifyR_spec]
  by_cases hr : refuses name idx b = true <;> simp [hr]

/-- the decision of `evalForInteger` / `extendFunctionEnv` for one variable never panics, and the
variable lives in a register iff: integer value, non-empty name, registers enabled, a register free,
not a constant name, not a reserved name (`self`, `info`; repo fix: such a name is not read from the variable), and the body
does not refuse.  The file grows by exactly that register. -/
theorem C05.useRegister_spec (noReg : Bool) (f : Reg.File) (name : String) (isInt : Bool) (v : Int) (body : RNode) :
    ∃ d, useRegister noReg f name isInt v body = .ok d ∧
      (d.kept = true ↔ (isInt = true ∧ name ≠ "" ∧ noReg = false ∧ f.numReg < Reg.numRegisters ∧
                        isConstant name = false ∧ reservedName name = false ∧ refuses name f.numReg body = false)) ∧
      (d.kept = true → d.file.numReg = f.numReg + 1 ∧ d.idx = some f.numReg ∧
          d.body = if countIdent name body = 0 then body else substAll name f.numReg body) ∧
      (d.kept = false → d.file.numReg = f.numReg ∧ d.body = body) := by
  unfold useRegister
  by_cases he : (isInt && registerEligible noReg f name) = true
  · have he' := he
    simp only [registerEligible, Bool.and_eq_true, Bool.not_eq_true', bne_iff_ne, ne_eq, Reg.File.hasRegisters,
      decide_eq_true_eq] at he'
    obtain ⟨hi, ⟨⟨⟨hn, hr⟩, hh⟩, hc⟩, hrs⟩ := he'
    have hh' : f.hasRegisters = true := by simpa [Reg.File.hasRegisters] using hh
    simp only [he, Bool.not_true, Bool.false_eq_true, if_false, Reg.File.make, hh']
    rw [modifyR_spec]
    by_cases hrf : refuses name f.numReg body = true
    · simp only [hrf, if_true, Reg.File.release]
      simp [hrf]
    · simp only [hrf, if_false]
      simp [hi, hn, hr, hh, hc, hrs, hrf]
  · simp only [he, Bool.not_false, if_true]
    refine ⟨_, rfl, ?_, by simp, by simp⟩
    simp only [Bool.false_eq_true, false_iff]
    intro ⟨hi, hn, hr, hh, hc, hrs, _⟩
    apply he
    simp [registerEligible, hi, hn, hr, hc, hrs, Reg.File.hasRegisters, hh]

/-- non-vacuity: `for i = 3 { s = s + i * i }` rewrites both occurrences of `i` -/
example : modifyRegister "i" 0 (.stmts [.inf "ASSIGN" (.ident "s") (.inf "PLUS" (.ident "s") (.inf "ASTERISK" (.ident "i") (.ident "i")))]) =
    some (.stmts [.inf "ASSIGN" (.ident "s") (.inf "PLUS" (.ident "s") (.inf "ASTERISK" (.reg "i" 0) (.reg "i" 0)))]) := by rfl

/-- non-vacuity: `i = 1`, `i++`, `m.i`, `del(i)`, a function literal are refused -/
example : modifyRegister "i" 0 (.stmts [.post "INCR" "i"]) = none ∧
    modifyRegister "i" 0 (.stmts [.inf "ASSIGN" (.ident "i") (.int 1)]) = none ∧
    modifyRegister "i" 0 (.idx "DOT" (.ident "m") (.ident "i")) = none ∧
    modifyRegister "i" 0 (.builtin "DEL" [.ident "i"]) = none ∧
    modifyRegister "i" 0 (.fn none [] false true "" (.stmts [])) = none := ⟨rfl, rfl, rfl, rfl, rfl⟩

end Grol.RegRewrite

/-! ### the eligibility tests of the Go source, pinned (regenerated from eval/eval.go on every run)

The parameter site (`extendFunctionEnv`) is driven for real by the `regrewrite` suite.  The loop site
(`evalForInteger`) cannot be observed without running the loop: its test is pinned here as source text, and
`Grol.RegRewrite.registerEligible noReg f name = (name != "" && !noReg && f.hasRegisters && !isConstant name && !reservedName name)`
is that text with `s.NoReg` ↦ `noReg`, `s.env.HasRegisters()` ↦ `f.hasRegisters`, `object.Constant` ↦ `isConstant`,
`object.ReservedName` ↦ `reservedName` (`self`, `info`; the names of registered extension functions, the third kind, are
told to the regrewrite suite per candidate by the harness).  The loop site's last conjunct `!s.env.IsOwnFunctionName(name)` (repo fix
07c7aea: inside a named function its name means the function) is the counterpart of the parameter site's `!ownName`: both are
outside `registerEligible` (the model has no function name; the hook's function has none) and are covered by the eval suite.
The parameter test is the same conjunction without `name != ""` (the empty name is a constant name:
`isConstant "" = true`), with the integer test (`isInt` in `useRegister`) and `!ownName` (the parameter is not
named like the function itself; the hook's function has no name). A change of either expression fails here. -/
namespace Grol.Generated.RegFacts

theorem C05.loop_eligibility_pinned :
    loopEligibility = ["name != \"\" && !s.NoReg && s.env.HasRegisters() && !object.Constant(name) && !object.ReservedName(name) && !s.env.IsOwnFunctionName(name)"] := rfl

theorem C05.param_eligibility_pinned :
    paramEligibility = ["!s.NoReg && pval.Type() == object.INTEGER && env.HasRegisters() && !object.Constant(param.Value().Literal()) && !object.ReservedName(param.Value().Literal()) && !ownName && !shadowed"] ∧
    paramOwnName = ["fn.Name != nil && fn.Name.Literal() == param.Value().Literal()"] := ⟨rfl, rfl⟩

end Grol.Generated.RegFacts

namespace Grol.RegRewrite
/-- the model's test, literally the pinned conjunction; and the empty name is never eligible at the parameter
site either, where `name != ""` is not tested -/
theorem C05.registerEligible_is_the_pinned_test (noReg : Bool) (f : Reg.File) (name : String) :
    registerEligible noReg f name = (name != "" && !noReg && f.hasRegisters && !Grol.E.isConstant name && !reservedName name) ∧
    Grol.E.isConstant "" = true := ⟨rfl, by decide⟩
end Grol.RegRewrite
