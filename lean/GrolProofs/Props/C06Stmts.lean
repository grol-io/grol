import GrolProofs.Props.C01Rules
import GrolProofs.Props.C06
/-!
# C06 — value semantics of containers at STATEMENT level (model), for containers of any size

`Props/C06.lean` has the operator-level facts.  Here whole statements are run through the evaluator
model (`evalStatements` / `evalI` / `eval`) at the top level frame and the bindings afterwards are read
off: after `b = a; b[i] = v` the name `a` is still bound to the array it was bound to — whatever its
length — and `b` to the updated copy.
-/
namespace Grol.E

/-- an ordinary name: not an all-caps constant, not an extension, not `info` / `self` -/
structure C06.Ordinary (ext : List String) (name : String) : Prop where
  notConst : isConstant name = false
  notExt : ext.contains name = false
  notInfo : name ≠ "info"
  notSelf : name ≠ "self"

/-- the evaluator is at the top level (global frame: no outer frame, no running function), the frame's
bindings are `store`, the extension names are `ext`, no deadline is configured and the depth guard is not
reached -/
structure C06.Top (ext : List String) (store : List (String × Obj)) (st : St) : Prop where
  noDeadline : st.cfg.deadlineAfter = none
  depthOk : ¬ st.depth > st.cfg.maxDepth
  ext : st.extNames = ext
  frame : ∃ fr, st.frames[st.cur]? = some fr ∧ fr.store = store ∧ fr.function = none ∧ fr.outer = none

theorem C06.Top.bump {ext store st} (h : C06.Top ext store st) : C06.Top ext store (C15.bump st) :=
  ⟨h.1, h.2, h.3, h.4⟩

/-- a top level binding of an ordinary name to a plain value is a `C01.Binds` -/
theorem C06.Top.binds {ext store st} (h : C06.Top ext store st) (name : String) (v : Obj)
    (ho : C06.Ordinary ext name) (hl : lookupStore store name = some v) (hp : ∀ e n, v ≠ .ref e n) :
    C01.Binds st name v := by
  obtain ⟨fr, hfr, hs, hf, _⟩ := h.frame
  refine ⟨⟨fr, hfr, by rw [hs]; exact hl, ?_⟩, hp, by rw [h.ext]; exact ho.notExt, ho.notInfo, ho.notSelf⟩
  intro fn hfn; rw [hf] at hfn; cases hfn

theorem C06.Top.assignable {ext store st} (h : C06.Top ext store st) (name : String)
    (ho : C06.Ordinary ext name) : ∃ fr, C01.Assignable st name fr ∧ fr.store = store ∧ fr.outer = none
      ∧ fr.function = none := by
  obtain ⟨fr, hfr, hs, hf, hout⟩ := h.frame
  refine ⟨fr, ⟨hfr, ?_, ho.notConst, by rw [h.ext]; exact ho.notExt, ho.notInfo, ho.notSelf⟩, hs, hout, hf⟩
  intro fn hfn; rw [hf] at hfn; cases hfn

/-- `CreateOrSet(name, v, create=false)` at top level, `name` ordinary and unbound or bound to a non-reference:
the value is stored under `name`, every other binding of the frame is as it was -/
theorem C06.createOrSet_top {ext store} (st : St) (name : String) (v : Obj)
    (h : C06.Top ext store st) (ho : C06.Ordinary ext name) (hp : ∀ e n, v ≠ .ref e n)
    (hcase : lookupStore store name = none ∨ (∃ r, lookupStore store name = some r ∧ ∀ re rn, r ≠ .ref re rn)) :
    ∃ s1, run (createOrSet st.cur name v false) st = (.ok v, s1) ∧ C06.Top ext (setStore store name v) s1 := by
  obtain ⟨fr, ha, hs, hout, hf⟩ := h.assignable name ho
  subst hs
  obtain ⟨s1, hrun, hS⟩ := C01.createOrSet_stores st name v false fr ha hp
    (.inr (hcase.imp (fun h1 => ⟨h1, hout⟩) id))
  obtain ⟨fr', h1, h2, h3, h4⟩ := hS.frame
  exact ⟨s1, hrun, by rw [hS.cfg]; exact h.1, by rw [hS.depth, hS.cfg]; exact h.2, hS.extNames.trans h.3,
    fr', by rw [hS.cur]; exact h1, h2, h3.trans hf, h4.trans hout⟩

/-- `Eval` of a node whose rule only counts the step: same value, `Top` kept -/
theorem C06.eval_top {ext store} (f : Nat) (node : Node) (st : St) (r : Obj) (h : C06.Top ext store st)
    (hr : outcome (evalI f node) (C01.deeper st) = .ok r)
    (hs : stateAfter (evalI f node) (C01.deeper st) = C15.bump (C01.deeper st))
    (h1 : ∀ v kind, r ≠ .ret v kind) (h2 : ∀ e n, r ≠ .ref e n) :
    outcome (eval (f + 1) node) st = .ok r ∧ C06.Top ext store (stateAfter (eval (f + 1) node) st) := by
  obtain ⟨ho, hst⟩ := (C01.eval_unwrap f node st r h.depthOk hr).2.2 h1 h2
  refine ⟨ho, ?_⟩
  rw [hst, hs]
  refine ⟨h.1, ?_, h.3, h.4⟩
  show ¬ st.depth + 1 - 1 > st.cfg.maxDepth
  rw [Nat.add_sub_cancel]; exact h.2

theorem C06.Top.deeper_binds {ext store st} (h : C06.Top ext store st) (name : String) (v : Obj)
    (ho : C06.Ordinary ext name) (hl : lookupStore store name = some v) (hp : ∀ e n, v ≠ .ref e n) :
    C01.Binds (C01.deeper st) name v :=
  let b := h.binds name v ho hl hp
  ⟨b.1, b.2, b.3, b.4, b.5⟩

theorem C06.eval_int_top {ext store} (f : Nat) (n : Int64) (st : St) (h : C06.Top ext store st) :
    outcome (eval (f + 2) (.int n)) st = .ok (.int n)
    ∧ C06.Top ext store (stateAfter (eval (f + 2) (.int n)) st) := by
  obtain ⟨h1, h2⟩ := C01.sameRun_enter (pure (.int n)) (C01.deeper st) h.1
  rw [← C01.evalI_int (f + 1)] at h1 h2
  exact C06.eval_top (f + 1) (.int n) st (.int n) h h1 h2 (fun _ _ => Obj.noConfusion) (fun _ _ => Obj.noConfusion)

theorem C06.eval_ident_top {ext store} (f : Nat) (name : String) (v : Obj) (st : St) (h : C06.Top ext store st)
    (ho : C06.Ordinary ext name) (hl : lookupStore store name = some v) (hp : ∀ e n, v ≠ .ref e n)
    (hnr : ∀ w kind, v ≠ .ret w kind) :
    outcome (eval (f + 2) (.ident name)) st = .ok v
    ∧ C06.Top ext store (stateAfter (eval (f + 2) (.ident name)) st) := by
  have hd : (C01.deeper st).cfg.deadlineAfter = none := h.1
  obtain ⟨h1, h2⟩ := C01.ident_bound f name v (C01.deeper st) hd (h.deeper_binds name v ho hl hp)
  exact C06.eval_top (f + 1) (.ident name) st v h h1 h2 hnr hp

/-- the statement `name = e` at top level, when `Eval e` yields the plain non-error value `v` keeping `Top` -/
theorem C06.assign_top {ext store} (f : Nat) (name : String) (e : Node) (v : Obj) (st : St)
    (h : C06.Top ext store st) (ho : C06.Ordinary ext name)
    (he : outcome (eval (f + 1) e) (C15.bump st) = .ok v)
    (hT : C06.Top ext store (stateAfter (eval (f + 1) e) (C15.bump st)))
    (hv : v.isError = false) (hp : ∀ en n, v ≠ .ref en n)
    (hcase : lookupStore store name = none ∨ (∃ r, lookupStore store name = some r ∧ ∀ re rn, r ≠ .ref re rn)) :
    outcome (evalI (f + 2) (.inf "ASSIGN" (.ident name) e)) st = .ok v
    ∧ C06.Top ext (setStore store name v) (stateAfter (evalI (f + 2) (.inf "ASSIGN" (.ident name) e)) st) := by
  obtain ⟨s1, hrun, hb⟩ := C06.createOrSet_top _ name v hT ho hp hcase
  have key : SameRun (evalI (f + 2) (.inf "ASSIGN" (.ident name) e)) st
      (createOrSet (stateAfter (eval (f + 1) e) (C15.bump st)).cur name v false)
      (stateAfter (eval (f + 1) e) (C15.bump st)) := by
    rw [C01.evalI_assign _ _ _ _ rfl]
    refine (C01.sameRun_enter _ st h.1).trans ((C01.sameRun_bind_ok _ _ _ _ he).trans ?_)
    rw [C01.evalAssignment_ident]
    simp only [hv, Bool.false_eq_true, if_false]
    exact C01.sameRun_curEnv _ _
  refine ⟨key.1.trans (by rw [outcome_eq_run, hrun]), ?_⟩
  rw [key.2, stateAfter_eq_run, hrun]; exact hb

theorem C06.run_noteHazard {ext store} (c : Bool) (k n : String) (st : St) (h : C06.Top ext store st) :
    ∃ s1, run (noteHazard c k n) st = (.ok (), s1) ∧ C06.Top ext store s1 ∧ s1.cur = st.cur := by
  unfold noteHazard
  cases c
  · exact ⟨st, rfl, h, rfl⟩
  · exact ⟨_, rfl, ⟨h.1, h.2, h.3, h.4⟩, rfl⟩

theorem C06.run_envGet_top {ext store} (name : String) (v : Obj) (st : St) (h : C06.Top ext store st)
    (ho : C06.Ordinary ext name) (hl : lookupStore store name = some v) (hp : ∀ e n, v ≠ .ref e n) :
    run (envGet st.cur name) st = (.ok (some v), st) := by
  obtain ⟨fr, hfr, hs, hf, _⟩ := h.frame
  exact run_envGet_bound hfr (beq_false_of_ne ho.notInfo) (beq_false_of_ne ho.notSelf)
    (fun fn h => by rw [hf] at h; cases h) (hs ▸ hl) hp

/-- `evalIndexAssignment` on an array bound at top level, integer index resolving to position `k` in range
(`i ≥ 0`: `k = i`; `i < 0`: `k = len + i`), integer value: the name is rebound to the updated list -/
theorem C06.indexAssign_array_top {ext store} (name : String) (els : List Obj) (i n : Int64) (k : Nat) (st : St)
    (h : C06.Top ext store st) (ho : C06.Ordinary ext name)
    (hl : lookupStore store name = some (.array els))
    (hk : (if i < 0 then (els.length : Int) + i.toInt else i.toInt) = (k : Int)) (hlt : k < els.length) :
    ∃ s1, run (evalIndexAssignment (.ident name) (.int i) (.int n)) st = (.ok (.int n), s1)
      ∧ C06.Top ext (setStore store name (.array (els.set k (.int n)))) s1 := by
  have hpa : ∀ e m, Obj.array els ≠ .ref e m := fun _ _ => Obj.noConfusion
  have hcond : (((k : Int) < 0 || (k : Int) ≥ (els.length : Int)) : Bool) = false := by
    simp; omega
  unfold evalIndexAssignment
  simp only [run_bind, C01.run_valueOf_plain (.int i) (fun _ _ => Obj.noConfusion),
    C01.run_valueOf_plain (.int n) (fun _ _ => Obj.noConfusion), C01.run_curEnv,
    C06.run_envGet_top name _ st h ho hl hpa, C01.run_valueOf_plain _ hpa, int64Value, hk, hcond,
    Bool.false_eq_true, if_false, run_get]
  obtain ⟨s1, hn, hT1, hcur⟩ := C06.run_noteHazard (decide (els.length > st.cfg.maxSmallArray))
    "large-array-index-assignment-aliases" name st h
  simp only [hn]
  obtain ⟨s2, hset, hT2⟩ := C06.createOrSet_top s1 name (.array (els.set k (.int n))) hT1 ho
    (fun _ _ => Obj.noConfusion) (Or.inr ⟨_, hl, hpa⟩)
  unfold envSet newArray
  rw [Int.toNat_natCast, ← hcur, hset]
  exact ⟨s2, rfl, hT2⟩

end Grol.E

namespace Grol.E

/-- the statement `name[i] = n` (integer literals), given what `evalIndexAssignment` does in every top level
state with the same configuration -/
theorem C06.index_assign_stmt_generic {ext store store'} (f : Nat) (name : String) (i n : Int64) (st : St)
    (h : C06.Top ext store st)
    (hrun : ∀ s, C06.Top ext store s → s.cfg = st.cfg →
      ∃ s1, run (evalIndexAssignment (.ident name) (.int i) (.int n)) s = (.ok (.int n), s1) ∧ C06.Top ext store' s1) :
    outcome (evalI (f + 4) (.inf "ASSIGN" (.idx "LBRACKET" (.ident name) (.int i)) (.int n))) st = .ok (.int n)
    ∧ C06.Top ext store'
        (stateAfter (evalI (f + 4) (.inf "ASSIGN" (.idx "LBRACKET" (.ident name) (.int i)) (.int n))) st) := by
  obtain ⟨hv, hT1⟩ := C06.eval_int_top (f + 1) n (C15.bump st) h.bump
  obtain ⟨hix, hT2⟩ := C06.eval_int_top f i _ hT1
  have hc1 := (((allGood (f + 3)).eval (.int n)).h (C15.bump st)).1.cfg
  have hc2 := (((allGood (f + 2)).eval (.int i)).h (stateAfter (eval (f + 3) (.int n)) (C15.bump st))).1.cfg
  obtain ⟨s1, hrun, hT3⟩ := hrun _ hT2 (hc2.trans hc1)
  have key : SameRun (evalI (f + 4) (.inf "ASSIGN" (.idx "LBRACKET" (.ident name) (.int i)) (.int n))) st
      (evalIndexAssignment (.ident name) (.int i) (.int n))
      (stateAfter (eval (f + 2) (.int i)) (stateAfter (eval (f + 3) (.int n)) (C15.bump st))) := by
    rw [C01.evalI_assign _ _ _ _ rfl]
    refine (C01.sameRun_enter _ st h.1).trans ((C01.sameRun_bind_ok _ _ _ _ hv).trans ?_)
    rw [evalAssignment_index]
    exact C01.sameRun_bind_ok _ _ _ _ hix
  refine ⟨key.1.trans (by rw [outcome_eq_run, hrun]), ?_⟩
  rw [key.2, stateAfter_eq_run, hrun]; exact hT3

/-- the statement `name[i] = n` (integer literals) on an array bound at top level -/
theorem C06.index_assign_stmt_top {ext store} (f : Nat) (name : String) (els : List Obj) (i n : Int64) (k : Nat)
    (st : St) (h : C06.Top ext store st) (ho : C06.Ordinary ext name)
    (hl : lookupStore store name = some (.array els))
    (hk : (if i < 0 then (els.length : Int) + i.toInt else i.toInt) = (k : Int)) (hlt : k < els.length) :
    outcome (evalI (f + 4) (.inf "ASSIGN" (.idx "LBRACKET" (.ident name) (.int i)) (.int n))) st = .ok (.int n)
    ∧ C06.Top ext (setStore store name (.array (els.set k (.int n))))
        (stateAfter (evalI (f + 4) (.inf "ASSIGN" (.idx "LBRACKET" (.ident name) (.int i)) (.int n))) st) :=
  C06.index_assign_stmt_generic f name i n st h fun s hs _ => C06.indexAssign_array_top name els i n k s hs ho hl hk hlt

def C06.copyThenIndexAssign (a b : String) (i n : Int64) : List Node :=
  [.inf "ASSIGN" (.ident b) (.ident a), .inf "ASSIGN" (.idx "LBRACKET" (.ident b) (.int i)) (.int n)]

/-- `b = a; b[i] = n` at top level, `a` bound to the plain value `va`, given that the index assignment turns a
binding of `b` to `va` into one to `vb` (in every top level state with this configuration): the value is `n`,
`a` is still bound to `va`, `b` is bound to `vb` -/
theorem C06.copy_then_assign {ext store} (f : Nat) (a b : String) (va vb : Obj) (i n : Int64) (st : St)
    (h : C06.Top ext store st) (ha : C06.Ordinary ext a) (hb : C06.Ordinary ext b) (hab : a ≠ b)
    (hla : lookupStore store a = some va) (hpa : ∀ e m, va ≠ .ref e m) (hra : ∀ w k, va ≠ .ret w k)
    (hea : va.isError = false)
    (hlb : lookupStore store b = none ∨ (∃ r, lookupStore store b = some r ∧ ∀ re rn, r ≠ .ref re rn))
    (hpb : ∀ e m, vb ≠ .ref e m)
    (hrun : ∀ s, C06.Top ext (setStore store b va) s → s.cfg = st.cfg →
      ∃ s1, run (evalIndexAssignment (.ident b) (.int i) (.int n)) s = (.ok (.int n), s1)
        ∧ C06.Top ext (setStore (setStore store b va) b vb) s1) :
    outcome (evalStatements (f + 6) (C06.copyThenIndexAssign a b i n) .null) st = .ok (.int n)
    ∧ C01.Binds (stateAfter (evalStatements (f + 6) (C06.copyThenIndexAssign a b i n) .null) st) a va
    ∧ C01.Binds (stateAfter (evalStatements (f + 6) (C06.copyThenIndexAssign a b i n) .null) st) b vb := by
  obtain ⟨he, hT0⟩ := C06.eval_ident_top (f + 2) a va (C15.bump st) h.bump ha hla hpa hra
  obtain ⟨h1, hT1⟩ := C06.assign_top (f + 3) b (.ident a) va st h hb he hT0 hea hpa hlb
  have hc := (((allGood (f + 5)).evalI (.inf "ASSIGN" (.ident b) (.ident a))).h st).1.cfg
  obtain ⟨h2, hT2⟩ := C06.index_assign_stmt_generic f b i n _ hT1 fun s hs hcs => hrun s hs (hcs.trans hc)
  have key : SameRun (evalStatements (f + 6) (C06.copyThenIndexAssign a b i n) .null) st
      (evalI (f + 4) (.inf "ASSIGN" (.idx "LBRACKET" (.ident b) (.int i)) (.int n)))
      (stateAfter (evalI (f + 5) (.inf "ASSIGN" (.ident b) (.ident a))) st) := by
    have hst : va.stops = false := by cases va <;> first | rfl | exact absurd rfl (hra _ _) | cases hea
    refine (C01.stmts_cons_continue (f + 5) _ _ .null _ st (fun hc => Node.noConfusion hc) h1 hst).trans ?_
    rw [C01.stmts_singleton (f + 3) _ _ (fun hc => Node.noConfusion hc)]
    exact SameRun.refl _ _
  refine ⟨key.1.trans h2, ?_, ?_⟩
  · rw [key.2]
    refine hT2.binds a _ ha ?_ hpa
    rw [lookupStore_setStore_ne _ _ _ _ hab, lookupStore_setStore_ne _ _ _ _ hab]; exact hla
  · rw [key.2]
    exact hT2.binds b _ hb (lookupStore_setStore_eq _ _ _) hpb

/-- **C06, statement level (T1)**: at top level, with `a` bound to an array `els` of ANY length and contents,
running `b = a; b[i] = n` (ordinary names `a ≠ b`; `i` an integer literal resolving to the in-range position
`k`: `k = i` for `i ≥ 0`, `k = len + i` for `i < 0`; `n` an integer literal) has the value `n`, leaves `a` bound
to `els`, and binds `b` to the updated copy `els.set k n`. -/
theorem C06.copy_then_index_assign_keeps_original {ext store} (f : Nat) (a b : String) (els : List Obj)
    (i n : Int64) (k : Nat) (st : St)
    (h : C06.Top ext store st) (ha : C06.Ordinary ext a) (hb : C06.Ordinary ext b) (hab : a ≠ b)
    (hla : lookupStore store a = some (.array els))
    (hlb : lookupStore store b = none ∨ (∃ r, lookupStore store b = some r ∧ ∀ re rn, r ≠ .ref re rn))
    (hk : (if i < 0 then (els.length : Int) + i.toInt else i.toInt) = (k : Int)) (hlt : k < els.length) :
    outcome (evalStatements (f + 6) (C06.copyThenIndexAssign a b i n) .null) st = .ok (.int n)
    ∧ C01.Binds (stateAfter (evalStatements (f + 6) (C06.copyThenIndexAssign a b i n) .null) st) a (.array els)
    ∧ C01.Binds (stateAfter (evalStatements (f + 6) (C06.copyThenIndexAssign a b i n) .null) st) b
        (.array (els.set k (.int n))) :=
  C06.copy_then_assign f a b _ _ i n st h ha hb hab hla (fun _ _ => Obj.noConfusion) (fun _ _ => Obj.noConfusion)
    rfl hlb (fun _ _ => Obj.noConfusion) fun s hs _ =>
      C06.indexAssign_array_top b els i n k s hs hb (lookupStore_setStore_eq _ _ _) hk hlt

/-! non-vacuity: a 10-element array (above the implementation's small/large threshold of 8) -/

def C06.ten : List Obj := [.int 0, .int 1, .int 2, .int 3, .int 4, .int 5, .int 6, .int 7, .int 8, .int 9]
def C06.st10 : St := { frames := #[{ store := [("a", .array C06.ten)] }] }

example : C06.Top [] [("a", .array C06.ten)] C06.st10 := ⟨rfl, by decide, rfl, _, rfl, rfl, rfl, rfl⟩
example : C06.Ordinary [] "a" := ⟨by decide, rfl, by decide, by decide⟩
example : C06.Ordinary [] "b" := ⟨by decide, rfl, by decide, by decide⟩
/-- the theorem applies to the 10-element array: all hypotheses hold -/
example : C01.Binds (stateAfter (evalStatements 6 (C06.copyThenIndexAssign "a" "b" 3 77) .null) C06.st10) "a"
      (.array C06.ten)
    ∧ C01.Binds (stateAfter (evalStatements 6 (C06.copyThenIndexAssign "a" "b" 3 77) .null) C06.st10) "b"
      (.array (C06.ten.set 3 (.int 77))) :=
  (C06.copy_then_index_assign_keeps_original (ext := []) (store := [("a", .array C06.ten)]) 0 "a" "b" C06.ten 3 77 3
    C06.st10 ⟨rfl, by decide, rfl, _, rfl, rfl, rfl, rfl⟩ ⟨by decide, rfl, by decide, by decide⟩
    ⟨by decide, rfl, by decide, by decide⟩ (by decide) rfl (Or.inl rfl) (by decide) (by decide)).2

end Grol.E

namespace Grol.E

/-- `evalIndexAssignment` on a map bound at top level (any number of pairs), plain key and value: the name is
rebound to what `Map.Set` (`mapSet`) builds -/
theorem C06.indexAssign_map_top {ext store} (name : String) (big : Bool) (kvs : List (Obj × Obj)) (key val : Obj)
    (big' : Bool) (kvs' : List (Obj × Obj)) (st : St)
    (h : C06.Top ext store st) (ho : C06.Ordinary ext name)
    (hl : lookupStore store name = some (.map big kvs))
    (hkey : ∀ e m, key ≠ .ref e m) (hval : ∀ e m, val ≠ .ref e m)
    (hm : mapSet st.cfg big kvs key val = .ok (big', kvs')) :
    ∃ s1, run (evalIndexAssignment (.ident name) key val) st = (.ok val, s1)
      ∧ C06.Top ext (setStore store name (.map big' kvs')) s1 := by
  have hpm : ∀ e m, Obj.map big kvs ≠ .ref e m := fun _ _ => Obj.noConfusion
  unfold evalIndexAssignment
  simp only [run_bind, C01.run_valueOf_plain key hkey, C01.run_valueOf_plain val hval, C01.run_curEnv,
    C06.run_envGet_top name _ st h ho hl hpm, C01.run_valueOf_plain _ hpm, run_get, hm, run_liftR]
  obtain ⟨s1, hn, hT1, hcur⟩ := C06.run_noteHazard big "large-map-set-delete-aliases" name st h
  simp only [hn]
  obtain ⟨s2, hset, hT2⟩ := C06.createOrSet_top s1 name (.map big' kvs') hT1 ho
    (fun _ _ => Obj.noConfusion) (Or.inr ⟨_, hl, hpm⟩)
  unfold envSet
  rw [← hcur, hset]
  exact ⟨s2, rfl, hT2⟩

/-- **C06, statement level (T2)**: at top level, with `a` bound to a map of ANY number of pairs, running
`b = a; b[k] = n` (ordinary names `a ≠ b`, integer literals `k`, `n`) has the value `n`, leaves `a` bound to
the same map and binds `b` to the result of `Map.Set` on a copy (`mapSet`, assumed not to stop: keys
comparable with `k`). -/
theorem C06.copy_then_map_set_keeps_original {ext store} (f : Nat) (a b : String) (big : Bool)
    (kvs : List (Obj × Obj)) (k n : Int64) (big' : Bool) (kvs' : List (Obj × Obj)) (st : St)
    (h : C06.Top ext store st) (ha : C06.Ordinary ext a) (hb : C06.Ordinary ext b) (hab : a ≠ b)
    (hla : lookupStore store a = some (.map big kvs))
    (hlb : lookupStore store b = none ∨ (∃ r, lookupStore store b = some r ∧ ∀ re rn, r ≠ .ref re rn))
    (hm : mapSet st.cfg big kvs (.int k) (.int n) = .ok (big', kvs')) :
    outcome (evalStatements (f + 6) (C06.copyThenIndexAssign a b k n) .null) st = .ok (.int n)
    ∧ C01.Binds (stateAfter (evalStatements (f + 6) (C06.copyThenIndexAssign a b k n) .null) st) a (.map big kvs)
    ∧ C01.Binds (stateAfter (evalStatements (f + 6) (C06.copyThenIndexAssign a b k n) .null) st) b
        (.map big' kvs') :=
  C06.copy_then_assign f a b _ _ k n st h ha hb hab hla (fun _ _ => Obj.noConfusion) (fun _ _ => Obj.noConfusion)
    rfl hlb (fun _ _ => Obj.noConfusion) fun s hs hcs =>
      C06.indexAssign_map_top b big kvs (.int k) (.int n) big' kvs' s hs hb (lookupStore_setStore_eq _ _ _)
        (fun _ _ => Obj.noConfusion) (fun _ _ => Obj.noConfusion) (by rw [hcs]; exact hm)

end Grol.E

namespace Grol.E

def C06.tenPairs : List (Obj × Obj) :=
  [(.int 0, .int 0), (.int 1, .int 10), (.int 2, .int 20), (.int 3, .int 30), (.int 4, .int 40), (.int 5, .int 50),
   (.int 6, .int 60), (.int 7, .int 70), (.int 8, .int 80), (.int 9, .int 90)]
def C06.stMap10 : St := { frames := #[{ store := [("a", .map true C06.tenPairs)] }] }

/-- T2 applies to a 10-pair (big) map: all hypotheses hold -/
example : C01.Binds (stateAfter (evalStatements 6 (C06.copyThenIndexAssign "a" "b" 3 77) .null) C06.stMap10) "a"
      (.map true C06.tenPairs)
    ∧ C01.Binds (stateAfter (evalStatements 6 (C06.copyThenIndexAssign "a" "b" 3 77) .null) C06.stMap10) "b"
      (.map true (C06.tenPairs.set 3 (.int 3, .int 77))) :=
  (C06.copy_then_map_set_keeps_original (ext := []) (store := [("a", .map true C06.tenPairs)]) 0 "a" "b" true
    C06.tenPairs 3 77 true (C06.tenPairs.set 3 (.int 3, .int 77))
    C06.stMap10 ⟨rfl, by decide, rfl, _, rfl, rfl, rfl, rfl⟩ ⟨by decide, rfl, by decide, by decide⟩
    ⟨by decide, rfl, by decide, by decide⟩ (by decide) rfl (Or.inl rfl) rfl).2

/-- `Eval` of a node whose rule keeps `Top` one level deeper -/
theorem C06.eval_top2 {ext store} (f : Nat) (node : Node) (st : St) (r : Obj) (h : C06.Top ext store st)
    (hr : outcome (evalI f node) (C01.deeper st) = .ok r)
    (hT : C06.Top ext store (stateAfter (evalI f node) (C01.deeper st)))
    (h1 : ∀ v kind, r ≠ .ret v kind) (h2 : ∀ e n, r ≠ .ref e n) :
    outcome (eval (f + 1) node) st = .ok r ∧ C06.Top ext store (stateAfter (eval (f + 1) node) st) := by
  obtain ⟨ho, hst⟩ := (C01.eval_unwrap f node st r h.depthOk hr).2.2 h1 h2
  refine ⟨ho, ?_⟩
  rw [hst]
  refine ⟨hT.1, ?_, hT.3, hT.4⟩
  have := hT.2
  show ¬ (stateAfter (evalI f node) (C01.deeper st)).depth - 1 > (stateAfter (evalI f node) (C01.deeper st)).cfg.maxDepth
  omega

/-- the second half of `l + r` with an array of ANY length on the left: the instrumentation line may log a
hazard entry; bindings untouched -/
theorem C06.infixTail_array_top {ext store} (g : Nat) (l r : Node) (els : List Obj) (rv res : Obj) (s1 : St)
    (hr : outcome (eval g r) s1 = .ok rv) (hT : C06.Top ext store (stateAfter (eval g r) s1))
    (hre : rv.isError = false)
    (hop : ∀ s2, run (evalInfixOp "PLUS" (.array els) rv) s2 = (.ok res, s2)) :
    ∃ s3, run (C01.infixTail g "PLUS" l r (.array els)) s1 = (.ok res, s3) ∧ C06.Top ext store s3 := by
  unfold C01.infixTail
  simp only [run_bind, run_eq (eval g r) s1, hr, hre, Bool.false_eq_true, if_false, run_get]
  obtain ⟨s3, hn, hT3, _⟩ := C06.run_noteHazard
    ("PLUS" == "PLUS" && decide (els.length > (stateAfter (eval g r) s1).cfg.maxSmallArray))
    "large-array-append-shares-capacity" (hazardBase l) _ hT
  simp only [hn, hop]
  exact ⟨s3, rfl, hT3⟩

/-- the node `l + r`, left operand an array of any length -/
theorem C06.plus_array_top {ext store} (g : Nat) (l r : Node) (els : List Obj) (rv res : Obj) (s : St)
    (h : C06.Top ext store s)
    (hl : outcome (eval g l) (C15.bump s) = .ok (.array els))
    (hTl : C06.Top ext store (stateAfter (eval g l) (C15.bump s)))
    (hr : ∀ s1, C06.Top ext store s1 → outcome (eval g r) s1 = .ok rv ∧ C06.Top ext store (stateAfter (eval g r) s1))
    (hre : rv.isError = false)
    (hop : ∀ s2, run (evalInfixOp "PLUS" (.array els) rv) s2 = (.ok res, s2)) :
    outcome (evalI (g + 1) (.inf "PLUS" l r)) s = .ok res
    ∧ C06.Top ext store (stateAfter (evalI (g + 1) (.inf "PLUS" l r)) s) := by
  have k := C01.infix_continue g "PLUS" l r s (.array els) h.1 rfl hl rfl rfl rfl (by simp)
  obtain ⟨hrv, hT2⟩ := hr _ hTl
  obtain ⟨s3, hrun, hT3⟩ := C06.infixTail_array_top g l r els rv res _ hrv hT2 hre hop
  refine ⟨k.1.trans (by rw [outcome_eq_run, hrun]), ?_⟩
  rw [k.2, stateAfter_eq_run, hrun]; exact hT3

/-- **C06, statement level (T3)**: at top level, `a` bound to an array `la` and `b` to an array `lb` of ANY
lengths (within the model's allocation bound), `c` an ordinary name other than `a`, `b`: the statement
`c = a + b` has the value `la ++ lb`, binds `c` to it, and leaves `a` bound to `la` and `b` to `lb`.
(`a = b` is allowed: `c = a + a`.)  The depth guard must leave room for the operands (`depth + 1`). -/
theorem C06.append_keeps_operands {ext store} (f : Nat) (a b c : String) (la lb : List Obj) (st : St)
    (h : C06.Top ext store st) (hdepth : ¬ st.depth + 1 > st.cfg.maxDepth)
    (ha : C06.Ordinary ext a) (hb : C06.Ordinary ext b) (hc : C06.Ordinary ext c) (hac : a ≠ c) (hbc : b ≠ c)
    (hla : lookupStore store a = some (.array la)) (hlb : lookupStore store b = some (.array lb))
    (hlc : lookupStore store c = none ∨ (∃ r, lookupStore store c = some r ∧ ∀ re rn, r ≠ .ref re rn))
    (hsz : ((la.length : Int) + lb.length) ≤ sizeLimit) :
    outcome (evalI (f + 5) (.inf "ASSIGN" (.ident c) (.inf "PLUS" (.ident a) (.ident b)))) st = .ok (.array (la ++ lb))
    ∧ C01.Binds (stateAfter (evalI (f + 5) (.inf "ASSIGN" (.ident c) (.inf "PLUS" (.ident a) (.ident b)))) st) a (.array la)
    ∧ C01.Binds (stateAfter (evalI (f + 5) (.inf "ASSIGN" (.ident c) (.inf "PLUS" (.ident a) (.ident b)))) st) b (.array lb)
    ∧ C01.Binds (stateAfter (evalI (f + 5) (.inf "ASSIGN" (.ident c) (.inf "PLUS" (.ident a) (.ident b)))) st) c
        (.array (la ++ lb)) := by
  have hpa : ∀ (l : List Obj) e m, Obj.array l ≠ .ref e m := fun _ _ _ => Obj.noConfusion
  have hra : ∀ (l : List Obj) w k, Obj.array l ≠ .ret w k := fun _ _ _ => Obj.noConfusion
  have hTb : C06.Top ext store (C15.bump st) := h.bump
  have hTd : C06.Top ext store (C01.deeper (C15.bump st)) := ⟨h.1, hdepth, h.3, h.4⟩
  obtain ⟨hl, hTl⟩ := C06.eval_ident_top f a (.array la) _ hTd.bump ha hla (hpa la) (hra la)
  have hop : ∀ s2, run (evalInfixOp "PLUS" (.array la) (.array lb)) s2 = (.ok (.array (la ++ lb)), s2) := by
    intro s2
    obtain ⟨⟨h1, h2⟩, _⟩ := C01.array_append la lb .null s2 hsz
      ⟨fun _ => Obj.noConfusion, fun _ _ => Obj.noConfusion, fun _ => Obj.noConfusion⟩
    rw [run_eq, h1, h2]
  obtain ⟨hp, hTp⟩ := C06.plus_array_top (f + 2) (.ident a) (.ident b) la (.array lb) (.array (la ++ lb)) _ hTd hl hTl
    (fun s1 hs1 => C06.eval_ident_top f b (.array lb) s1 hs1 hb hlb (hpa lb) (hra lb)) rfl hop
  obtain ⟨he, hTe⟩ := C06.eval_top2 (f + 3) _ _ _ hTb hp hTp (hra _) (hpa _)
  obtain ⟨h1, hT1⟩ := C06.assign_top (f + 3) c _ (.array (la ++ lb)) st h hc he hTe rfl (hpa _) hlc
  refine ⟨h1, hT1.binds a _ ha ?_ (hpa _), hT1.binds b _ hb ?_ (hpa _),
    hT1.binds c _ hc (lookupStore_setStore_eq _ _ _) (hpa _)⟩
  · rw [lookupStore_setStore_ne _ _ _ _ hac]; exact hla
  · rw [lookupStore_setStore_ne _ _ _ _ hbc]; exact hlb

end Grol.E

namespace Grol.E

def C06.st10ab : St := { frames := #[{ store := [("a", .array C06.ten), ("b", .array C06.ten)] }] }

/-- T3 applies to two 10-element arrays: all hypotheses hold -/
example :
    outcome (evalI 5 (.inf "ASSIGN" (.ident "c") (.inf "PLUS" (.ident "a") (.ident "b")))) C06.st10ab
      = .ok (.array (C06.ten ++ C06.ten))
    ∧ C01.Binds (stateAfter (evalI 5 (.inf "ASSIGN" (.ident "c") (.inf "PLUS" (.ident "a") (.ident "b")))) C06.st10ab)
        "a" (.array C06.ten) :=
  let t := C06.append_keeps_operands (ext := []) (store := [("a", .array C06.ten), ("b", .array C06.ten)]) 0 "a" "b" "c"
    C06.ten C06.ten C06.st10ab ⟨rfl, by decide, rfl, _, rfl, rfl, rfl, rfl⟩ (by decide)
    ⟨by decide, rfl, by decide, by decide⟩ ⟨by decide, rfl, by decide, by decide⟩
    ⟨by decide, rfl, by decide, by decide⟩ (by decide) (by decide) rfl rfl (Or.inl rfl) (by decide)
  ⟨t.1, t.2.1⟩

end Grol.E
