import Grol.Sanitize
import Grol.Generated.IOFacts
/-
C17 — restricted IO confines file access to plain `.gr` names of the current directory.

Part 1: theorems about the model `Grol.Sanitize.sanitize` of extensions.sanitizeFileName (tied to the
Go code by the `sanitize` suite: exhaustive names over the property's alphabet through the real
function, and save/load through repl.EvalStringWithOption on a real scratch tree).
Part 2: expectation theorems (by `decide`) on facts regenerated from the Go sources on every run
(`Grol.Generated.IOFacts`): the list of file-system / process API call sites and the conditions under
which save / load / exec / run are registered.  A new call site or a moved registration breaks them.
-/
namespace Grol.Sanitize
open Grol.Wire

/-! ### Part 1: the sanitiser -/

theorem trimSuffix_append_ext (b : Bytes) : trimSuffix (b ++ ext) = b := by
  unfold trimSuffix
  have h : ext.isSuffixOf (b ++ ext) = true := by
    rw [List.isSuffixOf_iff_suffix]; exact List.suffix_append b ext
  rw [if_pos h]
  simp

theorem trimSuffix_of_not_suffix (s : Bytes) (h : ¬ ext <:+ s) : trimSuffix s = s := by
  unfold trimSuffix
  have : ¬ (ext.isSuffixOf s = true) := by rw [List.isSuffixOf_iff_suffix]; exact h
  rw [if_neg this]

theorem dot_not_alphaNum : isAlphaNum 46 = false := by decide

/-- a name made of identifier characters does not end in ".gr" -/
theorem not_suffix_of_all_alphaNum (s : Bytes) (h : ∀ c ∈ s, isAlphaNum c = true) : ¬ ext <:+ s := by
  rintro ⟨t, rfl⟩
  have := h 46 (by simp [ext])
  rw [dot_not_alphaNum] at this
  cases this

/-- **C17 (1)**: under restricted IO every accepted request — with or without argument — names
`b ++ ".gr"` with `b` over `[A-Za-z0-9_]`; in empty-only mode it names ".gr". -/
theorem C17.restricted_shape (cfg : Config) (arg : Option Bytes) (f : Bytes)
    (hr : cfg.unrestricted = false) (h : sanitize cfg arg = some f) :
    ∃ b, f = b ++ ext ∧ (∀ c ∈ b, isAlphaNum c = true) ∧ (cfg.emptyOnly = true → f = ext) := by
  cases arg with
  | none =>
    simp [sanitize] at h
    exact ⟨[], by simp [h], by simp, fun _ => h.symm⟩
  | some file =>
    unfold sanitize at h
    simp only [hr] at h
    by_cases he : (cfg.emptyOnly && file != []) = true
    · rw [if_pos he] at h; cases h
    · rw [if_neg he] at h
      simp only [Bool.false_eq_true, if_false] at h
      by_cases ha : (trimSuffix file).all isAlphaNum = true
      · rw [if_pos ha] at h
        injection h with h
        refine ⟨trimSuffix file, h.symm, ?_, ?_⟩
        · simpa [List.all_eq_true] using ha
        · intro hE
          have : file = [] := by
            cases file with
            | nil => rfl
            | cons a t => simp [hE] at he
          subst this
          rw [← h]; rfl
      · rw [if_neg ha] at h; cases h

/-- no argument: always ".gr" -/
theorem C17.no_argument (cfg : Config) : sanitize cfg none = some ext := rfl

theorem count_dot_alphaNum (b : Bytes) (h : ∀ c ∈ b, isAlphaNum c = true) : b.count 46 = 0 := by
  rw [List.count_eq_zero]
  intro hm
  have := h 46 hm
  rw [dot_not_alphaNum] at this
  cases this

/-- **C17 (1'), confinement**: such a name contains no '/', no '\\', no NUL byte and no "..": it is a
plain file name of the current directory (and it is not empty). -/
theorem C17.restricted_confined (cfg : Config) (arg : Option Bytes) (f : Bytes)
    (hr : cfg.unrestricted = false) (h : sanitize cfg arg = some f) :
    (∀ c ∈ f, c ≠ 47 ∧ c ≠ 92 ∧ c ≠ 0) ∧ ¬ [46, 46] <:+: f ∧ f ≠ [] := by
  obtain ⟨b, rfl, hb, _⟩ := C17.restricted_shape cfg arg f hr h
  refine ⟨?_, ?_, by simp [ext]⟩
  · intro c hc
    rw [List.mem_append] at hc
    rcases hc with hc | hc
    · have := hb c hc
      refine ⟨?_, ?_, ?_⟩ <;> (rintro rfl; revert this; decide)
    · simp [ext] at hc
      rcases hc with rfl | rfl | rfl <;> decide
  · rintro ⟨s, t, hst⟩
    have h1 : (b ++ ext).count 46 = 1 := by
      rw [List.count_append, count_dot_alphaNum b hb]; decide
    rw [← hst] at h1
    simp [List.count_append] at h1
    omega

/-- **C17 (2)**: acceptance is a (decidable) function of the name and the configuration alone — the
model has no other input — and, for the restricted configuration, it is exactly: the name, after
removing one ".gr" suffix if present, consists of identifier characters. -/
theorem C17.accepted_iff (n f : Bytes) :
    sanitize ⟨false, false⟩ (some n) = some f ↔
      ((∀ c ∈ n, isAlphaNum c = true) ∧ f = n ++ ext) ∨
      (∃ b, n = b ++ ext ∧ (∀ c ∈ b, isAlphaNum c = true) ∧ f = n) := by
  constructor
  · intro h
    simp only [sanitize, Bool.false_and, Bool.false_eq_true, if_false] at h
    by_cases ha : (trimSuffix n).all isAlphaNum = true
    · rw [if_pos ha] at h
      injection h with h
      have ha' : ∀ c ∈ trimSuffix n, isAlphaNum c = true := by simpa [List.all_eq_true] using ha
      by_cases hs : ext <:+ n
      · obtain ⟨b, rfl⟩ := hs
        rw [trimSuffix_append_ext] at h ha'
        exact Or.inr ⟨b, rfl, ha', h.symm⟩
      · rw [trimSuffix_of_not_suffix n hs] at h ha'
        exact Or.inl ⟨ha', h.symm⟩
    · rw [if_neg ha] at h; cases h
  · rintro (⟨ha, rfl⟩ | ⟨b, rfl, hb, rfl⟩)
    · simp only [sanitize, Bool.false_and, Bool.false_eq_true, if_false]
      rw [trimSuffix_of_not_suffix n (not_suffix_of_all_alphaNum n ha)]
      have : n.all isAlphaNum = true := by simpa [List.all_eq_true] using ha
      rw [if_pos this]
    · simp only [sanitize, Bool.false_and, Bool.false_eq_true, if_false]
      rw [trimSuffix_append_ext]
      have : b.all isAlphaNum = true := by simpa [List.all_eq_true] using hb
      rw [if_pos this]

/-- empty-only mode accepts the empty name only (and then names ".gr") -/
theorem C17.emptyOnly_iff (n f : Bytes) :
    sanitize ⟨false, true⟩ (some n) = some f ↔ n = [] ∧ f = ext := by
  cases n with
  | nil => simp [sanitize, trimSuffix, ext]; exact eq_comm
  | cons a t => simp [sanitize]

/-! non-vacuity -/
example : sanitize ⟨false, false⟩ (some [102, 105, 98, 95, 53, 48]) = some [102, 105, 98, 95, 53, 48, 46, 103, 114] := by decide
example : sanitize ⟨false, false⟩ (some [97, 46, 103, 114]) = some [97, 46, 103, 114] := by decide
example : sanitize ⟨false, false⟩ (some [46, 46, 47, 97]) = none := by decide        -- "../a"
example : sanitize ⟨false, false⟩ (some [97, 46, 103, 114, 46, 103, 114]) = none := by decide  -- "a.gr.gr": one suffix only
example : sanitize ⟨true, false⟩ (some [46, 46, 47, 97]) = some [46, 46, 47, 97] := by decide  -- unrestricted: unchanged
example : sanitize ⟨false, true⟩ (some [97]) = none := by decide

end Grol.Sanitize

/-! ### Part 2: expectations on the facts extracted from the Go sources -/
namespace Grol.Generated.IOFacts

/-- Every call of a file-system / process / network API in the production sources, classified:
* program-named, through sanitizeFileName: `saveFunc` os.Create(file), `loadFunc` os.Open(file)
* fixed name in the current directory: image.save os.Create("grol.png"); AutoLoad os.Open(".gr");
  AutoSave os.CreateTemp(".", ".grol*.tmp") + os.Rename(temp, ".gr")
* process execution: `createCmd` exec.CommandContext — only reachable from exec/run (below)
* chosen by the host, not by the program: main.go processOneFile (script named on the command line),
  main_pprof.go (the profile-cpu and profile-mem flags), wasm/dev_server.go (a development web server, `!wasm`) -/
def expectedFileSites : List Site := [
  ⟨"extensions/extension.go", "loadFunc", "os.Open", "file"⟩,
  ⟨"extensions/extension.go", "saveFunc", "os.Create", "file"⟩,
  ⟨"extensions/images.go", "createImageFunctions", "os.Create", "\"grol.png\""⟩,
  ⟨"extensions/shell.go", "createCmd", "exec.CommandContext", "s.Context, cmdArgs[0], cmdArgs[1:]"⟩,
  ⟨"main.go", "processOneFile", "os.Open", "file"⟩,
  ⟨"main_pprof.go", "pprofAfterHook", "os.Create", "*memprofile"⟩,
  ⟨"main_pprof.go", "pprofBeforeHook", "os.Create", "*cpuprofile"⟩,
  ⟨"repl/repl.go", "AutoLoad", "os.Open", "AutoSaveFile"⟩,
  ⟨"repl/repl.go", "AutoSave", "os.CreateTemp", "\".\", \".grol*.tmp\""⟩,
  ⟨"repl/repl.go", "AutoSave", "os.Rename", "f.Name(), AutoSaveFile"⟩,
  ⟨"wasm/dev_server.go", "main", "http.Dir", "path"⟩,
  ⟨"wasm/dev_server.go", "main", "http.FileServer", "http.Dir(path)"⟩,
  ⟨"wasm/dev_server.go", "main", "http.ListenAndServe", "port, fs"⟩ ]

/-- **C17 (3a)**: the file / process API call sites are exactly the classified ones -/
theorem C17.file_sites_expected : fileSites = expectedFileSites := by decide +kernel

/-- all `if` conditions guarding the registrations of the extension `name`: its own enclosing conditions
together with those of every call of the create* function it is registered in -/
def guards (name : String) : List (List String) :=
  (extensionNames.filter (·.1 == name)).flatMap fun e =>
    match createCalls.filter (·.1 == e.2.1) with
    | [] => [e.2.2]          -- registered in a function that is not called through a create* call
    | calls => calls.map fun c => c.2.2 ++ e.2.2

/-- **C17 (3b)**: exec and run are registered in one place each, and only under `c.UnrestrictedIOs`;
save only under `c.HasSave`, load only under `c.HasLoad` -/
theorem C17.registration_conditions :
    guards "exec" = [["c.UnrestrictedIOs"]] ∧ guards "run" = [["c.UnrestrictedIOs"]] ∧
    guards "save" = [["c.HasSave"]] ∧ guards "load" = [["c.HasLoad"]] := by decide +kernel

/-- **C17 (3c)**: the process API site `createCmd` is called from createShellFunctions only (whose one
call is under `c.UnrestrictedIOs`), and image.save — the only other extension with a file site — is
registered unconditionally with its fixed name -/
theorem C17.process_site_confined :
    (createCalls.filter (·.1 == "createCmd")).all (·.2.1 == "createShellFunctions") = true ∧
    (createCalls.filter (·.1 == "createShellFunctions")) = [("createShellFunctions", "initInternal", ["c.UnrestrictedIOs"])] ∧
    guards "image.save" = [[]] := by decide +kernel

end Grol.Generated.IOFacts
