import GrolProofs.MemoMono
import GrolProofs.EvalInv
import GrolProofs.EnvConst
import GrolProofs.CallRun
/-
C04, the footprint lemma.  `applyFunction` stores a result only when the callee frame's miss
counter is the same after the body as before (`C04.store_condition`).  This file says what that
means for the execution of the body:

* `quiet_bind`  — "the counter of frame `e` did not move" is inherited by every sub-computation
  (because counters never decrease, `MemoMono`);
* `envGet_quiet` / `makeRef_go_quiet` — a `Get` that did not move the counter returned nothing, the
  frame's own function, a value of the frame's own store, or a reference to a binding the purity
  test trusts: a function value, or an all-caps name in a depth-0 frame;
* `triggerNoCache_loud`, `evalDelete_loud` — `del` always moves the counter of the current frame;
* `finishCall_quiet`, `applyFunction_quiet` — a nested call that did not move the CALLER's counter
  was a cache hit, failed to bind its arguments, or had a body that did not move the CALLEE's counter.
-/
namespace Grol.E

def Quiet (e : Nat) (x : M α) (st : St) : Prop := missOf (stateAfter x st) e = missOf st e

theorem quiet_bind {e : Nat} {x : M α} {f : α → M β} {st : St} (hx : Tr x) (hf : ∀ a, Tr (f a))
    (h : Quiet e (x >>= f) st) :
    Quiet e x st ∧ ∀ a, outcome x st = .ok a → Quiet e (f a) (stateAfter x st) := by
  unfold Quiet at *
  rw [stateAfter_bind] at h
  have h1 := (hx.h st).miss e
  cases ho : outcome x st with
  | error err =>
    rw [ho] at h
    exact ⟨h, fun a ha => by cases ha⟩
  | ok a =>
    rw [ho] at h
    dsimp only at h
    have h2 := ((hf a).h (stateAfter x st)).miss e
    refine ⟨by omega, fun a' ha' => ?_⟩
    cases ha'
    omega

theorem quiet_tail {e : Nat} {x : M α} {f : α → M β} {st : St} {a : α} (hx : Tr x) (hf : ∀ a, Tr (f a))
    (h : Quiet e (x >>= f) st) (ha : outcome x st = .ok a) : Quiet e (f a) (stateAfter x st) :=
  (quiet_bind hx hf h).2 a ha


theorem Tr.miss_le {x : M α} (hx : Tr x) {s sF : St} {r : Except Stop α} (h : run x s = (r, sF)) (e : Nat) :
    missOf s e ≤ missOf sF e := by
  have hs : stateAfter x s = sF := congrArg Prod.snd h
  exact hs ▸ (hx.h s).miss e

theorem missOf_of_frame {st : St} {e : Nat} {f : Frame} (h : st.frames[e]? = some f) : missOf st e = f.getMiss := by
  unfold missOf; rw [h]

theorem missOf_set_self {st : St} {e : Nat} {f : Frame} (h : st.frames[e]? = some f) (f' : Frame) :
    missOf { st with frames := st.frames.setIfInBounds e f' } e = f'.getMiss := by
  rw [missOf_setIfInBounds st e f f' h, if_pos rfl]


theorem run_triggerNoCache {e : Nat} {st : St} {f : Frame} (h : st.frames[e]? = some f) :
    run (triggerNoCache e) st =
      (.ok (), { st with frames := st.frames.setIfInBounds e { f with cantCache := true, getMiss := f.getMiss + 1 } }) := by
  unfold triggerNoCache
  rw [run_modifyFrame, h]

theorem triggerNoCache_loud (e : Nat) (st : St) (hok : outcome (triggerNoCache e) st = .ok ()) :
    missOf (stateAfter (triggerNoCache e) st) e = missOf st e + 1 := by
  cases h : st.frames[e]? with
  | none => rw [outcome_eq_run, triggerNoCache, run_modifyFrame, h] at hok; cases hok
  | some f =>
    rw [stateAfter_eq_run, run_triggerNoCache h]
    exact (missOf_set_self h _).trans (by rw [missOf_of_frame h])

theorem triggerNoCache_ok_or_panic (e : Nat) (st : St) :
    outcome (triggerNoCache e) st = .ok () ∨ outcome (triggerNoCache e) st = .error (.goPanic "nil environment") := by
  rw [outcome_eq_run]
  unfold triggerNoCache
  rw [run_modifyFrame]
  cases st.frames[e]? <;> simp

/-- `del` bumps the counter of the current frame before anything else: a call that ran `del`
(and did not die in a Go panic on the spot) is never stored -/
theorem evalDelete_loud (fuel : Nat) (node : Node) (st : St) (r : Obj)
    (hok : outcome (evalDelete (fuel + 1) node) st = .ok r) :
    missOf st st.cur < missOf (stateAfter (evalDelete (fuel + 1) node) st) st.cur := by
  have h : run (evalDelete (fuel + 1) node) st = (.ok r, stateAfter (evalDelete (fuel + 1) node) st) := Prod.ext hok rfl
  generalize stateAfter (evalDelete (fuel + 1) node) st = sF at h ⊢
  unfold evalDelete at h
  obtain ⟨_, _, hc, h⟩ := run_bind_inv h
  cases hc
  unfold triggerNoCache at h
  obtain ⟨fr, hfr, h⟩ := modifyFrame_bind_inv h
  -- the rest only grows the counter that `TriggerNoCache` has just raised
  refine Nat.lt_of_lt_of_le ?_ (Tr.miss_le ?_ h st.cur)
  · rw [missOf_set_self hfr, missOf_of_frame hfr]; exact Nat.lt_succ_self _
  · clear h hok
    have := allTr fuel
    split
    · split <;> closed_by trStep using trStep.curEnv, trClosed.envDelete _ _, trStep.deleteMapEntry
    · split <;> closed_by trStep using trStep.curEnv, trClosed.envDelete _ _, trStep.deleteMapEntry
    · refine tr_bind (this.eval _) fun index => ?_
      split <;> closed_by trStep using trStep.curEnv, trClosed.envDelete _ _, trStep.deleteMapEntry
    · exact tr_pure _

/-! ### overwriting or deleting a function-valued binding is never quiet -/

theorem missOf_congr {s s' : St} (h : s'.frames = s.frames) (e : Nat) : missOf s' e = missOf s e := by
  unfold missOf; rw [h]

/-- `functionChanged` on a binding that held a function raises the WRITER's counter -/
theorem functionChanged_loud (w : Nat) (o : Obj) (st : St) (ho : isFuncObj o = true)
    (hok : outcome (functionChanged w (some o)) st = .ok ()) :
    missOf (stateAfter (functionChanged w (some o)) st) w = missOf st w + 1 := by
  rw [outcome_eq_run] at hok
  rw [stateAfter_eq_run]
  unfold functionChanged at hok ⊢
  simp only [ho, if_true] at hok ⊢
  rw [run_bind, run_modifyFrame] at hok ⊢
  cases h : st.frames[w]? with
  | none => rw [h] at hok; cases hok
  | some f =>
    -- emptying the cache afterwards leaves the frames alone
    refine (missOf_congr (s := { st with frames := st.frames.setIfInBounds w { f with getMiss := f.getMiss + 1 } }) rfl w).trans ?_
    rw [missOf_set_self h, missOf_of_frame h]

/-- the store step of an assignment (`update`): overwriting a binding that holds a function strictly
raises the counter of the environment doing the assignment -/
theorem envStoreAt_loud (w e : Nat) (name : String) (val : Obj) (st : St) (fr : Frame) (o r : Obj)
    (hfr : st.frames[e]? = some fr) (hl : lookupStore fr.store name = some o) (ho : isFuncObj o = true)
    (hok : outcome (envStoreAt w e name val) st = .ok r) :
    missOf st w < missOf (stateAfter (envStoreAt w e name val) st) w := by
  have h : run (envStoreAt w e name val) st = (.ok r, stateAfter (envStoreAt w e name val) st) := Prod.ext hok rfl
  generalize stateAfter (envStoreAt w e name val) st = sF at h ⊢
  unfold envStoreAt at h
  obtain ⟨fr', hfr', h⟩ := getFrame_bind_inv h
  cases hfr.symm.trans hfr'
  rw [hl] at h
  obtain ⟨_, s1, hfc, h⟩ := run_bind_inv h
  have h1 := functionChanged_loud w o st ho (congrArg Prod.fst hfc)
  rw [show stateAfter (functionChanged w (some o)) st = s1 from congrArg Prod.snd hfc] at h1
  have h2 := Tr.miss_le (by closed_by trStep using trStep.rootBindsFunc) h w
  omega


/-- the end of a call returns the body's result unchanged; and if the callee's counter moved it moves the
caller's counter: where the caller's counter did not move, the callee's did not move either -/
theorem finishCall_inv {f : FuncVal} {args : List Obj} {cur before after : Nat} {cc : Bool} {res r : Obj}
    {output : Grol.Wire.Bytes} {s sF : St} (h : run (finishCall f args cur before after cc res output) s = (.ok r, sF)) :
    r = res ∧ (missOf sF cur = missOf s cur → after = before) := by
  rw [run_finishCall] at h
  split at h
  · -- the callee's counter moved: the caller's is raised
    split at h
    · next fr hfr =>
      cases h
      refine ⟨rfl, fun hq => ?_⟩
      rw [missOf_set_self hfr, ← missOf_congr (replayState_frames s output), missOf_of_frame hfr] at hq
      exact absurd hq (Nat.succ_ne_self _)
    · cases h
  · refine ⟨?_, fun _ => Decidable.of_not_not fun hne => ‹¬ _› (bne_iff_ne.mpr hne)⟩
    split at h <;> cases h <;> rfl

theorem finishCall_quiet (f : FuncVal) (args : List Obj) (cur before after : Nat) (cc : Bool) (res : Obj)
    (output : Grol.Wire.Bytes) (st : St) (r : Obj)
    (hok : outcome (finishCall f args cur before after cc res output) st = .ok r)
    (hq : Quiet cur (finishCall f args cur before after cc res output) st) : after = before :=
  (finishCall_inv (Prod.ext hok rfl)).2 hq

/-- a call that completes without moving the CALLER's miss counter was a cache hit, or failed while
binding its arguments, or evaluated its body without moving the CALLEE's miss counter — which is 0 after the
body: binding the parameters made no miss either (`before` is 0, not the counter read after the binding) -/
theorem applyFunction_quiet_full (fuel : Nat) (f : FuncVal) (args : List Obj) (st : St) (v : Obj)
    (hok : outcome (applyFunction (fuel + 1) (.func f) args) st = .ok v)
    (hq : Quiet st.cur (applyFunction (fuel + 1) (.func f) args) st) :
    (∃ out, outcome (cacheGet f.key args) st = .ok (some (v, out))) ∨
    (outcome (extendFunctionEnv f args) st = .ok (.error v)) ∨
    (∃ nenv, outcome (extendFunctionEnv f args) st = .ok (.ok nenv) ∧
      outcome (eval fuel f.body) (bodyState (stateAfter (extendFunctionEnv f args) st) nenv) = .ok v ∧
      Quiet nenv (eval fuel f.body) (bodyState (stateAfter (extendFunctionEnv f args) st) nenv) ∧
      missOf (stateAfter (eval fuel f.body) (bodyState (stateAfter (extendFunctionEnv f args) st) nenv)) nenv = 0) := by
  have h : run (applyFunction (fuel + 1) (.func f) args) st = (.ok v, stateAfter (applyFunction (fuel + 1) (.func f) args) st) :=
    Prod.ext hok rfl
  unfold Quiet at hq
  generalize stateAfter (applyFunction (fuel + 1) (.func f) args) st = sF at h hq
  rw [run_applyFunction] at h
  split at h
  · cases h
  next cf _ =>
  -- when the cache is skipped the call counts as a miss (`after` is not 0): excluded at the end by `finishCall_inv`
  generalize (cf.localFunc && sameFunction cf f) = skip at h
  split at h
  · next v' out hhit =>
    cases h
    cases skip
    · exact .inl ⟨out, (congrArg Prod.fst (run_cacheGet f.key args st)).trans (congrArg Except.ok hhit)⟩
    · cases hhit
  right
  have hE := run_eq (extendFunctionEnv f args) st
  rw [hE] at h
  generalize stateAfter (extendFunctionEnv f args) st = sE at h hE ⊢
  generalize outcome (extendFunctionEnv f args) st = oE at h hE ⊢
  split at h
  · cases h
  · next heq => cases heq; cases h; exact .inl rfl
  next nenv s1 heq =>
  cases heq
  refine .inr ⟨nenv, rfl, ?_⟩
  unfold Quiet
  rw [run_eq (eval fuel f.body) (bodyState sE nenv)] at h
  have hB := run_eq (eval fuel f.body) (bodyState sE nenv)
  generalize stateAfter (eval fuel f.body) (bodyState sE nenv) = sB at h hB ⊢
  generalize outcome (eval fuel f.body) (bodyState sE nenv) = oB at h hB ⊢
  split at h
  · cases h
  next res s2 heq =>
  cases heq
  split at h
  · cases h
  next fr hf1 =>
  obtain ⟨hres, hcount⟩ := finishCall_inv h
  subst hres
  -- the caller's counter: st ≤ sE = body state ≤ sB = the state `finishCall` starts from ≤ final = st
  have hcur : sE.cur = st.cur := by
    have := (((good_extendFunctionEnv (f := f) (a := args)).h st).2 _ (congrArg Prod.fst hE)).1
    rwa [show stateAfter (extendFunctionEnv f args) st = sE from congrArg Prod.snd hE] at this
  have c1 := tr_extendFunctionEnv.miss_le hE sE.cur
  have c3 := ((allTr fuel).eval f.body).miss_le hB
  have c3' : missOf sE sE.cur ≤ missOf sB sE.cur := c3 sE.cur
  have c5 : missOf sB sE.cur ≤ missOf sF sE.cur := tr_finishCall.miss_le h sE.cur
  rw [← hcur] at hq
  have hab := hcount (by omega : missOf sF sE.cur = missOf sB sE.cur)
  cases skip
  · have hz : missOf sB nenv = 0 := (missOf_of_frame hf1).trans hab
    have c6 : missOf sE nenv ≤ missOf sB nenv := c3 nenv
    exact ⟨rfl, (by omega : missOf sB nenv = missOf sE nenv), hz⟩
  · cases hab

theorem applyFunction_quiet (fuel : Nat) (f : FuncVal) (args : List Obj) (st : St) (v : Obj)
    (hok : outcome (applyFunction (fuel + 1) (.func f) args) st = .ok v)
    (hq : Quiet st.cur (applyFunction (fuel + 1) (.func f) args) st) :
    (∃ out, outcome (cacheGet f.key args) st = .ok (some (v, out))) ∨
    (outcome (extendFunctionEnv f args) st = .ok (.error v)) ∨
    (∃ nenv, outcome (extendFunctionEnv f args) st = .ok (.ok nenv) ∧
      outcome (eval fuel f.body) (bodyState (stateAfter (extendFunctionEnv f args) st) nenv) = .ok v ∧
      Quiet nenv (eval fuel f.body) (bodyState (stateAfter (extendFunctionEnv f args) st) nenv)) :=
  (applyFunction_quiet_full fuel f args st v hok hq).imp id
    (Or.imp id (fun ⟨nenv, h1, h2, h3, _⟩ => ⟨nenv, h1, h2, h3⟩))


/-- the binding behind the reference `.ref re rn` (handed out for the name `nm`) is one the purity
test trusts: a binding of a DEPTH-0 frame that holds a function value or whose name `nm` is all-caps.
(A function held by a variable of an enclosing CALL - `g` in `mk=func(g){func(x){g(x)}}` - is not
trusted: reading it is a miss, like any other captured value; grol commit 103fa2c.) -/
def Trusted (st : St) (nm : String) (re : Nat) (rn : String) : Prop :=
  ∃ fr, st.frames[re]? = some fr ∧ fr.depth = 0 ∧
    (isConstant nm = true ∨ ∃ fn, lookupStore fr.store rn = some (.func fn))

/-- the test `makeRef` and `Get` make before counting a miss, failed: the referenced frame is a top level one,
and the name is all-caps or the value a function -/
theorem trusted_of_test {c t : Bool} {d : Nat} (h : ¬ (!(c && d == 0) && !(t && d == 0)) = true) :
    d = 0 ∧ (c = true ∨ t = true) := by
  cases hd : d == 0
  · rw [hd, Bool.and_false, Bool.and_false] at h; exact absurd rfl h
  · refine ⟨eq_of_beq hd, ?_⟩
    cases c
    · cases t
      · rw [hd] at h; exact absurd rfl h
      · exact .inr rfl
    · exact .inl rfl

theorem depth_setIfInBounds {st : St} {e i : Nat} {f f' fi : Frame} (h : st.frames[e]? = some f)
    (hi : (st.frames.setIfInBounds e f')[i]? = some fi) (hd : f'.depth = f.depth) :
    ∃ fi', st.frames[i]? = some fi' ∧ fi'.depth = fi.depth := by
  by_cases hei : e = i
  · subst hei
    rw [Array.getElem?_setIfInBounds_self_of_lt (Array.getElem?_eq_some_iff.mp h).1] at hi
    cases hi
    exact ⟨f, h, hd.symm⟩
  · rw [Array.getElem?_setIfInBounds_ne hei] at hi
    exact ⟨fi, hi, rfl⟩

theorem isFuncObj_iff {o : Obj} (h : isFuncObj o = true) : ∃ fn, o = .func fn := by
  cases o <;> first | exact ⟨_, rfl⟩ | cases h

theorem makeRef_go_quiet_run (orig : Nat) (name : String) (fuel e : Nat) (st sF : St) (r : Option Obj)
    (h : run (makeRef.go orig name fuel e) st = (.ok r, sF)) (hq : missOf sF orig = missOf st orig) :
    r = none ∨ ∃ re rn, r = some (.ref re rn) ∧ Trusted st name re rn := by
  induction fuel generalizing e with
  | zero => cases h; exact .inl rfl
  | succ n ih =>
    unfold makeRef.go at h
    obtain ⟨f, hfe, h⟩ := getFrame_bind_inv h
    split at h
    · cases h; exact .inl rfl
    next o _ =>
    obtain ⟨fo, hfo, h⟩ := getFrame_bind_inv h
    split at h
    · exact ih o h
    next obj hl =>
    right
    obtain ⟨re, rn, hre⟩ := refTo_isRef o name obj
    dsimp only at h
    rw [hre] at h
    obtain ⟨forig, hfor, h⟩ := modifyFrame_bind_inv h
    obtain ⟨fre, hfre, h⟩ := getFrame_bind_inv h
    rw [pure_bind] at h
    have horig := Array.getElem?_setIfInBounds_self_of_lt (xs := st.frames) (i := orig)
      (a := { forig with store := setStore forig.store name (.ref re rn) }) (Array.getElem?_eq_some_iff.mp hfor).1
    split at h
    · -- the miss is counted: not quiet
      obtain ⟨f1, hf1, h⟩ := modifyFrame_bind_inv h
      cases horig.symm.trans hf1
      cases h
      rw [missOf_set_self hf1, missOf_of_frame hfor] at hq
      exact absurd hq (Nat.succ_ne_self _)
    · next hc =>
      cases h
      obtain ⟨hd0, hc⟩ := trusted_of_test hc
      refine ⟨re, rn, rfl, ?_⟩
      -- the frame the reference points to, as it was before the reference was stored in frame `orig`
      obtain ⟨fre', hfre', hdep⟩ := depth_setIfInBounds hfor hfre rfl
      refine ⟨fre', hfre', hdep.trans hd0, hc.imp id fun ht => ?_⟩
      obtain ⟨fn, rfl⟩ := isFuncObj_iff ht
      cases hre
      cases hfo.symm.trans hfre'
      exact ⟨fn, hl⟩

theorem makeRef_go_quiet (orig : Nat) (name : String) (fuel e : Nat) (st : St) (r : Option Obj)
    (hok : outcome (makeRef.go orig name fuel e) st = .ok r)
    (hq : Quiet orig (makeRef.go orig name fuel e) st) :
    r = none ∨ ∃ re rn, r = some (.ref re rn) ∧ Trusted st name re rn :=
  makeRef_go_quiet_run orig name fuel e st _ r (Prod.ext hok rfl) hq

/-- what a `Get` on frame `e` that does not move `e`'s counter can have returned.  `Trusted` is judged in
the state the lookup started from, or in that state with the frame's own stale reference removed (the
referenced variable had been deleted and the name was looked up again) -/
inductive PureRead (st : St) (e : Nat) (name : String) : Option Obj → Prop
  | notFound : PureRead st e name none
  | self (fr : Frame) (fn : FuncVal) : st.frames[e]? = some fr → fr.function = some fn →
      PureRead st e name (some (.func fn))
  | own (fr : Frame) (v : Obj) : st.frames[e]? = some fr → lookupStore fr.store name = some v →
      (∀ re rn, v ≠ .ref re rn) → PureRead st e name (some v)
  | outer (re : Nat) (rn nm : String) : Trusted st nm re rn → PureRead st e name (some (.ref re rn))
  | outerFresh (fr : Frame) (re : Nat) (rn nm : String) : st.frames[e]? = some fr →
      Trusted { st with frames := st.frames.setIfInBounds e { fr with store := delStore fr.store name } } nm re rn →
      PureRead st e name (some (.ref re rn))

theorem envGetStored_quiet {e : Nat} {name : String} {st sF : St} {f : Frame} {r : Option Obj}
    (hfe : st.frames[e]? = some f) (h : run (envGetStored e name f) st = (.ok r, sF))
    (hq : missOf sF e = missOf st e) : PureRead st e name r := by
  have again : ∀ s, run (makeRef e name) s = (.ok r, sF) → missOf sF e = missOf s e →
      r = none ∨ ∃ re rn, r = some (.ref re rn) ∧ Trusted s name re rn :=
    fun s h hq => makeRef_go_quiet_run e name _ e s sF r h hq
  unfold envGetStored at h
  split at h
  · next re rn hl =>
    obtain ⟨alive, _, h⟩ := (readOnly_refAlive re rn).bind_inv h
    split at h
    · -- the stale reference is dropped and the name looked up again
      obtain ⟨f', hf', h⟩ := modifyFrame_bind_inv h
      cases hfe.symm.trans hf'
      split at h
      · cases h; exact .notFound
      · rcases again _ h (by rw [hq, missOf_set_self hfe, missOf_of_frame hfe]) with h | ⟨re', rn', h, ht⟩
        · subst h; exact .notFound
        · subst h; exact .outerFresh f re' rn' name hfe ht
    · obtain ⟨tgt, hV, h⟩ := (readOnly_refValue re rn).bind_inv h
      obtain ⟨fre, hfr, h⟩ := getFrame_bind_inv h
      dsimp only at h
      split at h
      · -- the miss is counted: not quiet
        obtain ⟨f', hf', h⟩ := modifyFrame_bind_inv h
        cases h
        rw [missOf_set_self hf', missOf_of_frame hf'] at hq
        exact absurd hq (Nat.succ_ne_self _)
      · next hc =>
        cases h
        obtain ⟨hd0, hc⟩ := trusted_of_test hc
        refine .outer re rn rn ⟨fre, hfr, hd0, hc.imp id fun ht => ?_⟩
        obtain ⟨fn, rfl⟩ := isFuncObj_iff ht
        -- `refValue` returned a function: it is what the referenced frame binds
        unfold refValue at hV
        obtain ⟨fre', hfr', hV⟩ := getFrame_bind_inv hV
        cases hfr.symm.trans hfr'
        split at hV
        · split at hV <;> cases hV
        · next v _ hl' => cases hV; exact ⟨fn, hl'⟩
        · cases hV
  · next obj hnr hl =>
    cases h
    exact .own f obj hfe hl hnr
  · split at h
    · cases h; exact .notFound
    · rcases again st h hq with h | ⟨re', rn', h, ht⟩
      · subst h; exact .notFound
      · subst h; exact .outer re' rn' name ht

theorem envGet_quiet (e : Nat) (name : String) (st : St) (r : Option Obj)
    (hok : outcome (envGet e name) st = .ok r) (hq : Quiet e (envGet e name) st) : PureRead st e name r := by
  have h : run (envGet e name) st = (.ok r, stateAfter (envGet e name) st) := Prod.ext hok rfl
  unfold Quiet at hq
  generalize stateAfter (envGet e name) st = sF at h hq
  rw [run_envGet] at h
  split at h
  · cases h
  split at h
  · cases h
  next f hfe =>
  split at h
  · -- `self`, or the frame's own name: the function it runs, if any
    cases h
    cases hfn : f.function with
    | none => exact .notFound
    | some fn => exact .self f fn hfe hfn
  · exact envGetStored_quiet hfe h hq


/-- `During x st y s`: running `x` from `st` runs `y` from `s` as one of its steps (`x` is a chain of
binds of computations that only grow counters, `y` is reached through the heads and — when the head
succeeded — the tails of that chain) -/
inductive During : {α β : Type} → M α → St → M β → St → Prop
  | here {α : Type} {x : M α} {st : St} : During x st x st
  | head {α β γ : Type} {x : M α} {f : α → M β} {y : M γ} {st s : St} (hx : Tr x) (hf : ∀ a, Tr (f a)) :
      During x st y s → During (x >>= f) st y s
  | tail {α β γ : Type} {x : M α} {f : α → M β} {y : M γ} {st s : St} {a : α} (hx : Tr x) (hf : ∀ a, Tr (f a))
      (ha : outcome x st = .ok a) : During (f a) (stateAfter x st) y s → During (x >>= f) st y s

theorem quiet_during {α β : Type} {x : M α} {st : St} {y : M β} {s : St} {e : Nat}
    (hd : During x st y s) (hq : Quiet e x st) : Quiet e y s := by
  induction hd with
  | here => exact hq
  | head hx hf _ ih => exact ih (quiet_bind hx hf hq).1
  | tail hx hf ha _ ih => exact ih ((quiet_bind hx hf hq).2 _ ha)

theorem no_trigger_during {α : Type} {x : M α} {st s : St} {e : Nat}
    (hd : During x st (triggerNoCache e) s) (hq : Quiet e x st) :
    outcome (triggerNoCache e) s ≠ .ok () := by
  intro hok
  have h1 := quiet_during hd hq
  have h2 := triggerNoCache_loud e s hok
  unfold Quiet at h1
  omega

theorem no_del_during {α : Type} {x : M α} {st s : St} {fuel : Nat} {node : Node}
    (hd : During x st (evalDelete (fuel + 1) node) s) (hq : Quiet s.cur x st) (r : Obj) :
    outcome (evalDelete (fuel + 1) node) s ≠ .ok r := by
  intro hok
  have h1 := quiet_during hd hq
  have h2 := evalDelete_loud fuel node s r hok
  unfold Quiet at h1
  omega

theorem nested_call_during {α : Type} {x : M α} {st s : St} {fuel : Nat} {f : FuncVal} {args : List Obj} {v : Obj}
    (hd : During x st (applyFunction (fuel + 1) (.func f) args) s) (hq : Quiet s.cur x st)
    (hok : outcome (applyFunction (fuel + 1) (.func f) args) s = .ok v) :
    (∃ out, outcome (cacheGet f.key args) s = .ok (some (v, out))) ∨
    (outcome (extendFunctionEnv f args) s = .ok (.error v)) ∨
    (∃ nenv, outcome (extendFunctionEnv f args) s = .ok (.ok nenv) ∧
      outcome (eval fuel f.body) (bodyState (stateAfter (extendFunctionEnv f args) s) nenv) = .ok v ∧
      Quiet nenv (eval fuel f.body) (bodyState (stateAfter (extendFunctionEnv f args) s) nenv)) :=
  applyFunction_quiet fuel f args s v hok (quiet_during hd hq)

/-- every overwrite or deletion of an existing binding — `update`, the reference path of `SetNoChecks`,
`Delete` — reports the old value to `functionChanged`: a miss-free call neither overwrites nor deletes a
function-valued binding -/
theorem no_function_change_during {α : Type} {x : M α} {st s : St} {w : Nat} {o : Obj}
    (hd : During x st (functionChanged w (some o)) s) (hq : Quiet w x st) (ho : isFuncObj o = true) :
    outcome (functionChanged w (some o)) s ≠ .ok () := by
  intro hok
  have h1 := quiet_during hd hq
  have h2 := functionChanged_loud w o s ho hok
  unfold Quiet at h1
  omega

theorem no_function_write_during {α : Type} {x : M α} {st s : St} {w e : Nat} {name : String} {val : Obj}
    {fr : Frame} {o : Obj} (hd : During x st (envStoreAt w e name val) s) (hq : Quiet w x st)
    (hfr : s.frames[e]? = some fr) (hl : lookupStore fr.store name = some o) (ho : isFuncObj o = true) (r : Obj) :
    outcome (envStoreAt w e name val) s ≠ .ok r := by
  intro hok
  have h1 := quiet_during hd hq
  have h2 := envStoreAt_loud w e name val s fr o r hfr hl ho hok
  unfold Quiet at h1
  omega

end Grol.E
