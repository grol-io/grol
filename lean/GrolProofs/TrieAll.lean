import Grol.Trie
import Grol.TrieSuite
import GrolProofs.TrieMem
import GrolProofs.ByteRange
/-
Lemmas about the trie model: enumeration (`allBytes`) on well-formed tries.
-/
namespace Grol.Trie
open Grol.TrieSuite (bytesLt)

theorem bytesLt_append_self (p w : List UInt8) (hw : w ≠ []) : bytesLt p (p ++ w) = true := by
  induction p with
  | nil => cases w <;> simp_all [bytesLt]
  | cons a as ih => simp [bytesLt, ih]

theorem bytesLt_diverge (p : List UInt8) (i j : UInt8) (a b : List UInt8) (h : i < j) :
    bytesLt (p ++ i :: a) (p ++ j :: b) = true := by
  induction p with
  | nil => simp [bytesLt, h]
  | cons c cs ih => simp [bytesLt, ih]

def Inhab (t : T) : Prop := ∃ w, isValid (pfx t w) = true

def WF : T → Prop
  | .nil => True
  | .endMarker => True
  | .node _ mn mx ch => ∀ i, WF (ch i) ∧ ((ch i).isNil = false → mn ≤ i ∧ i ≤ mx ∧ Inhab (ch i))


theorem pfx_invalid_of_isNil {t : T} (h : t.isNil = true) (w : List UInt8) : isValid (pfx t w) = false := by
  cases t <;> simp_all [T.isNil]

/-- the non-nil children, in increasing byte order -/
def kids (mn mx : UInt8) (ch : UInt8 → T) : List UInt8 :=
  (byteRange mn mx).filter fun i => !(ch i).isNil

theorem mem_kids {v mn mx ch} (h : WF (.node v mn mx ch)) (i : UInt8) :
    i ∈ kids mn mx ch ↔ (ch i).isNil = false := by
  simp only [kids, List.mem_filter, mem_byteRange]
  constructor
  · intro h'; simpa using h'.2
  · intro h'; exact ⟨⟨((h i).2 h').1, ((h i).2 h').2.1⟩, by simp [h']⟩

theorem kids_pairwise (mn mx : UInt8) (ch : UInt8 → T) : (kids mn mx ch).Pairwise (· < ·) :=
  List.Pairwise.filter _ (byteRange_pairwise mn mx)

theorem allBytes_node (v mn mx ch p) :
    allBytes (.node v mn mx ch) p =
      (if (if v then 1 else 0) + (kids mn mx ch).length > 1 then p.length
        else ((kids mn mx ch).map fun i => allBytes (ch i) (p ++ [i])).foldl
          (fun acc r => if r.1 > acc then r.1 else acc) p.length,
       (if v then [p] else []) ++
        (((kids mn mx ch).map fun i => allBytes (ch i) (p ++ [i])).map (·.2)).flatten) := by
  simp [allBytes, kids]

/-- `n` is the length of a common prefix of all words of `l` -/
def CommonPrefixLen (n : Nat) (l : List (List UInt8)) : Prop :=
  ∀ x ∈ l, ∀ y ∈ l, n ≤ x.length ∧ x.take n = y.take n

/-- `n` is the length of the longest common prefix of the words of `l` -/
def IsLCPLen (n : Nat) (l : List (List UInt8)) : Prop :=
  CommonPrefixLen n l ∧ ¬ CommonPrefixLen (n + 1) l

/-- what `allBytes t p` returns on a well-formed trie -/
structure AllSpec (t : T) (p : List UInt8) (r : Nat × List (List UInt8)) : Prop where
  mem : ∀ x, x ∈ r.2 ↔ ∃ w, x = p ++ w ∧ isValid (pfx t w) = true
  sorted : r.2.Pairwise (fun a b => bytesLt a b = true)
  lcp : r.2 ≠ [] → IsLCPLen r.1 r.2
  ge : t.isNil = false → p.length ≤ r.1

end Grol.Trie

namespace Grol.Trie
open Grol.TrieSuite (bytesLt)

theorem isLCPLen_singleton (p : List UInt8) : IsLCPLen p.length [p] := by
  constructor
  · intro x hx y hy; simp_all
  · intro h; have := (h p (by simp) p (by simp)).1; omega

theorem foldl_max_ge (rs : List (Nat × List (List UInt8))) (init : Nat) :
    init ≤ rs.foldl (fun acc r => if r.1 > acc then r.1 else acc) init := by
  induction rs generalizing init with
  | nil => simp
  | cons r rs ih =>
    simp only [List.foldl_cons]
    split
    · exact Nat.le_trans (by omega) (ih _)
    · exact ih _

theorem mem_words_node {v : Bool} {mn mx ch} {p : List UInt8} (h : WF (.node v mn mx ch))
    (ih : ∀ i, AllSpec (ch i) (p ++ [i]) (allBytes (ch i) (p ++ [i]))) (x : List UInt8) :
    x ∈ (allBytes (.node v mn mx ch) p).2 ↔ ∃ w, x = p ++ w ∧ isValid (pfx (.node v mn mx ch) w) = true := by
  rw [allBytes_node]
  simp only [List.mem_append, List.mem_flatten, List.mem_map]
  constructor
  · rintro (hx | ⟨l, ⟨r, ⟨i, hi, rfl⟩, rfl⟩, hx⟩)
    · cases v <;> simp at hx
      exact ⟨[], by simp [hx]⟩
    · obtain ⟨w, rfl, hw⟩ := ((ih i).mem x).1 hx
      exact ⟨i :: w, by simp, by simpa using hw⟩
  · rintro ⟨w, rfl, hw⟩
    cases w with
    | nil => left; simp at hw; simp [hw]
    | cons i w' =>
      right
      simp at hw
      have hnn : (ch i).isNil = false := by
        cases hc : (ch i).isNil
        · rfl
        · rw [pfx_invalid_of_isNil hc] at hw; cases hw
      refine ⟨_, ⟨_, ⟨i, (mem_kids h i).2 hnn, rfl⟩, rfl⟩, ?_⟩
      exact ((ih i).mem _).2 ⟨w', by simp, hw⟩

end Grol.Trie

namespace Grol.Trie
open Grol.TrieSuite (bytesLt)

theorem sorted_words_node {v : Bool} {mn mx ch} {p : List UInt8}
    (ih : ∀ i, AllSpec (ch i) (p ++ [i]) (allBytes (ch i) (p ++ [i]))) :
    (allBytes (.node v mn mx ch) p).2.Pairwise (fun a b => bytesLt a b = true) := by
  rw [allBytes_node]
  simp only []
  rw [List.pairwise_append]
  refine ⟨by cases v <;> simp, ?_, ?_⟩
  · rw [List.pairwise_flatten]
    constructor
    · intro l hl
      simp only [List.mem_map] at hl
      obtain ⟨r, ⟨i, _, rfl⟩, rfl⟩ := hl
      exact (ih i).sorted
    · rw [List.map_map, List.pairwise_map]
      refine List.Pairwise.imp ?_ (kids_pairwise mn mx ch)
      intro i j hij x hx y hy
      obtain ⟨a, rfl, _⟩ := ((ih i).mem x).1 hx
      obtain ⟨b, rfl, _⟩ := ((ih j).mem y).1 hy
      simpa using bytesLt_diverge p i j a b hij
  · intro a ha b hb
    have ha' : a = p := by cases v <;> simp at ha; exact ha
    subst ha'
    simp only [List.mem_flatten, List.mem_map] at hb
    obtain ⟨l, ⟨r, ⟨i, _, rfl⟩, rfl⟩, hb⟩ := hb
    obtain ⟨w, rfl, _⟩ := ((ih i).mem b).1 hb
    simpa using bytesLt_append_self a (i :: w) (by simp)

end Grol.Trie

namespace Grol.Trie
open Grol.TrieSuite (bytesLt)

theorem take_succ_append_cons (p : List UInt8) (i : UInt8) (a : List UInt8) :
    (p ++ i :: a).take (p.length + 1) = p ++ [i] := by
  induction p with
  | nil => simp
  | cons c cs ih => simpa using ih

theorem lcp_words_node {v : Bool} {mn mx ch} {p : List UInt8} (h : WF (.node v mn mx ch))
    (ih : ∀ i, AllSpec (ch i) (p ++ [i]) (allBytes (ch i) (p ++ [i])))
    (hne : (allBytes (.node v mn mx ch) p).2 ≠ []) :
    IsLCPLen (allBytes (.node v mn mx ch) p).1 (allBytes (.node v mn mx ch) p).2 := by
  have hmem := mem_words_node (p := p) h ih
  -- a word of every non-nil child is listed
  have hkid : ∀ i ∈ kids mn mx ch, ∃ a, p ++ i :: a ∈ (allBytes (.node v mn mx ch) p).2 := by
    intro i hi
    obtain ⟨w, hw⟩ := ((h i).2 ((mem_kids h i).1 hi)).2.2
    exact ⟨w, (hmem _).2 ⟨i :: w, rfl, by simpa using hw⟩⟩
  by_cases hnum : (if v then 1 else 0) + (kids mn mx ch).length > 1
  · -- several words: the common prefix is exactly p
    have h1 : (allBytes (.node v mn mx ch) p).1 = p.length := by rw [allBytes_node]; simp [hnum]
    rw [h1]
    constructor
    · intro x hx y hy
      obtain ⟨a, rfl, _⟩ := (hmem x).1 hx
      obtain ⟨b, rfl, _⟩ := (hmem y).1 hy
      simp
    · intro hc
      cases v
      · -- two distinct children
        simp at hnum
        match hk : kids mn mx ch, hnum with
        | i :: j :: rest, _ =>
          have hij : i < j := by
            have := kids_pairwise mn mx ch; rw [hk] at this
            exact (List.pairwise_cons.1 this).1 j (by simp)
          obtain ⟨a, ha⟩ := hkid i (by simp [hk])
          obtain ⟨b, hb⟩ := hkid j (by simp [hk])
          have := (hc _ ha _ hb).2
          rw [take_succ_append_cons, take_succ_append_cons] at this
          have : i = j := by simpa using this
          subst this; exact absurd hij (by simp)
      · have hp : p ∈ (allBytes (.node true mn mx ch) p).2 := (hmem p).2 ⟨[], by simp, by simp⟩
        have := (hc p hp p hp).1
        omega
  · -- at most one source of words
    cases v
    · simp at hnum
      match hk : kids mn mx ch, hnum with
      | [], _ =>
        exfalso; apply hne; rw [allBytes_node]; simp [hk]
      | [i], _ =>
        have hnn : (ch i).isNil = false := (mem_kids h i).1 (by simp [hk])
        have hge := (ih i).ge hnn
        have e2 : (allBytes (.node false mn mx ch) p).2 = (allBytes (ch i) (p ++ [i])).2 := by
          rw [allBytes_node]; simp [hk]
        have e1 : (allBytes (.node false mn mx ch) p).1 = (allBytes (ch i) (p ++ [i])).1 := by
          rw [allBytes_node]; simp [hk]
          simp at hge; omega
        rw [e1, e2]
        exact (ih i).lcp (by rw [← e2]; exact hne)
    · simp at hnum
      have e2 : (allBytes (.node true mn mx ch) p).2 = [p] := by
        rw [allBytes_node]; simp [hnum]
      have e1 : (allBytes (.node true mn mx ch) p).1 = p.length := by
        rw [allBytes_node]; simp [hnum]
      rw [e1, e2]; exact isLCPLen_singleton p

theorem allBytes_spec (t : T) : ∀ (p : List UInt8), WF t → AllSpec t p (allBytes t p) := by
  induction t with
  | nil => intro p _; exact ⟨by simp [allBytes], by simp [allBytes], by simp [allBytes], by simp [T.isNil]⟩
  | endMarker =>
    intro p _
    refine ⟨?_, by simp [allBytes], ?_, by simp [allBytes]⟩
    · intro x; simp only [allBytes, List.mem_singleton]
      constructor
      · rintro rfl; exact ⟨[], by simp, by simp⟩
      · rintro ⟨w, rfl, hw⟩
        rw [pfx_endMarker] at hw
        by_cases hw' : w = [] <;> simp_all
    · intro _; simpa [allBytes] using isLCPLen_singleton p
  | node v mn mx ch ih =>
    intro p h
    have ih' : ∀ i, AllSpec (ch i) (p ++ [i]) (allBytes (ch i) (p ++ [i])) := fun i => ih i _ (h i).1
    refine ⟨mem_words_node h ih', sorted_words_node ih', lcp_words_node h ih', ?_⟩
    intro _
    rw [allBytes_node]
    by_cases hn : (if v then 1 else 0) + (kids mn mx ch).length > 1
    · simp only [if_pos hn]; exact Nat.le_refl _
    · simp only [if_neg hn]; exact foldl_max_ge _ _


end Grol.Trie
