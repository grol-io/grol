import GrolProofs.LexNext
/-
C16 lemmas: the line bookkeeping of the lexer (`lastNewLine`, `lineNumber`, `hadNewline`,
`hadWhitespace`) as invariants of `next`.
-/
namespace Grol.Lexer
open Grol.Token Grol.Token.TType

def countNL (input : Array UInt8) (p : Nat) : Nat :=
  ((List.range p).filter fun i => peekAt input i == 10).length

theorem countNL_succ (input : Array UInt8) (p : Nat) :
    countNL input (p + 1) = countNL input p + (if peekAt input p == 10 then 1 else 0) := by
  unfold countNL
  rw [List.range_succ, List.filter_append, List.length_append]
  congr 1
  simp only [List.filter_cons, List.filter_nil]
  split <;> rfl

theorem countNL_mono (input : Array UInt8) {p q : Nat} (h : p ≤ q) : countNL input p ≤ countNL input q := by
  induction q with
  | zero => have : p = 0 := by omega
            subst this; exact Nat.le_refl _
  | succ q ih =>
    by_cases hp : p = q + 1
    · subst hp; exact Nat.le_refl _
    · have := ih (by omega)
      rw [countNL_succ]; omega

structure LineInv (s : State) : Prop where
  /-- `lastNewLine` never runs ahead of the position … -/
  le_pos : s.lastNewLine ≤ s.pos
  /-- … nor past the end of the input (so `CurrentLine`'s slice is in range) -/
  le_size : s.lastNewLine ≤ s.input.size
  /-- it is 0 or the position just after a newline byte -/
  after_nl : s.lastNewLine = 0 ∨ peekAt s.input (s.lastNewLine - 1) = 10
  line_ge : 1 ≤ s.lineNumber
  /-- only newlines skipped as whitespace are counted (those inside strings and block comments are not) -/
  line_le : s.lineNumber ≤ 1 + countNL s.input s.pos

theorem LineInv.new (input : Array UInt8) (lineMode : Bool) : LineInv (State.new input lineMode) :=
  ⟨Nat.le_refl _, Nat.zero_le _, Or.inl rfl, Nat.le_refl _, by simp [State.new]⟩

theorem LineInv.advance {s : State} (h : LineInv s) {p : Nat} (hp : s.pos ≤ p) : LineInv { s with pos := p } :=
  ⟨Nat.le_trans h.le_pos hp, h.le_size, h.after_nl, h.line_ge,
    Nat.le_trans h.line_le (Nat.add_le_add_left (countNL_mono s.input hp) 1)⟩

structure SkipFlags (s r : State) : Prop where
  input : r.input = s.input
  ge : s.pos ≤ r.pos
  inv : LineInv s → LineInv r
  ws : r.hadWhitespace = true ↔ (s.hadWhitespace = true ∨ s.pos < r.pos)
  nl : r.hadNewline = true ↔ (s.hadNewline = true ∨ ∃ i, s.pos ≤ i ∧ i < r.pos ∧ peekAt s.input i = 10)

theorem SkipFlags.refl (s : State) : SkipFlags s s :=
  ⟨rfl, Nat.le_refl _, id, by simp, by simp; intro i h1 h2; omega⟩

theorem SkipFlags.trans {s m r : State} (a : SkipFlags s m) (b : SkipFlags m r) : SkipFlags s r := by
  have hge := a.ge
  have hge2 := b.ge
  refine ⟨b.input.trans a.input, Nat.le_trans a.ge b.ge, fun h => b.inv (a.inv h), ?_, ?_⟩
  · rw [b.ws, a.ws]
    constructor
    · rintro ((h | h) | h)
      · exact Or.inl h
      · exact Or.inr (by omega)
      · exact Or.inr (by omega)
    · rintro (h | h)
      · exact Or.inl (Or.inl h)
      · by_cases h' : s.pos < m.pos
        · exact Or.inl (Or.inr h')
        · exact Or.inr (by omega)
  · rw [b.nl, a.nl, a.input]
    constructor
    · rintro ((h | ⟨i, h1, h2, h3⟩) | ⟨i, h1, h2, h3⟩)
      · exact Or.inl h
      · exact Or.inr ⟨i, h1, by omega, h3⟩
      · exact Or.inr ⟨i, by omega, h2, h3⟩
    · rintro (h | ⟨i, h1, h2, h3⟩)
      · exact Or.inl (Or.inl h)
      · by_cases h' : i < m.pos
        · exact Or.inl (Or.inr ⟨i, h1, h', h3⟩)
        · exact Or.inr ⟨i, by omega, h2, h3⟩

theorem stepWs_flags (s : State) (h : isWhiteSpace s.peekChar = true) : SkipFlags s (stepWs s) := by
  have hws : isWhiteSpace (peekAt s.input s.pos) = true := h
  have hlt : s.pos < s.input.size :=
    lt_size_of_peekAt_ne_zero (fun h0 => by rw [h0] at hws; revert hws; decide)
  by_cases hn : (s.peekChar == 10) = true
  · have h10 : peekAt s.input s.pos = 10 := by simpa [State.peekChar] using hn
    have e : stepWs s =
        { s with pos := s.pos + 1, hadWhitespace := true, hadNewline := true, lastNewLine := s.pos + 1, lineNumber := s.lineNumber + 1 } := by
      unfold stepWs; simp only [hn, ↓reduceIte]
    rw [e]
    refine ⟨rfl, by simp, fun hi => ⟨Nat.le_refl _, by simp; omega, Or.inr (by simpa using h10), by simp, ?_⟩,
      by simp, ?_⟩
    · have := hi.line_le
      simp only [countNL_succ, h10]
      simp; omega
    · simp only [true_iff]
      exact Or.inr ⟨s.pos, Nat.le_refl _, by simp, h10⟩
  · have h10 : ¬ peekAt s.input s.pos = 10 := by simpa [State.peekChar] using hn
    have e : stepWs s = { s with pos := s.pos + 1, hadWhitespace := true } := by
      unfold stepWs; simp only [hn, Bool.false_eq_true, ↓reduceIte]
    rw [e]
    refine ⟨rfl, by simp, fun hi => ⟨by have := hi.le_pos; simp; omega, hi.le_size, hi.after_nl, hi.line_ge, ?_⟩,
      by simp, ?_⟩
    · have := hi.line_le
      have := countNL_mono s.input (Nat.le_succ s.pos)
      simp at *; omega
    · simp only
      constructor
      · exact Or.inl
      · rintro (h | ⟨i, h1, h2, h3⟩)
        · exact h
        · have : i = s.pos := by omega
          subst this; exact absurd h3 h10

/-- `skipWhitespace`: the flags say exactly whether bytes / a newline byte were skipped -/
theorem skipWhitespace_flags (s : State) :
    (LineInv s → LineInv (skipWhitespace s))
    ∧ ((skipWhitespace s).hadWhitespace = true ↔ s.pos < (skipWhitespace s).pos)
    ∧ ((skipWhitespace s).hadNewline = true ↔
        ∃ i, s.pos ≤ i ∧ i < (skipWhitespace s).pos ∧ peekAt s.input i = 10) := by
  unfold skipWhitespace
  have r := skipWsLoop_ind (R := SkipFlags) (fun s _ => SkipFlags.refl s) (fun s _ h hr => (stepWs_flags s h).trans hr)
    (s.input.size - s.pos) { s with hadWhitespace := false, hadNewline := false } (by simp; omega)
  refine ⟨fun h => r.inv ⟨h.le_pos, h.le_size, h.after_nl, h.line_ge, h.line_le⟩, ?_, ?_⟩
  · rw [r.ws]; simp
  · rw [r.nl]; simp

end Grol.Lexer
