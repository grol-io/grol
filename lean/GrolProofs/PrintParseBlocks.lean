import GrolProofs.PrintParse
/-
C02, positive half: statement lists, blocks, `return`, function literals, `for`, `if`/`else`, and the
assembly of the round-trip property for every tree of the fragment (`gpx_node`).
-/
set_option linter.unusedVariables false
set_option linter.unusedSimpArgs false
namespace Grol.RT
open Grol Grol.Wire Grol.Generated Grol.Parser Grol.Printer Grol.PrintTokens
variable {s : TokStream} {c ap : Bool}

/-- one statement as `stmtsToks` renders it -/
def stmtToks1 (c ap inBlock first : Bool) (n : Node) : List Tok :=
  match n with
  | .ret t v => tk t (!first || (inBlock && !c)) :: exprToksO c ap prioLOWEST true v
  | n =>
    if c && !first && startsAmbiguous (exprToks c ap prioLOWEST (!first || (inBlock && !c)) n) then
      lparen true :: exprToks c ap prioLOWEST false n ++ [rparen]
    else exprToks c ap prioLOWEST (!first || (inBlock && !c)) n

theorem stmtsToks_cons (ib first : Bool) (n : Node) (rest : NList) :
    stmtsToks c ap ib first (some n :: rest) = stmtToks1 c ap ib first n ++ stmtsToks c ap ib false rest := by
  cases n <;> rfl

/-- the condition `fragS` puts on one statement -/
def fragStmt (c ap inBlock first : Bool) (n : Node) (rest : NList) : Bool :=
  match n with
  | .ret t v => t.type == .RETURN && (match v with | none => rest.isEmpty | some v => fragN c ap v)
  | n => fragN c ap n && (c || first || !startsAmbiguous (exprToks c ap prioLOWEST (!first || (inBlock && !c)) n))

theorem fragS_cons (ib first : Bool) (n : Node) (rest : NList) :
    fragS c ap ib first (some n :: rest) = (fragStmt c ap ib first n rest && fragS c ap ib false rest) := by
  cases n with
  | ret t v => cases v <;> simp only [fragS, fragStmt]
  | _ => simp only [fragS, fragStmt]

def isRet : Node → Bool
  | .ret .. => true
  | _ => false

def NotRet (n : Node) : Prop := isRet n = false

theorem isRet_elim {n : Node} (h : isRet n = true) : ∃ t v, n = .ret t v := by
  cases n <;> first | exact ⟨_, _, rfl⟩ | simp [isRet] at h

theorem stmtToks1_expr {n : Node} (h : NotRet n) (ib first : Bool) :
    stmtToks1 c ap ib first n =
      if c && !first && startsAmbiguous (exprToks c ap prioLOWEST (!first || (ib && !c)) n) then
        lparen true :: exprToks c ap prioLOWEST false n ++ [rparen]
      else exprToks c ap prioLOWEST (!first || (ib && !c)) n := by
  cases n <;> first | rfl | simp [NotRet, isRet] at h

theorem fragStmt_expr {n : Node} (h : NotRet n) (ib first : Bool) (rest : NList) :
    fragStmt c ap ib first n rest =
      (fragN c ap n && (c || first || !startsAmbiguous (exprToks c ap prioLOWEST (!first || (ib && !c)) n))) := by
  cases n <;> first | rfl | simp [NotRet, isRet] at h

/-- what the induction provides for one statement -/
def StmtP (s : TokStream) (c ap : Bool) (n : Node) : Prop :=
  (∀ t v, n = .ret t (some v) → GP s c ap v) ∧ (NotRet n → GP s c ap n)

/-- the first token of a statement -/
def startTyS (t : TokType) : Bool := startTy t || t == .RETURN

theorem startTyS_facts : ∀ t : TokType, startTyS t = true →
    t ≠ .RBRACE ∧ t ≠ .EOF ∧ t ≠ .EOL ∧ t ≠ .SEMICOLON ∧ t ≠ .LAMBDA ∧ t ≠ .ELSE :=
  TokType.forall_of_all (by decide +kernel)

theorem startTyS_stop : ∀ t : TokType, startTyS t = true → ambiguousOp t = false →
    t ≠ .INCR ∧ t ≠ .DECR ∧ ((precOf t ≤ 1 ∧ t ≠ .ELSE) ∨ t = .LPAREN ∨ t = .LBRACKET) :=
  TokType.forall_of_all (by decide +kernel)

theorem stmtToks1_head {n : Node} {rest : NList} (ib first : Bool) (hf : fragStmt c ap ib first n rest = true) :
    ∃ x r, stmtToks1 c ap ib first n = x :: r ∧ startTyS x.type = true ∧
      (first = false → (isOpener x.type → x.hadWs = true) ∧ ambiguousOp x.type = false) := by
  cases hr : isRet n
  · rw [fragStmt_expr hr] at hf
    simp only [Bool.and_eq_true, Bool.or_eq_true, Bool.not_eq_true'] at hf
    rw [stmtToks1_expr hr]
    by_cases hc : (c && !first && startsAmbiguous (exprToks c ap prioLOWEST (!first || (ib && !c)) n)) = true
    · rw [if_pos hc]
      exact ⟨lparen true, _, rfl, by decide, fun _ => ⟨fun _ => rfl, by decide⟩⟩
    · rw [if_neg hc]
      obtain ⟨x, r, hx, h1, h2⟩ := head_node n hf.1 prioLOWEST (!first || (ib && !c))
      refine ⟨x, r, hx, by simp [startTyS, h1], fun hfirst => ?_⟩
      subst hfirst
      simp only [Bool.not_false, Bool.true_or, Bool.and_true] at hc h2 hx hf
      refine ⟨h2, ?_⟩
      have : startsAmbiguous (exprToks c ap prioLOWEST true n) = false := by
        cases c with
        | true => simpa using hc
        | false => rcases hf.2 with h | h
                   · exact absurd h (by simp)
                   · exact h
      rw [hx] at this
      simpa [startsAmbiguous] using this
  · obtain ⟨t, v, rfl⟩ := isRet_elim hr
    simp only [fragStmt, Bool.and_eq_true, beq_iff_eq] at hf
    refine ⟨tk t (!first || (ib && !c)), _, rfl, by simp [tk, hf.1, startTyS], fun hfirst => ?_⟩
    subst hfirst
    exact ⟨fun _ => by simp [tk], by simp [tk, hf.1]; decide⟩

/-- one statement of a statement list, parsed by `parseStatement` -/
theorem stmt1_parse {n : Node} {rest : NList} (ib first : Bool) (hf : fragStmt c ap ib first n rest = true) (hp : StmtP s c ap n)
    (i j : Nat) (hseg : Seg s i (stmtToks1 c ap ib first n)) (hj : j + 1 = i + (stmtToks1 c ap ib first n).length)
    (hstop : Stop prioLOWEST (s.get (j + 1))) (hsemi : (s.get (j + 1)).type ≠ .SEMICOLON)
    (hlast : rest = [] → (s.get (j + 1)).type = .RBRACE ∨ (s.get (j + 1)).type = .EOF) :
    Ev (fun f => parseStatement s f (stAt s i) = .ok (some n, stAt s j)) := by
  cases hr : isRet n
  · -- an expression statement
    have hgp := hp.2 hr
    rw [fragStmt_expr hr] at hf
    simp only [Bool.and_eq_true] at hf
    obtain ⟨x, r, hx, hstart, _⟩ := stmtToks1_head (rest := rest) ib first (by rw [fragStmt_expr hr]; simpa using hf)
    have hcur : startTyS (s.get i).type = true := by
      rw [hx, Seg_cons] at hseg; rw [seg_type hseg.1]; exact hstart
    have hnr : (s.get i).type ≠ .RETURN := by
      intro h
      rw [stmtToks1_expr hr] at hseg
      by_cases hc : (c && !first && startsAmbiguous (exprToks c ap prioLOWEST (!first || (ib && !c)) n)) = true
      · rw [if_pos hc, List.cons_append, Seg_cons] at hseg
        have := seg_type hseg.1; rw [h] at this; cases this
      · rw [if_neg hc] at hseg
        have := (head_node n hf.1 prioLOWEST (!first || (ib && !c))).seg_start hseg
        rw [h] at this; exact absurd this (by decide)
    have hE : Ev (fun f => parseExpression s f prioLOWEST (stAt s i) = .ok (some n, stAt s j)) := by
      rw [stmtToks1_expr hr] at hseg hj
      by_cases hc : (c && !first && startsAmbiguous (exprToks c ap prioLOWEST (!first || (ib && !c)) n)) = true
      · rw [if_pos hc] at hseg hj
        simp only [List.cons_append, List.length_cons, List.length_append, List.length_nil] at hj
        refine grp_seg hseg (by omega) hstop.1 (fun j' res' _ hb hcl => ?_) (ev_loop_stop hstop)
        exact hgp false prioLOWEST prioLOWEST (i + 1) j' res' (Compat_low (Nat.le_refl _)) hb (by omega)
          (stop_rparen hcl (Nat.le_refl _))
      · rw [if_neg hc] at hseg hj
        exact hgp _ prioLOWEST prioLOWEST i j _ (Compat_low (Nat.le_refl _)) hseg hj hstop (ev_loop_stop hstop)
    refine Ev.step 0 1 (fun F _ ha f hf' => ?_) hE
    exact parseStatement_ok (by simp only [stAt_cur]; exact hnr) (ha f hf') (by simp only [stAt_peek]; exact hsemi)
  · obtain ⟨t, v, rfl⟩ := isRet_elim hr
    simp only [fragStmt, Bool.and_eq_true, beq_iff_eq] at hf
    simp only [stmtToks1, Seg_cons, List.length_cons] at hseg hj
    have hty : (s.get i).type = .RETURN := by rw [seg_type hseg.1]; exact hf.1
    cases v with
    | none =>
      simp only [exprToksO, List.length_nil, Seg_nil] at hseg hj
      obtain rfl : j = i := by omega
      have hl := hlast (by simpa using hf.2)
      refine ⟨2, fun f hf' => ?_⟩
      obtain ⟨g, rfl⟩ : ∃ g, f = g + 2 := ⟨f - 2, by omega⟩
      rw [parseStatement_ret (by simpa using hty), parseReturnStatement_bare (by
        simp only [stAt_peek]; rcases hl with h | h
        · exact Or.inr (Or.inl h)
        · exact Or.inr (Or.inr (Or.inl h))), stAt_cur, seg_tk hseg.1]
    | some v =>
      simp only [exprToksO] at hseg hj
      have hgv := hp.1 t v rfl
      have hstart := (head_node v hf.2 prioLOWEST true).seg_start hseg.2
      have hsf := startTy_facts _ hstart
      have hE := hgv true prioLOWEST prioLOWEST (i + 1) j (some v, stAt s j) (Compat_low (Nat.le_refl _)) hseg.2 (by omega) hstop
        (ev_loop_stop hstop)
      refine Ev.step 0 2 (fun F _ ha f hf' => ?_) hE
      rw [parseStatement_ret (by simpa using hty), parseReturnStatement_value (st1 := stAt s j) (v := some v)
        (by simp only [stAt_peek]; exact ⟨hsf.2.2.2.2.2.2.1, hsf.2.2.2.2.2.2.2.2, hsf.2.2.2.1, hsf.2.2.2.2.1⟩)
        (by simp only [advance_stAt]; exact ha f hf') (by simp only [stAt_peek]; exact hsemi), stAt_cur, seg_tk hseg.1]

/-- the token after a statement: the closing token of the list, or the first token of a statement that does not continue the previous one -/
def FollowOK (endTok y : Tok) : Prop :=
  y = endTok ∨ (startTyS y.type = true ∧ (isOpener y.type → y.hadWs = true) ∧ ambiguousOp y.type = false)

theorem followOK_stop {endTok y : Tok} {j : Nat} (hend : endTok = eofTok ∨ endTok = rbrace) (hy : FollowOK endTok y)
    (h : key (s.get j) = key y) : Stop prioLOWEST (s.get j) ∧ (s.get j).type ≠ .SEMICOLON := by
  have hty := seg_type h
  rcases hy with rfl | ⟨h1, h2, h3⟩
  · have : (s.get j).type = .EOF ∨ (s.get j).type = .RBRACE := by
      rcases hend with rfl | rfl
      · exact Or.inl hty
      · exact Or.inr hty
    rcases this with this | this <;> exact ⟨Stop.of_type this (by decide), by rw [this]; decide⟩
  · have hs := startTyS_stop _ h1 h3
    have hf := startTyS_facts _ h1
    rw [← hty] at hs hf h1
    refine ⟨⟨hf.2.2.2.2.1, hs.1, hs.2.1, ?_⟩, hf.2.2.2.1⟩
    rcases hs.2.2 with hp | hp | hp
    · exact Or.inl hp
    · exact Or.inr ⟨Or.inl hp, by rw [key_ws h (Or.inl (by rw [← hty]; exact hp))]; exact h2 (Or.inl (by rw [← hty]; exact hp))⟩
    · exact Or.inr ⟨Or.inr hp, by rw [key_ws h (Or.inr (by rw [← hty]; exact hp))]; exact h2 (Or.inr (by rw [← hty]; exact hp))⟩

/-- what follows a statement in the rendering of a statement list -/
theorem stmts_follow (endTok : Tok) (ib : Bool) : ∀ (more : NList), fragS c ap ib false more = true →
    ∃ y rest, stmtsToks c ap ib false more ++ [endTok] = y :: rest ∧ FollowOK endTok y
  | [], _ => ⟨endTok, [], rfl, Or.inl rfl⟩
  | none :: _, h => by simp [fragS] at h
  | some n :: more, h => by
    rw [fragS_cons, Bool.and_eq_true] at h
    obtain ⟨x, r, hx, h1, h2⟩ := stmtToks1_head ib false h.1
    exact ⟨x, r ++ (stmtsToks c ap ib false more ++ [endTok]), by rw [stmtsToks_cons, hx]; simp, Or.inr ⟨h1, (h2 rfl).1, (h2 rfl).2⟩⟩

def SPL (s : TokStream) (c ap : Bool) (l : NList) : Prop := ∀ x ∈ l, ∃ n, x = some n ∧ StmtP s c ap n

theorem SPL.head {x : ONode} {xs : NList} (h : SPL s c ap (x :: xs)) : ∃ n, x = some n ∧ StmtP s c ap n :=
  h x (List.mem_cons_self ..)
theorem SPL.tail {x : ONode} {xs : NList} (h : SPL s c ap (x :: xs)) : SPL s c ap xs :=
  fun y hy => h y (List.mem_cons_of_mem _ hy)

/-- one step of a statement loop: the first statement is parsed, the rest of the list follows -/
theorem stmts_step {endTok : Tok} (hend : endTok = eofTok ∨ endTok = rbrace) {n : Node} {rest : NList} {ib first : Bool} {i : Nat}
    (hf : fragS c ap ib first (some n :: rest) = true) (hp : StmtP s c ap n)
    (hseg : Seg s i (stmtsToks c ap ib first (some n :: rest) ++ [endTok])) :
    ∃ j, j + 1 = i + (stmtToks1 c ap ib first n).length ∧
      Ev (fun f => parseStatement s f (stAt s i) = .ok (some n, stAt s j)) ∧
      Seg s (j + 1) (stmtsToks c ap ib false rest ++ [endTok]) ∧ startTyS (s.get i).type = true := by
  rw [fragS_cons, Bool.and_eq_true] at hf
  rw [stmtsToks_cons, List.append_assoc, Seg_append] at hseg
  obtain ⟨x, r, hx, hstart, _⟩ := stmtToks1_head ib first hf.1
  have hpos : 1 ≤ (stmtToks1 c ap ib first n).length := by rw [hx]; simp
  obtain ⟨j, hj⟩ : ∃ j, j + 1 = i + (stmtToks1 c ap ib first n).length := ⟨i + (stmtToks1 c ap ib first n).length - 1, by omega⟩
  rw [← hj] at hseg
  obtain ⟨y, rest', hy, hok⟩ := stmts_follow endTok ib rest hf.2
  have hfol : key (s.get (j + 1)) = key y := by have := hseg.2; rw [hy, Seg_cons] at this; exact this.1
  have hst := followOK_stop hend hok hfol
  have hlast : rest = [] → (s.get (j + 1)).type = .RBRACE ∨ (s.get (j + 1)).type = .EOF := by
    intro hr; subst hr
    simp only [stmtsToks, List.nil_append, List.cons.injEq] at hy
    rw [seg_type hfol, ← hy.1]
    rcases hend with rfl | rfl
    · exact Or.inr rfl
    · exact Or.inl rfl
  refine ⟨j, hj, stmt1_parse ib first hf.1 hp i j hseg.1 hj hst.1 hst.2 hlast, hseg.2, ?_⟩
  have := hseg.1; rw [hx, Seg_cons] at this; rw [seg_type this.1]; exact hstart

/-- a statement loop `L` (of a block, of the program): at the closing token it returns `wrap acc`, otherwise it parses one
statement and goes on behind it -/
theorem stmts_loop {α : Type} {L : Nat → NList → PState → Res (α × PState)} {wrap : NList → α} {endTok : Tok} {ib : Bool}
    (hend : endTok = eofTok ∨ endTok = rbrace)
    (hstop : ∀ f acc i, key (s.get i) = key endTok → L (f + 1) acc (stAt s i) = .ok (wrap acc, stAt s i))
    (hstep : ∀ f acc i j n, startTyS (s.get i).type = true → parseStatement s f (stAt s i) = .ok (some n, stAt s j) →
      L (f + 1) acc (stAt s i) = L f (acc ++ [some n]) (stAt s (j + 1))) :
    ∀ (l acc : NList) (first : Bool) (i : Nat), fragS c ap ib first l = true → SPL s c ap l →
      Seg s i (stmtsToks c ap ib first l ++ [endTok]) →
      Ev (fun f => L f acc (stAt s i) = .ok (wrap (acc ++ l), stAt s (i + (stmtsToks c ap ib first l).length)))
  | [], acc, first, i, _, _, hseg => by
    simp only [stmtsToks, List.nil_append, Seg_cons, Seg_nil, and_true, List.length_nil, Nat.add_zero, List.append_nil] at hseg ⊢
    exact Ev.after 1 fun f => hstop f acc i hseg
  | none :: _, _, _, _, h, _, _ => by simp [fragS] at h
  | some n :: rest, acc, first, i, h, hp, hseg => by
    obtain ⟨n', hn', hpn⟩ := hp.head
    cases hn'
    obtain ⟨j, hj, h1, hseg', hstart⟩ := stmts_step hend h hpn hseg
    rw [fragS_cons, Bool.and_eq_true] at h
    have h2 := stmts_loop hend hstop hstep rest (acc ++ [some n]) false (j + 1) h.2 hp.tail hseg'
    refine Ev.step2 0 1 (fun F _ ha hb f hf => ?_) h1 h2
    rw [hstep f acc i j n hstart (ha f hf), hb f hf, List.append_assoc, stmtsToks_cons, List.length_append,
      show j + 1 + (stmtsToks c ap ib false rest).length =
        i + ((stmtToks1 c ap ib first n).length + (stmtsToks c ap ib false rest).length) by omega]
    rfl

/-- a block `{ … }` from the `{` at `i` to the `}` -/
theorem block_parse (l : NList) (i : Nat) (hf : fragS c ap true true l = true) (hp : SPL s c ap l)
    (hseg : Seg s i (lbrace :: stmtsToks c ap true true l ++ [rbrace])) :
    Ev (fun f => parseBlockStatement s f (stAt s i) = .ok (some l, stAt s (i + 1 + (stmtsToks c ap true true l).length))) := by
  rw [List.cons_append, Seg_cons] at hseg
  have h := stmts_loop (L := parseBlockLoop s) (wrap := some) (Or.inr rfl) (fun f acc i hk => parseBlockLoop_stop (seg_type hk))
    (fun f acc i j n hst hp => by
      have hsf := startTyS_facts _ hst
      rw [parseBlockLoop_step hsf.1 hsf.2.1 hsf.2.2.1 hp, advance_stAt]) l [] true (i + 1) hf hp hseg.2
  refine Ev.step 0 1 (fun F _ ha f hf' => ?_) h
  rw [parseBlockStatement_eq, advance_stAt, ha f hf']
  rfl

/-- the rest of a parameter list, from the last token of the previous parameter at `k` to the last parameter token at `j` -/
theorem params_loop (q : Nat) : ∀ (rest acc : NList) (k j : Nat), (∀ x ∈ rest, isParam x = true) →
    Seg s (k + 1) (listToks c ap q true rest ++ [rparen]) → j = k + (listToks c ap q true rest).length →
    Ev (fun f => parseFunctionParametersLoop s f acc (stAt s k) = .ok (acc ++ rest, stAt s j))
  | [], acc, k, j, _, hseg, hj => by
    simp only [listToks, List.nil_append, Seg_cons, Seg_nil, and_true, List.length_nil, Nat.add_zero] at hseg hj
    subst hj
    refine Ev.after 1 fun f => ?_
    rw [parseFunctionParametersLoop_stop (by simp only [stAt_peek, seg_type hseg]; decide), List.append_nil]
  | x :: rest, acc, k, j, hall, hseg, hj => by
    obtain ⟨t, rfl, ht⟩ := isParam_elim (hall x (List.mem_cons_self ..))
    simp only [listToks, if_true, exprToksO, exprToks, Bool.true_and, List.cons_append, List.nil_append, List.append_assoc, Seg_cons,
      List.length_cons, List.length_append, List.length_nil] at hseg hj
    have ih := params_loop q rest (acc ++ [some (.ident t)]) (k + 2) j (fun y hy => hall y (List.mem_cons_of_mem _ hy)) hseg.2.2 (by omega)
    refine Ev.step 0 1 (fun F _ ha f hf => ?_) ih
    rw [parseFunctionParametersLoop_step (seg_type hseg.1), advance_stAt, advance_stAt, stAt_cur, seg_tk hseg.2.1, ha f hf,
      List.append_assoc]
    rfl

/-- the parameter lists `okParamList` accepts: identifiers, the last one may be `..` (exactly then the list is variadic) -/
theorem lambdaParamsOK_elim {variadic : Bool} {params : NList} (h : lambdaParamsOK variadic params = true) :
    (∀ x ∈ params, isParam x = true) ∧ ∃ t, okParamList params = some (t, true) ∧ t.isSome = variadic := by
  simp only [lambdaParamsOK, Bool.and_eq_true, List.all_eq_true] at h
  refine ⟨h.1, ?_⟩
  have h2 := h.2
  cases hk : okParamList params with
  | none => rw [hk] at h2; cases h2
  | some r =>
    obtain ⟨t, b⟩ := r
    rw [hk] at h2
    cases b with
    | false => cases h2
    | true => exact ⟨t, rfl, by simpa using h2⟩

/-- `parseFunctionParameters` from the `(` at `k` to the `)` at `j` -/
theorem params_parse (q : Nat) (params : NList) (variadic : Bool) (k j : Nat) (hok : paramsOK variadic params = true)
    (hseg : Seg s (k + 1) (listToks c ap q false params ++ [rparen])) (hj : j = k + 1 + (listToks c ap q false params).length) :
    Ev (fun f => parseFunctionParameters s f (stAt s k) = .ok ((params, variadic), stAt s j)) := by
  obtain ⟨hall, tk, hk, hv⟩ := lambdaParamsOK_elim hok
  cases params with
  | nil =>
    simp only [listToks, List.nil_append, Seg_cons, Seg_nil, and_true, List.length_nil, Nat.add_zero] at hseg hj
    subst hj
    simp only [okParamList, Option.some.injEq, Prod.mk.injEq, and_true] at hk
    subst hk
    refine Ev.after 0 fun f => ?_
    rw [parseFunctionParameters_empty (seg_type hseg), advance_stAt, ← hv]
    rfl
  | cons x rest =>
    obtain ⟨t, rfl, ht⟩ := isParam_elim (hall _ (List.mem_cons_self ..))
    simp only [listToks, Bool.false_eq_true, if_false, exprToksO, exprToks, Bool.false_and, List.nil_append, List.cons_append,
      List.append_assoc, Seg_cons, List.length_cons, List.length_append, List.length_nil] at hseg hj
    have htk : (s.get (k + 1)).tk = t := seg_tk hseg.1
    have hty : (s.get (k + 1)).type = t.type := seg_type hseg.1
    obtain ⟨j', rfl⟩ : ∃ j', j = j' + 1 := ⟨j - 1, by omega⟩
    have ih := params_loop (s := s) q rest [some (.ident t)] (k + 1) j' (fun y hy => hall y (List.mem_cons_of_mem _ hy)) hseg.2 (by omega)
    have hclose := seg_type (Seg_last hseg.2).2
    rw [show k + 1 + 1 + (listToks c ap q true rest).length = j' + 1 by omega] at hclose
    refine ih.mono fun f ha => ?_
    rw [parseFunctionParameters_ok (st1 := stAt s j') (ids := [some (.ident t)] ++ rest) (t := tk)
      (by simp only [stAt_peek, hty]; rcases ht with h | h <;> rw [h] <;> decide)
      (by simp only [stAt_peek, htk, advance_stAt]; exact ha) hclose hk, advance_stAt, hv]
    rfl

/-- a parameter list and a body: from the `(` at `k`, `parseFunctionParameters` ends at the `)` at `kr`, and
`parseBlockStatement`, from the `{` behind it, at the `}` -/
theorem params_block {params l : NList} {variadic : Bool} (q k : Nat) (hpar : paramsOK variadic params = true)
    (hfl : fragS c ap true true l = true) (hpl : SPL s c ap l)
    (hseg : Seg s (k + 1) (listToks c ap q false params ++ rparen :: lbrace :: (stmtsToks c ap true true l ++ [rbrace]))) :
    ∃ kr, kr = k + 1 + (listToks c ap q false params).length ∧ (s.get (kr + 1)).type = .LBRACE ∧
      Ev (fun f => parseFunctionParameters s f (stAt s k) = .ok ((params, variadic), stAt s kr) ∧
        parseBlockStatement s f (stAt s (kr + 1)) = .ok (some l, stAt s (kr + 1 + 1 + (stmtsToks c ap true true l).length))) := by
  rw [show listToks c ap q false params ++ rparen :: lbrace :: (stmtsToks c ap true true l ++ [rbrace])
      = (listToks c ap q false params ++ [rparen]) ++ (lbrace :: stmtsToks c ap true true l ++ [rbrace]) by simp, Seg_append] at hseg
  have hsegb : Seg s (k + 1 + (listToks c ap q false params).length + 1) (lbrace :: stmtsToks c ap true true l ++ [rbrace]) := by
    have := hseg.2
    rwa [List.length_append, List.length_cons, List.length_nil, ← Nat.add_assoc] at this
  exact ⟨_, rfl, seg_type hsegb.1, (params_parse q params variadic k _ hpar hseg.1 rfl).and (block_parse l _ hfl hpl hsegb)⟩

theorem gp_func {t : Tk} {name : Option Tk} {params l : NList} {variadic : Bool} (ht : t.type = .FUNC)
    (hname : ∀ nm, name = some nm → nm.type = .IDENT) (hpar : paramsOK variadic params = true)
    (hfl : fragS c ap true true l = true) (hpl : SPL s c ap l) : GP s c ap (.func t name params (some l) variadic false) := by
  intro ws q P i j res hc hseg hj hstop
  simp only [exprToks, Bool.false_eq_true, if_false, blockToks, List.cons_append, List.append_assoc, List.length_cons,
    List.length_append, List.length_nil] at hseg hj
  rw [Seg_cons] at hseg
  have hty : (s.get i).type = .FUNC := by rw [seg_type hseg.1]; exact ht
  cases name with
  | none =>
    simp only [List.nil_append, List.length_nil, Seg_cons] at hseg hj
    obtain ⟨kr, hkr, hlb, hev⟩ := params_block q (i + 1) hpar hfl hpl hseg.2.2
    rw [show kr + 1 + 1 + (stmtsToks c ap true true l).length = j by omega] at hev
    refine pE_prefix (fn := .parseFunctionLiteral) hty (by decide) hstop.1 (Ev.step 0 2 (fun F _ ha f hf' => ?_) hev)
    rw [pd_func, parseFunctionLiteral_anon (st1 := stAt s kr) (seg_type hseg.2.1) (by simp only [advance_stAt]; exact (ha f hf').1) hlb
      (by simp only [advance_stAt]; exact (ha f hf').2) rfl, stAt_cur, seg_tk hseg.1]
  | some nm =>
    simp only [List.cons_append, List.nil_append, List.length_cons, List.length_nil, Seg_cons] at hseg hj
    obtain ⟨kr, hkr, hlb, hev⟩ := params_block q (i + 1 + 1) hpar hfl hpl hseg.2.2.2
    rw [show kr + 1 + 1 + (stmtsToks c ap true true l).length = j by omega] at hev
    refine pE_prefix (fn := .parseFunctionLiteral) hty (by decide) hstop.1 (Ev.step 0 2 (fun F _ ha f hf' => ?_) hev)
    rw [pd_func, parseFunctionLiteral_named (st1 := stAt s kr) ((seg_type hseg.2.1).trans (hname nm rfl))
      (by simp only [advance_stAt, stAt_peek]; exact seg_type hseg.2.2.1) (by simp only [advance_stAt]; exact (ha f hf').1) hlb
      (by simp only [advance_stAt]; exact (ha f hf').2) rfl, stAt_cur, stAt_peek, seg_tk hseg.1, seg_tk hseg.2.1]

theorem paramsOK_of_macro {params : NList} (h : macroParamsOK params = true) : ∃ v, paramsOK v params = true := by
  simp only [macroParamsOK, Bool.and_eq_true] at h
  cases hk : okParamList params with
  | none => rw [hk] at h; exact absurd h.2 (by simp)
  | some r =>
    obtain ⟨t, b⟩ := r
    rw [hk] at h
    cases b with
    | false => exact absurd h.2 (by simp)
    | true => exact ⟨t.isSome, by simp [paramsOK, lambdaParamsOK, h.1, hk]⟩

theorem gp_macro {t : Tk} {params l : NList} (ht : t.type = .MACRO) (hpar : macroParamsOK params = true)
    (hfl : fragS c ap true true l = true) (hpl : SPL s c ap l) : GP s c ap (.macroLit t params (some l)) := by
  intro ws q P i j res hc hseg hj hstop
  simp only [exprToks, blockToks, List.cons_append, List.append_assoc, List.length_cons, List.length_append, List.length_nil] at hseg hj
  rw [Seg_cons, Seg_cons] at hseg
  obtain ⟨vv, hvv⟩ := paramsOK_of_macro hpar
  obtain ⟨kr, hkr, hlb, hev⟩ := params_block q (i + 1) hvv hfl hpl hseg.2.2
  rw [show kr + 1 + 1 + (stmtsToks c ap true true l).length = j by omega] at hev
  refine pE_prefix (fn := .parseMacroLiteral) ((seg_type hseg.1).trans ht) (by decide) hstop.1 (Ev.step 0 2 (fun F _ ha f hf' => ?_) hev)
  rw [pd_macro, parseMacroLiteral_ok (st1 := stAt s kr) (seg_type hseg.2.1) (by simp only [advance_stAt]; exact (ha f hf').1) hlb
    (by simp only [advance_stAt]; exact (ha f hf').2) rfl, stAt_cur, seg_tk hseg.1]

def colonTk : Tk := ⟨.COLON, [58]⟩

/-- the key/value pairs of a map literal: nodes of the fragment with the round-trip property -/
def MPL (s : TokStream) (c ap : Bool) : NList → Prop
  | [] => True
  | some k :: some v :: rest => fragN c ap k = true ∧ fragN c ap v = true ∧ GP s c ap k ∧ GP s c ap v ∧ MPL s c ap rest
  | _ => False

/-- what remains of the pairs after the `{` or a `,`; `w`: whitespace in front of the first key -/
def pairsRem (c ap : Bool) : Bool → NList → List Tok
  | w, k :: v :: rest =>
    exprToksO c ap 4 w k ++ tk colonTk false :: exprToksO c ap 5 false v ++
      (if rest.isEmpty then [] else comma :: pairsRem c ap (!c) rest)
  | _, _ => []

theorem pairsToks_true : ∀ (kvs : NList), MPL s c ap kvs →
    pairsToks c ap true kvs = (if kvs.isEmpty then [] else comma :: pairsRem c ap (!c) kvs) ∧
    pairsToks c ap false kvs = pairsRem c ap false kvs
  | [], _ => ⟨rfl, rfl⟩
  | [_], h => by cases ‹Option Node› <;> exact absurd h (by simp [MPL])
  | some k :: some v :: rest, h => by
    have ih := pairsToks_true rest h.2.2.2.2
    have e4 : precOf TokType.COLON = 4 := by decide
    constructor
    · simp only [pairsToks, pairsRem, ih.1, if_true, Bool.true_and, List.isEmpty_cons, Bool.false_eq_true, if_false, e4, List.cons_append,
        List.nil_append]
      rfl
    · simp only [pairsToks, pairsRem, ih.1, Bool.false_eq_true, if_false, Bool.false_and, e4, List.nil_append]
      rfl
  | none :: _ :: _, h => absurd h (by simp [MPL])
  | some _ :: none :: _, h => absurd h (by simp [MPL])

/-- one `key: value` pair, parsed as the binary expression `key : value` -/
theorem map_pair {k v : Node} (hk : GP s c ap k) (hv : GP s c ap v) (hfk : fragN c ap k = true) (hfv : fragN c ap v = true)
    (w : Bool) (i j : Nat)
    (hseg : Seg s i (exprToks c ap 4 w k ++ tk colonTk false :: exprToks c ap 5 false v))
    (hj : j + 1 = i + (exprToks c ap 4 w k).length + 1 + (exprToks c ap 5 false v).length)
    (hstop : Stop prioLOWEST (s.get (j + 1))) :
    Ev (fun f => parseExpression s f prioLOWEST (stAt s i) = .ok (some (.infix colonTk (some k) (some v)), stAt s j)) :=
  infix_body (t := colonTk) hk hv hfk hfv (by decide) w false false prioLOWEST prioLOWEST i j _ (by decide) (Compat_low (Nat.le_refl _))
    hseg hj hstop (ev_loop_stop hstop)

/-- the loop of `parseMapLiteral`, from the `{` or `,` at `k` -/
theorem map_loop (tok : Tk) : ∀ (kvs acc : NList) (w : Bool) (k : Nat), MPL s c ap kvs →
    Seg s (k + 1) (pairsRem c ap w kvs ++ [rbrace]) →
    Ev (fun f => parseMapLoop s f tok acc (stAt s k) =
      .ok (some (.mapLit tok (acc ++ kvs)), stAt s (k + 1 + (pairsRem c ap w kvs).length)))
  | [], acc, w, k, _, hseg => by
    simp only [pairsRem, List.nil_append, Seg_cons, Seg_nil, and_true, List.length_nil, Nat.add_zero, List.append_nil] at hseg ⊢
    have hty : (s.get (k + 1)).type = .RBRACE := seg_type hseg
    refine ⟨1, fun f hf => ?_⟩
    obtain ⟨g, rfl⟩ : ∃ g, f = g + 1 := ⟨f - 1, by omega⟩
    rw [parseMapLoop_close (by simp only [stAt_peek]; exact hty), advance_stAt]
  | [_], _, _, _, h, _ => by cases ‹Option Node› <;> exact absurd h (by simp [MPL])
  | none :: _ :: _, _, _, _, h, _ => absurd h (by simp [MPL])
  | some _ :: none :: _, _, _, _, h, _ => absurd h (by simp [MPL])
  | some kn :: some vn :: rest, acc, w, k, h, hseg => by
    obtain ⟨hfk, hfv, hk, hv, hrest⟩ := h
    simp only [pairsRem, exprToksO, List.append_assoc, List.cons_append, List.length_append, List.length_cons] at hseg ⊢
    have hK := (head_node kn hfk 4 w).length_pos
    have hV := (head_node vn hfv 5 false).length_pos
    have hstartK : startTy (s.get (k + 1)).type = true := by
      rw [Seg_append] at hseg; exact (head_node kn hfk 4 w).seg_start hseg.1
    obtain ⟨jv, hjv⟩ : ∃ jv, jv + 1 = k + 1 + (exprToks c ap 4 w kn).length + 1 + (exprToks c ap 5 false vn).length :=
      ⟨k + (exprToks c ap 4 w kn).length + 1 + (exprToks c ap 5 false vn).length, by omega⟩
    have hsplit : Seg s (k + 1) ((exprToks c ap 4 w kn ++ tk colonTk false :: exprToks c ap 5 false vn) ++
        ((if rest.isEmpty then [] else comma :: pairsRem c ap (!c) rest) ++ [rbrace])) := by simpa using hseg
    rw [Seg_append] at hsplit
    simp only [List.length_append, List.length_cons] at hsplit
    have hnext : Seg s (jv + 1) ((if rest.isEmpty then [] else comma :: pairsRem c ap (!c) rest) ++ [rbrace]) := by
      have := hsplit.2
      rwa [show k + 1 + ((exprToks c ap 4 w kn).length + ((exprToks c ap 5 false vn).length + 1)) = jv + 1 by omega] at this
    cases rest with
    | nil =>
      simp only [List.isEmpty_nil, if_true, List.nil_append, Seg_cons, Seg_nil, and_true, List.length_nil, Nat.add_zero] at hnext ⊢
      have hrb : (s.get (jv + 1)).type = .RBRACE := seg_type hnext
      have hp := map_pair hk hv hfk hfv w (k + 1) jv hsplit.1 (by omega) (Stop.of_type hrb (by decide))
      refine Ev.step 1 2 (fun F hF1 ha f hf => ?_) hp
      rw [parseMapLoop_last (st1 := stAt s jv) (t := colonTk) (k := kn) (v := some vn)
        (by simp only [stAt_peek]; exact (startTy_facts _ hstartK).2.2.2.2.2.2.2.2) rfl
        (by simp only [advance_stAt]; exact ha (f + 1) (by omega)) rfl (by simp only [stAt_peek]; exact hrb)]
      obtain ⟨g, rfl⟩ : ∃ g, f = g + 1 := ⟨f - 1, by omega⟩
      rw [parseMapLoop_close (by simp only [stAt_peek]; exact hrb), advance_stAt]
      have : jv + 1 = k + 1 + ((exprToks c ap 4 w kn).length + ((exprToks c ap 5 false vn).length + 1 + 0)) := by omega
      rw [this]
    | cons x xs =>
      simp only [List.isEmpty_cons, Bool.false_eq_true, if_false, List.cons_append, Seg_cons] at hnext
      have hcm : (s.get (jv + 1)).type = .COMMA := seg_type hnext.1
      have hp := map_pair hk hv hfk hfv w (k + 1) jv hsplit.1 (by omega) (Stop.of_type hcm (by decide))
      have ih := map_loop tok (x :: xs) (acc ++ [some kn, some vn]) (!c) (jv + 1) hrest hnext.2
      refine Ev.step2 0 1 (fun F _ ha hb f hf => ?_) hp ih
      rw [parseMapLoop_comma (st1 := stAt s jv) (t := colonTk) (k := kn) (v := some vn)
        (by simp only [stAt_peek]; exact (startTy_facts _ hstartK).2.2.2.2.2.2.2.2) rfl
        (by simp only [advance_stAt]; exact ha f hf) rfl (by simp only [stAt_peek]; exact hcm), advance_stAt, hb f hf]
      simp only [List.isEmpty_cons, Bool.false_eq_true, if_false, List.length_cons, List.append_assoc, List.cons_append, List.nil_append]
      refine congrArg (fun n => Res.ok (some (Node.mapLit tok (acc ++ some kn :: some vn :: x :: xs)), stAt s n)) ?_
      omega

theorem gp_map {kvs : NList} (h : MPL s c ap kvs) : GP s c ap (.mapLit ⟨.LBRACE, [123]⟩ kvs) := by
  intro ws q P i j res hc hseg hj hstop
  simp only [exprToks, (pairsToks_true kvs h).2, List.cons_append, List.length_cons, List.length_append, List.length_nil] at hseg hj
  rw [Seg_cons] at hseg
  have h1 := map_loop ⟨.LBRACE, [123]⟩ kvs [] false i h hseg.2
  rw [show i + 1 + (pairsRem c ap false kvs).length = j by omega] at h1
  refine pE_prefix (T := .LBRACE) (fn := .parseMapLiteral) (seg_type hseg.1) (by decide) hstop.1 (Ev.step 0 2 (fun F _ ha f hf => ?_) h1)
  rw [pd_map, parseMapLiteral_eq, stAt_cur, key_tk hseg.1]
  exact ha f hf

def lamTk : Tk := ⟨.LAMBDA, [61, 62]⟩

/-- the `=> { … }` part: `parseLambdaMulti` from the `=>` at `kl`, `left` (if any) being the first parameter -/
theorem lambda_tail {left : ONode} {more params l : NList} {t : Option Tk}
    (hpar : (match left with | none => more | some l => some l :: more) = params) (hok : okParamList params = some (t, true))
    (hfl : fragS c ap true true l = true) (hpl : SPL s c ap l) (kl : Nat)
    (hseg : Seg s kl (sym .LAMBDA [61, 62] (!c) :: (lbrace :: stmtsToks c ap true true l ++ [rbrace]))) :
    Ev (fun f => parseLambdaMulti s f left more (stAt s kl) =
      .ok (some (.func lamTk none params (some l) t.isSome true), stAt s (kl + 1 + 1 + (stmtsToks c ap true true l).length))) := by
  rw [Seg_cons] at hseg
  refine Ev.step 0 1 (fun F _ ha f hf => ?_) (block_parse l (kl + 1) hfl hpl hseg.2)
  rw [parseLambdaMulti_ok hpar hok (seg_type hseg.2.1) (by simp only [advance_stAt]; exact ha f hf) rfl, stAt_cur, key_tk hseg.1]
  rfl

/-- `x => { … }` without outer parentheses, at a level up to LAMBDA -/
theorem lambda1 {x : Tk} {l : NList} {t : Option Tk} (hx : x.type = .IDENT ∨ x.type = .DOTDOT)
    (hok : okParamList [some (.ident x)] = some (t, true))
    (hfl : fragS c ap true true l = true) (hpl : SPL s c ap l) (P i j : Nat) (res : ONode × PState) (hP : P ≤ 5)
    (hseg : Seg s i (tk x false :: sym .LAMBDA [61, 62] (!c) :: (lbrace :: stmtsToks c ap true true l ++ [rbrace])))
    (hj : j = i + 1 + 1 + 1 + (stmtsToks c ap true true l).length) (hstop : Stop 5 (s.get (j + 1))) :
    Ev (fun f => parseExpressionLoop s f P (some (.func lamTk none [some (.ident x)] (some l) t.isSome true)) (stAt s j) = .ok res) →
    Ev (fun f => parseExpression s f P (stAt s i) = .ok res) := by
  rw [Seg_cons, Seg_cons] at hseg
  have hlam : (s.get (i + 1)).type = .LAMBDA := seg_type hseg.2.1
  have htail := lambda_tail (left := some (.ident x)) (more := []) rfl hok hfl hpl (i + 1) (Seg_cons .. |>.2 hseg.2)
  rw [show i + 1 + 1 + 1 + (stmtsToks c ap true true l).length = j by omega] at htail
  have hpre : ∀ g, prefixDispatch s (g + 1) .parseIdentifier (stAt s i) = .ok (some (.ident x), stAt s i) := fun g => by
    rw [pd_ident, parseIdentifier_ok (by simp only [stAt_peek, hlam]; decide), stAt_cur, seg_tk hseg.1]
  have hreg : (tk x false).type ≠ .EOL ∧ lookup prefixRegs (tk x false).type = some .parseIdentifier := by
    rcases hx with h | h <;> simp only [tk, h] <;> decide
  intro hres
  by_cases h5 : P = 5
  · subst h5
    -- at level LAMBDA the lambda is built directly; the loop then stops, so it is the result
    obtain ⟨F2, hF2⟩ := hres
    have hr : parseExpressionLoop s (F2 + 1) 5 _ (stAt s j) = .ok res := hF2 (F2 + 1) (by omega)
    rw [loop_stop_of_Stop (by simp only [stAt_peek]; exact hstop)] at hr
    rw [← Res.ok.inj hr]
    refine Ev.step 0 2 (fun F _ ha f hf => ?_) htail
    rw [show (5 : Nat) = prioLAMBDA from rfl, pE_lambda5 (st := stAt s i) (by rw [stAt_cur, seg_type hseg.1]; exact hreg.1)
      (by rw [stAt_cur, seg_type hseg.1]; exact hreg.2) (hpre f) hlam, advance_stAt]
    exact ha (f + 1) (by omega)
  · -- below it the identifier is an expression and the loop takes the `=>`
    have hloop := loop_infix (l := some (.ident x)) (fn := .parseLambdaExpression) hlam (by decide) (show P < 5 by omega)
      (by simp [isOpener]) (Ev.step 0 1 (fun F _ ha f hf => by rw [id_lambda]; exact ha f hf) htail) hres
    refine Ev.step 0 2 (fun F _ ha f hf => ?_) hloop
    rw [pE_step' (st := stAt s i) (by rw [stAt_cur, seg_type hseg.1]; exact hreg.1) (by rw [stAt_cur, seg_type hseg.1]; exact hreg.2)
      (hpre f) (fun h => h5 h.2)]
    exact ha _ (by omega)

/-- `() => { … }`, at any level -/
theorem lambda0 {l : NList} (hfl : fragS c ap true true l = true) (hpl : SPL s c ap l) (w : Bool) (P i j : Nat) (res : ONode × PState)
    (hseg : Seg s i (lparen w :: rparen :: sym .LAMBDA [61, 62] (!c) :: (lbrace :: stmtsToks c ap true true l ++ [rbrace])))
    (hj : j = i + 1 + 1 + 1 + 1 + (stmtsToks c ap true true l).length) (hfollow : (s.get (j + 1)).type ≠ .LAMBDA) :
    Ev (fun f => parseExpressionLoop s f P (some (.func lamTk none [] (some l) false true)) (stAt s j) = .ok res) →
    Ev (fun f => parseExpression s f P (stAt s i) = .ok res) := by
  rw [Seg_cons, Seg_cons] at hseg
  have hlp : (s.get i).type = .LPAREN := seg_type hseg.1
  have hrp : (s.get (i + 1)).type = .RPAREN := seg_type hseg.2.1
  have hlam : (s.get (i + 1 + 1)).type = .LAMBDA := by have := hseg.2.2; rw [Seg_cons] at this; exact seg_type this.1
  have htail := lambda_tail (left := none) (more := []) (t := none) rfl rfl hfl hpl (i + 1 + 1) hseg.2.2
  rw [show i + 1 + 1 + 1 + 1 + (stmtsToks c ap true true l).length = j by omega] at htail
  refine pE_prefix (T := .LPAREN) (fn := .parseGroupedExpression) hlp (by decide) hfollow (Ev.step 0 3 (fun F _ ha f hf => ?_) htail)
  rw [pd_grp, parseGroupedExpression_lambda0 (st1 := stAt s (i + 1)) (e := none)
    (by rw [advance_stAt, pE_empty_parens (by simp only [stAt_cur, hrp]; decide) (by simp only [stAt_cur, hrp]; decide)
          (by simp only [stAt_peek]; exact hlam)])
    (by simp only [stAt_peek]; exact hlam), advance_stAt]
  exact ha (f + 1) (by omega)

theorem key_tk_ws {t : Tk} (w w' : Bool) (h1 : t.type ≠ .LPAREN) (h2 : t.type ≠ .LBRACKET) : key (tk t w) = key (tk t w') := by
  have e1 : (t.type == TokType.LPAREN) = false := by simpa using h1
  have e2 : (t.type == TokType.LBRACKET) = false := by simpa using h2
  simp [key, tk, e1, e2]

theorem gpl_params {more : NList} (h : ∀ x ∈ more, isParam x = true) : GPL s c ap more := by
  intro x hx
  obtain ⟨t, rfl, ht⟩ := isParam_elim (h x hx)
  exact ⟨.ident t, rfl, by simp only [fragN, Bool.or_eq_true, beq_iff_eq]; exact ht, (gpa_ident t ht).gp⟩

/-- `(p1, p2, …) => { … }`, at any level -/
theorem lambdaN {p1 : Tk} {m1 : ONode} {more l : NList} {t : Option Tk} (q : Nat) (hq : 1 ≤ q)
    (hp1 : p1.type = .IDENT ∨ p1.type = .DOTDOT) (hmore : ∀ x ∈ m1 :: more, isParam x = true)
    (hok : okParamList (some (.ident p1) :: m1 :: more) = some (t, true))
    (hfl : fragS c ap true true l = true) (hpl : SPL s c ap l) (w : Bool) (P i j : Nat) (res : ONode × PState)
    (hseg : Seg s i (lparen w :: (listToks c ap q false (some (.ident p1) :: m1 :: more) ++ [rparen]) ++
      sym .LAMBDA [61, 62] (!c) :: (lbrace :: stmtsToks c ap true true l ++ [rbrace])))
    (hj : j = i + 1 + (listToks c ap q false (some (.ident p1) :: m1 :: more)).length + 1 + 1 + 1 + (stmtsToks c ap true true l).length)
    (hfollow : (s.get (j + 1)).type ≠ .LAMBDA) :
    Ev (fun f => parseExpressionLoop s f P (some (.func lamTk none (some (.ident p1) :: m1 :: more) (some l) t.isSome true)) (stAt s j) = .ok res) →
    Ev (fun f => parseExpression s f P (stAt s i) = .ok res) := by
  obtain ⟨t2, rfl, ht2⟩ := isParam_elim (hmore m1 (List.mem_cons_self ..))
  simp only [listToks, Bool.false_eq_true, if_false, if_true, exprToksO, exprToks, Bool.false_and, Bool.true_and, List.nil_append,
    List.cons_append, List.append_assoc, List.length_cons, List.length_append, List.length_nil] at hseg hj
  rw [Seg_cons, Seg_cons, Seg_cons, Seg_cons] at hseg
  have hlp : (s.get i).type = .LPAREN := seg_type hseg.1
  have hid : (s.get (i + 1)).type = p1.type := seg_type hseg.2.1
  have hcm : (s.get (i + 1 + 1)).type = .COMMA := seg_type hseg.2.2.1
  -- the parameters after the first comma, as an expression list
  have hlist : Seg s (i + 1 + 1 + 1) ((listToks c ap q false (some (.ident t2) :: more) ++ [rparen]) ++
      (sym .LAMBDA [61, 62] (!c) :: (lbrace :: stmtsToks c ap true true l ++ [rbrace]))) := by
    simp only [listToks, Bool.false_eq_true, if_false, exprToksO, exprToks, Bool.false_and, List.nil_append, List.cons_append, List.append_assoc]
    rw [Seg_cons]
    refine ⟨?_, hseg.2.2.2.2⟩
    rw [hseg.2.2.2.1]
    exact key_tk_ws _ _ (by rcases ht2 with h | h <;> rw [h] <;> decide) (by rcases ht2 with h | h <;> rw [h] <;> decide)
  rw [Seg_append] at hlist
  obtain ⟨kr, hkr⟩ : ∃ kr, kr = i + 1 + 1 + 1 + (listToks c ap q false (some (.ident t2) :: more)).length := ⟨_, rfl⟩
  have hl2 := list_parse c ap q hq rparen (by decide) (some (.ident t2) :: more) (i + 1 + 1) kr (gpl_params hmore) hlist.1 (by omega)
  have htl : Seg s (kr + 1) (sym .LAMBDA [61, 62] (!c) :: (lbrace :: stmtsToks c ap true true l ++ [rbrace])) := by
    have := hlist.2
    simp only [List.length_append, List.length_cons, List.length_nil] at this
    rwa [show i + 1 + 1 + 1 + ((listToks c ap q false (some (.ident t2) :: more)).length + (0 + 1)) = kr + 1 by omega] at this
  have hlam : (s.get (kr + 1)).type = .LAMBDA := by rw [Seg_cons] at htl; exact seg_type htl.1
  have htail := lambda_tail (left := some (.ident p1)) (more := some (.ident t2) :: more) rfl hok hfl hpl (kr + 1) htl
  have hlen : (listToks c ap q false (some (.ident t2) :: more)).length = 1 + (listToks c ap q true more).length := by
    simp only [listToks, Bool.false_eq_true, if_false, exprToksO, exprToks, Bool.false_and, List.nil_append, List.cons_append, List.length_cons]
    omega
  rw [show kr + 1 + 1 + 1 + (stmtsToks c ap true true l).length = j by omega] at htail
  -- the first parameter, as an expression in front of the comma
  have hfirst : Ev (fun f => parseExpression s f prioLOWEST (stAt s (i + 1)) = .ok (some (.ident p1), stAt s (i + 1))) := by
    have hst : Stop prioLOWEST (s.get (i + 1 + 1)) := Stop.of_type hcm (by decide)
    exact gpa_ident p1 hp1 c ap false q prioLOWEST (i + 1) (i + 1) _ (by simp only [exprToks, Seg_cons, Seg_nil, and_true]; exact hseg.2.1)
      (by simp [exprToks]) hst.notCont (ev_loop_stop hst)
  refine pE_prefix (T := .LPAREN) (fn := .parseGroupedExpression) hlp (by decide) hfollow
    (Ev.step 0 3 (fun F _ ha f hf => ?_) ((hfirst.and hl2).and htail))
  rw [pd_grp, parseGroupedExpression_lambdaN (st1 := stAt s (i + 1)) (st2 := stAt s kr) (e := some (.ident p1))
    (el := some (.ident t2) :: more)
    (by rw [advance_stAt]; exact (ha (f + 1) (by omega)).1.1) (by simp only [stAt_peek]; exact hcm)
    (by rw [advance_stAt]; exact (ha (f + 1) (by omega)).1.2) (by simp only [stAt_peek]; exact hlam), advance_stAt]
  exact (ha (f + 1) (by omega)).2

/-- the parameter list of a lambda as the printer writes it -/
def lamParams (c ap : Bool) (q : Nat) (w : Bool) (params : NList) : List Tok :=
  if params.length == 1 then listToks c ap q false params else lparen w :: listToks c ap q false params ++ [rparen]

/-- a lambda without its outer parentheses -/
theorem lambda_inner {params l : NList} {variadic : Bool} (hpar : lambdaParamsOK variadic params = true)
    (hfl : fragS c ap true true l = true) (hpl : SPL s c ap l) (q : Nat) (hq : 1 ≤ q) (w : Bool) (P i j : Nat) (res : ONode × PState)
    (hP : params.length = 1 → P ≤ 5)
    (hseg : Seg s i (lamParams c ap q w params ++ sym .LAMBDA [61, 62] (!c) :: (lbrace :: stmtsToks c ap true true l ++ [rbrace])))
    (hj : j + 1 = i + (lamParams c ap q w params ++ sym .LAMBDA [61, 62] (!c) :: (lbrace :: stmtsToks c ap true true l ++ [rbrace])).length)
    (hstop : Stop 5 (s.get (j + 1))) :
    Ev (fun f => parseExpressionLoop s f P (some (.func lamTk none params (some l) variadic true)) (stAt s j) = .ok res) →
    Ev (fun f => parseExpression s f P (stAt s i) = .ok res) := by
  obtain ⟨hall, t, hok, hv⟩ := lambdaParamsOK_elim hpar
  subst hv
  match params, hall, hok, hP, hseg, hj with
  | [], _, hok, _, hseg, hj =>
    have : t = none := by simp [okParamList] at hok; exact hok.symm
    subst this
    simp only [lamParams, List.length_nil, listToks, List.nil_append, List.cons_append, List.length_cons, List.length_append] at hseg hj
    exact lambda0 hfl hpl w P i j res (by simpa using hseg) (by simp at hj ⊢; omega) hstop.1
  | [x], hall, hok, hP, hseg, hj =>
    obtain ⟨tx, rfl, htx⟩ := isParam_elim (hall x (List.mem_cons_self ..))
    simp only [lamParams, List.length_cons, List.length_nil, listToks, Bool.false_eq_true, if_false, exprToksO, exprToks, Bool.false_and,
      List.nil_append, List.cons_append, List.append_nil, List.length_append] at hseg hj
    exact lambda1 htx hok hfl hpl P i j res (hP rfl) (by simpa using hseg) (by simp at hj ⊢; omega) hstop
  | x :: m1 :: more, hall, hok, _, hseg, hj =>
    obtain ⟨tx, rfl, htx⟩ := isParam_elim (hall x (List.mem_cons_self ..))
    have hne : ((some (Node.ident tx) :: m1 :: more).length == 1) = false := by simp
    simp only [lamParams, hne, Bool.false_eq_true, if_false] at hseg hj
    refine lambdaN q hq htx (fun y hy => hall y (List.mem_cons_of_mem _ hy)) hok hfl hpl w P i j res (by simpa using hseg) ?_ hstop.1
    simp only [List.length_append, List.length_cons, List.length_nil] at hj ⊢
    omega

theorem lambda_toks (params l : NList) (variadic : Bool) (q : Nat) (ws : Bool) :
    exprToks c ap q ws (.func lamTk none params (some l) variadic true) =
      if prioLAMBDA < q then
        lparen ws :: (lamParams c ap q false params ++ sym .LAMBDA [61, 62] (!c) :: (lbrace :: stmtsToks c ap true true l ++ [rbrace])) ++ [rparen]
      else lamParams c ap q ws params ++ sym .LAMBDA [61, 62] (!c) :: (lbrace :: stmtsToks c ap true true l ++ [rbrace]) := by
  simp only [exprToks, if_true, blockToks, lamParams]
  by_cases ho : prioLAMBDA < q
  · simp [ho]
  · simp [ho]

theorem gp_lambda {params l : NList} {variadic : Bool} (hpar : lambdaParamsOK variadic params = true)
    (hfl : fragS c ap true true l = true) (hpl : SPL s c ap l) : GP s c ap (.func lamTk none params (some l) variadic true) := by
  intro ws q P i j res hc hseg hj hstop
  rw [lambda_toks] at hseg hj
  by_cases ho : prioLAMBDA < q
  · rw [if_pos ho] at hseg hj
    simp only [List.cons_append, List.length_cons, List.length_append, List.length_nil] at hj
    refine grp_seg hseg (by simp only [List.length_cons, List.length_append, List.length_nil]; omega) hstop.1 fun j' res' _ hb hcl => ?_
    exact lambda_inner hpar hfl hpl q hc.2.1 false prioLOWEST (i + 1) j' res' (fun _ => by decide) hb
      (by simp only [List.length_append, List.length_cons, List.length_nil]; omega) (stop_rparen hcl (by decide))
  · rw [if_neg ho] at hseg hj
    have hq5 : q ≤ 5 := by simp [prioLAMBDA] at ho; omega
    have hP6 : P < 6 := hc.2.2 .EQ (by decide) (by show q ≤ 6; omega)
    exact lambda_inner hpar hfl hpl q hc.2.1 ws P i j res (fun _ => by omega) hseg hj (hstop.mono hq5)

/-- the condition and the first block of `for` / `if`: from the keyword at `i`, the condition ends at `jc`, the block's `}` is at `jb` -/
theorem cond_block {cond : Node} {l : NList} (hgc : GP s c ap cond) (hfc : fragN c ap cond = true)
    (hfl : fragS c ap true true l = true) (hpl : SPL s c ap l) (q i : Nat) (hq : 1 ≤ q) (rest : List Tok)
    (hseg : Seg s (i + 1) (exprToks c ap q true cond ++ (lbrace :: (stmtsToks c ap true true l ++ rbrace :: rest)))) :
    ∃ jc jb, jc + 1 = i + 1 + (exprToks c ap q true cond).length ∧ jb = jc + 1 + 1 + (stmtsToks c ap true true l).length ∧
      Ev (fun f => parseExpression s f prioLOWEST (stAt s (i + 1)) = .ok (some cond, stAt s jc) ∧
                   parseBlockStatement s f (stAt s (jc + 1)) = .ok (some l, stAt s jb)) ∧
      (s.get (jc + 1)).type = .LBRACE ∧ Seg s (jb + 1) rest := by
  obtain ⟨jc, hjc, hsc, hlbk, hsb⟩ := Seg_mid hseg (head_node cond hfc q true).length_pos
  have hst := stop_key hlbk (by decide) (Nat.le_refl 1)
  have h1 := hgc.parse (Compat_low hq) hsc hjc (hst.mono hq) hst
  have hsegb : Seg s (jc + 1) ((lbrace :: stmtsToks c ap true true l ++ [rbrace]) ++ rest) := by
    simpa using And.intro hlbk hsb
  rw [Seg_append] at hsegb
  refine ⟨jc, _, hjc, rfl, h1.and (block_parse l (jc + 1) hfl hpl hsegb.1), seg_type hlbk, ?_⟩
  have := hsegb.2
  simp only [List.cons_append, List.length_cons, List.length_append, List.length_nil] at this
  rwa [show jc + 1 + ((stmtsToks c ap true true l).length + (0 + 1) + 1) = jc + 1 + 1 + (stmtsToks c ap true true l).length + 1 by omega] at this

theorem gp_for {cond : Node} {l : NList} (hgc : GP s c ap cond) (hfc : fragN c ap cond = true)
    (hfl : fragS c ap true true l = true) (hpl : SPL s c ap l) : GP s c ap (.forE ⟨.FOR, [102, 111, 114]⟩ (some cond) (some l)) := by
  intro ws q P i j res hc hseg hj hstop
  simp only [exprToks, exprToksO, blockToks, List.cons_append, List.length_cons, List.length_append, List.length_nil] at hseg hj
  rw [Seg_cons] at hseg
  have hty : (s.get i).type = .FOR := seg_type hseg.1
  obtain ⟨jc, jb, hjc, hjb, hev, hlb, _⟩ := cond_block hgc hfc hfl hpl q i hc.2.1 [] (by simpa using hseg.2)
  obtain rfl : jb = j := by omega
  refine pE_prefix (fn := .parseForExpression) hty (by decide) hstop.1 (Ev.step 0 2 (fun F _ ha f hf' => ?_) hev)
  rw [pd_for, parseForExpression_ok (st1 := stAt s jc) (by simp only [advance_stAt]; exact (ha f hf').1) hlb
    (by simp only [advance_stAt]; exact (ha f hf').2) rfl, stAt_cur, key_tk hseg.1]
  rfl

/-- an `if` expression parsed by `parseIfExpression` itself (the `else if` path calls it directly) -/
def IFP (s : TokStream) (c ap : Bool) (t : Node) : Prop :=
  ∀ (ws : Bool) (q i j : Nat), 1 ≤ q → Seg s i (exprToks c ap q ws t) → j + 1 = i + (exprToks c ap q ws t).length →
    (s.get (j + 1)).type ≠ .ELSE → Ev (fun f => parseIfExpression s f (stAt s i) = .ok (some t, stAt s j))

theorem gp_if_of_ifp {tk' : Tk} {cond : ONode} {cons alt : Stmts} (h : IFP s c ap (.ifE tk' cond cons alt)) :
    GP s c ap (.ifE tk' cond cons alt) := by
  intro ws q P i j res hc hseg hj hstop
  have h1 := h ws q i j hc.2.1 hseg hj hstop.notElse
  simp only [exprToks, List.cons_append] at hseg
  rw [Seg_cons] at hseg
  refine pE_prefix (T := .IF) (fn := .parseIfExpression) (seg_type hseg.1) (by decide) hstop.1 (Ev.step 0 1 (fun F _ ha f hf => ?_) h1)
  rw [pd_if]; exact ha f hf

def elseTok : Tok := sym .ELSE [101, 108, 115, 101] true

/-- the rendering of the alternative `alt` of an `if`, after the `}` at `jb`, is read back as `alt` -/
def AltP (s : TokStream) (c ap : Bool) (alt : Stmts) : Prop :=
  ∀ (q jb j : Nat), 1 ≤ q → Seg s (jb + 1) (altToks c ap q alt) → j = jb + (altToks c ap q alt).length →
    (s.get (j + 1)).type ≠ .ELSE → Ev (fun f => ElseAt s f (stAt s jb) alt (stAt s j))

theorem ifp_of {cond : Node} {l : NList} {alt : Stmts} (hgc : GP s c ap cond) (hfc : fragN c ap cond = true)
    (hfl : fragS c ap true true l = true) (hpl : SPL s c ap l) (halt : AltP s c ap alt) :
    IFP s c ap (.ifE ⟨.IF, [105, 102]⟩ (some cond) (some l) alt) := by
  intro ws q i j hq hseg hj helse
  simp only [exprToks, exprToksO, blockToks, List.cons_append, List.append_assoc, List.length_cons, List.length_append,
    List.length_nil] at hseg hj
  rw [Seg_cons] at hseg
  obtain ⟨jc, jb, hjc, hjb, hev, hlb, hrest⟩ := cond_block hgc hfc hfl hpl q i hq (altToks c ap q alt) (by simpa using hseg.2)
  refine Ev.step 0 1 (fun F _ ha f hf' => ?_) (hev.and (halt q jb j hq hrest (by omega) helse))
  rw [parseIfExpression_ok (st1 := stAt s jc) (st2 := stAt s jb) (st3 := stAt s j) (cond := some cond) (cons := some l)
    (by simp only [advance_stAt]; exact (ha f hf').1.1) hlb (by simp only [advance_stAt]; exact (ha f hf').1.2) rfl (ha f hf').2,
    stAt_cur, key_tk hseg.1]
  rfl

theorem altP_none : AltP s c ap none := by
  intro q jb j _ _ hj helse
  obtain rfl : j = jb := hj
  exact Ev.after 0 fun f => .none helse

theorem altP_block {l2 : NList} (hfl2 : fragS c ap true true l2 = true) (hpl2 : SPL s c ap l2)
    (halt : ∀ q, altToks c ap q (some l2) = elseTok :: lbrace :: stmtsToks c ap true true l2 ++ [rbrace]) :
    AltP s c ap (some l2) := by
  intro q jb j _ hseg hj _
  simp only [halt, List.cons_append, List.length_cons, List.length_append, List.length_nil, Seg_cons] at hseg hj
  have hb2 := block_parse l2 (jb + 1 + 1) hfl2 hpl2 (by rw [List.cons_append, Seg_cons]; exact hseg.2)
  rw [show jb + 1 + 1 + 1 + (stmtsToks c ap true true l2).length = j by omega] at hb2
  refine hb2.mono fun f h7 => .block (seg_type hseg.1) ?_ (by simp only [advance_stAt]; exact h7) rfl
  simp only [advance_stAt]; exact seg_type hseg.2.1

theorem altP_elseif {a : Node} (ha : IFP s c ap a) (hif : ∀ q ws, ∃ r, exprToks c ap q ws a = sym .IF [105, 102] ws :: r)
    (halt : ∀ q, altToks c ap q (some [some a]) = elseTok :: exprToks c ap q true a) : AltP s c ap (some [some a]) := by
  intro q jb j hq hseg hj helse
  rw [halt, Seg_cons] at hseg
  simp only [halt, List.length_cons] at hj
  have hif2 : (s.get (jb + 1 + 1)).type = .IF := by
    obtain ⟨r, hr⟩ := hif q true
    have := hseg.2; rw [hr, Seg_cons] at this; exact seg_type this.1
  refine (ha true q (jb + 1 + 1) j hq hseg.2 (by omega) helse).mono fun f h7 => .elseif (seg_type hseg.1) ?_ ?_
  · simp only [advance_stAt]; exact hif2
  · simp only [advance_stAt]; exact h7

/-! ### every tree of the fragment has the round-trip property -/

/-- what the structural induction proves of a node: the round-trip property if it is an expression of the fragment;
for an `if`, also on the direct path of `else if`; for a `return`, the property of its value -/
def GPX (s : TokStream) (c ap : Bool) (t : Node) : Prop :=
  (fragN c ap t = true → GP s c ap t) ∧
  (∀ tk' cond cons alt, t = .ifE tk' cond cons alt → fragN c ap t = true → IFP s c ap t) ∧
  (∀ t' v, t = .ret t' (some v) → fragN c ap v = true → GP s c ap v) ∧
  (∀ tc lc, t = .infix tc (some lc) none → fragN c ap lc = true → GP s c ap lc)

/-- `GPX` by node kind: a `return` with a value and the open-ended `l:` (not expressions of the fragment)
hand on the property of their operand; an `if` gives `IFP`, from which its `GP` follows -/
def GPX.Goal (s : TokStream) (c ap : Bool) : Node → Prop
  | .ret _ (some v) => fragN c ap v = true → GP s c ap v
  | .infix _ (some l) none => fragN c ap l = true → GP s c ap l
  | .ifE t cond cons alt => fragN c ap (.ifE t cond cons alt) = true → IFP s c ap (.ifE t cond cons alt)
  | t => fragN c ap t = true → GP s c ap t

theorem GPX.intro {t : Node} (h : GPX.Goal s c ap t) : GPX s c ap t := by
  unfold GPX.Goal at h
  split at h
  · exact ⟨fun hf => by simp [fragN] at hf, (fun _ _ _ _ e => nomatch e), fun _ _ e => by cases e; exact h, (fun _ _ e => nomatch e)⟩
  · exact ⟨fun hf => by simp [fragN, fragO] at hf, (fun _ _ _ _ e => nomatch e), (fun _ _ e => nomatch e), fun _ _ e => by cases e; exact h⟩
  · exact ⟨fun hf => gp_if_of_ifp (h hf), fun _ _ _ _ _ hf => h hf, (fun _ _ e => nomatch e), (fun _ _ e => nomatch e)⟩
  · next h1 h2 h3 =>
    exact ⟨h, fun _ _ _ _ e => (h3 _ _ _ _ e).elim, fun _ _ e => (h1 _ _ e).elim, fun _ _ e => (h2 _ _ e).elim⟩

theorem fragIdx_elim {i : Node} (h : fragIdx c ap (some i) = true) :
    (∃ tc lc, i = .infix tc (some lc) none ∧ tc.type = .COLON ∧ fragN c ap lc = true) ∨ fragN c ap i = true := by
  cases i with
  | «infix» tc lc rc =>
    cases rc with
    | none =>
      cases lc with
      | none => simp [fragIdx, fragO] at h
      | some l => simp only [fragIdx, fragO, Bool.and_eq_true, beq_iff_eq] at h; exact Or.inl ⟨tc, l, rfl, h.1, h.2⟩
    | some r => simp only [fragIdx] at h; exact Or.inr h
  | _ => simp only [fragIdx] at h; exact Or.inr h

theorem stmtP_of_gpx {n : Node} {ib first : Bool} {rest : NList} (hx : GPX s c ap n) (hf : fragStmt c ap ib first n rest = true) :
    StmtP s c ap n := by
  refine ⟨fun t v e => ?_, fun hnr => ?_⟩
  · subst e
    simp only [fragStmt, Bool.and_eq_true] at hf
    exact hx.2.2.1 t v rfl hf.2
  · rw [fragStmt_expr hnr, Bool.and_eq_true] at hf
    exact hx.1 hf.1

theorem altToks_block (q : Nat) (l2 : NList) (h : ∀ a, l2 = [some a] → a.tok.type ≠ .IF) :
    altToks c ap q (some l2) = elseTok :: lbrace :: stmtsToks c ap true true l2 ++ [rbrace] := by
  match l2, h with
  | [], _ => rfl
  | none :: r, _ => rfl
  | [some a], h => simp only [altToks, if_neg (h a rfl)]; rfl
  | some a :: b :: r, _ => rfl

theorem ifE_head (tk' : Tk) (cond : ONode) (cons alt : Stmts) (q : Nat) (ws : Bool) :
    ∃ r, exprToks c ap q ws (.ifE tk' cond cons alt) = sym .IF [105, 102] ws :: r :=
  ⟨exprToksO c ap q true cond ++ blockToks c ap cons ++ altToks c ap q alt, by simp only [exprToks, List.cons_append]⟩

mutual
theorem gpx_node (s : TokStream) (c ap : Bool) : ∀ (t : Node), GPX s c ap t
  | .ident t => .intro fun h => by
      simp only [fragN, Bool.or_eq_true, beq_iff_eq] at h; exact (gpa_ident t h).gp
  | .strLit t => .intro fun h => by simp only [fragN, beq_iff_eq] at h; exact (gpa_strLit t h).gp
  | .boolean t => .intro fun h => by simp only [fragN, Bool.or_eq_true, beq_iff_eq] at h; exact (gpa_boolean t h).gp
  | .intLit t => .intro fun h => by simp only [fragN, beq_iff_eq] at h; exact (gpa_intLit t h).gp
  | .floatLit t => .intro fun h => by simp only [fragN, Bool.or_eq_true, beq_iff_eq] at h; exact (gpa_floatLit t h).gp
  | .control t => .intro fun h => by simp only [fragN, Bool.or_eq_true, beq_iff_eq] at h; exact (gpa_control t h).gp
  | .post t p => .intro fun h => by
      simp only [fragN, Bool.and_eq_true, Bool.or_eq_true, beq_iff_eq] at h; exact (gpa_post t p h.1 h.2).gp
  | .comment _ _ _ => .intro fun h => by simp [fragN] at h
  | .mapLit t kvs => .intro fun h => by
      simp only [fragN, Bool.and_eq_true, beq_iff_eq] at h
      obtain ⟨rfl, hk⟩ := h
      exact gp_map (gp_pairs s c ap kvs hk)
  | .macroLit t params none => .intro fun h => by simp [fragN, fragB] at h
  | .macroLit t params (some l) => .intro fun h => by
      simp only [fragN, fragB, Bool.and_eq_true, beq_iff_eq] at h
      exact gp_macro h.1.1 h.1.2 h.2 (gp_stmts s c ap l true true h.2)
  | .ret t none => .intro fun h => by simp [fragN] at h
  | .ret t (some v) => .intro (gpx_node s c ap v).1
  | .pre t none => .intro fun h => by simp [fragN, fragO] at h
  | .pre t (some r) => .intro fun h => by
      simp only [fragN, fragO, Bool.and_eq_true] at h
      exact gp_pre ((gpx_node s c ap r).1 h.2) h.1
  | .infix t none r => .intro fun h => by cases r <;> simp [fragN, fragO] at h
  | .infix t (some l) none => .intro (gpx_node s c ap l).1
  | .infix t (some l) (some r) => .intro fun h => by
      simp only [fragN, fragO, Bool.and_eq_true, Bool.not_eq_true'] at h
      exact gp_infix ((gpx_node s c ap l).1 h.1.2) ((gpx_node s c ap r).1 h.2.2) h.1.2 h.2.2 h.1.1 h.2.1
  | .call t none args => .intro fun h => by simp [fragN, fragO] at h
  | .call t (some f) args => .intro fun h => by
      simp only [fragN, fragO, Bool.and_eq_true, beq_iff_eq] at h
      obtain ⟨⟨rfl, hf⟩, ha⟩ := h
      exact gp_call ((gpx_node s c ap f).1 hf) hf (gp_list s c ap args ha)
  | .array t es => .intro fun h => by
      simp only [fragN, Bool.and_eq_true, beq_iff_eq] at h
      obtain ⟨rfl, ha⟩ := h
      exact gp_array (gp_list s c ap es ha)
  | .builtin t ps => .intro fun h => by
      simp only [fragN, Bool.and_eq_true] at h
      exact gp_builtin h.1 (gp_list s c ap ps h.2)
  | .index t none i => .intro fun h => by simp [fragN, fragO] at h
  | .index t (some l) none => .intro fun h => by
      simp only [fragN, fragO, fragIdx] at h; split at h <;> simp at h
  | .index t (some l) (some i) =>
    have hl := gpx_node s c ap l
    have hi := gpx_node s c ap i
    .intro fun h => by
      simp only [fragN, fragO, Bool.and_eq_true] at h
      by_cases hb : t.type = .LBRACKET
      · have hb' : (t.type == TokType.LBRACKET) = true := by simpa using hb
        rw [hb', if_pos rfl] at h
        rcases fragIdx_elim h.2 with ⟨tc, lc, rfl, htc, hlc⟩ | hfi
        · exact gp_index_br hb (hl.1 h.1) (ipb_open (hi.2.2.2 tc lc rfl hlc) hlc htc) h.1
        · exact gp_index_br hb (hl.1 h.1) (ipb_of_gp (hi.1 hfi)) h.1
      · have hb' : (t.type == TokType.LBRACKET) = false := by simpa using hb
        rw [hb'] at h
        simp only [Bool.false_eq_true, if_false, Bool.and_eq_true, beq_iff_eq, fragO] at h
        exact gp_index_dot h.2.1 (hl.1 h.1) (hi.1 h.2.2) h.1 h.2.2
  | .func t name params none v isL => .intro fun h => by cases isL <;> simp [fragN, fragB] at h
  | .func t name params (some l) v false => .intro fun h => by
      simp only [fragN, fragB, Bool.false_eq_true, if_false, Bool.and_eq_true, beq_iff_eq] at h
      obtain ⟨⟨⟨ht, hname⟩, hpar⟩, hl⟩ := h
      refine gp_func ht (fun nm e => ?_) hpar hl (gp_stmts s c ap l true true hl)
      subst e; simpa using hname
  | .func t name params (some l) v true => .intro fun h => by
      simp only [fragN, fragB, if_true, Bool.and_eq_true, beq_iff_eq, Option.isNone_iff_eq_none] at h
      obtain ⟨⟨⟨rfl, rfl⟩, hpar⟩, hl⟩ := h
      exact gp_lambda hpar hl (gp_stmts s c ap l true true hl)
  | .forE t none b => .intro fun h => by simp [fragN, fragO] at h
  | .forE t (some cnd) none => .intro fun h => by simp [fragN, fragB] at h
  | .forE t (some cnd) (some l) => .intro fun h => by
      simp only [fragN, fragO, fragB, Bool.and_eq_true, beq_iff_eq] at h
      obtain ⟨⟨rfl, hc⟩, hl⟩ := h
      exact gp_for ((gpx_node s c ap cnd).1 hc) hc hl (gp_stmts s c ap l true true hl)
  | .ifE t none cons alt => .intro fun h => by simp [fragN, fragO] at h
  | .ifE t (some cnd) none alt => .intro fun h => by simp [fragN, fragB] at h
  | .ifE t (some cnd) (some l) none => .intro fun h => by
      simp only [fragN, fragO, fragB, fragAlt, Bool.and_eq_true, beq_iff_eq, and_true] at h
      obtain ⟨⟨rfl, hc⟩, hl⟩ := h
      exact ifp_of ((gpx_node s c ap cnd).1 hc) hc hl (gp_stmts s c ap l true true hl) altP_none
  | .ifE t (some cnd) (some l) (some []) => .intro fun h => by
      simp only [fragN, fragO, fragB, fragAlt, Bool.and_eq_true, beq_iff_eq] at h
      obtain ⟨⟨⟨rfl, hc⟩, hl⟩, hl2⟩ := h
      exact ifp_of ((gpx_node s c ap cnd).1 hc) hc hl (gp_stmts s c ap l true true hl)
        (altP_block hl2 (fun x hx => by simp at hx) (fun q => altToks_block q [] (fun a e => by cases e)))
  | .ifE t (some cnd) (some l) (some (none :: r)) => .intro fun h => by cases r <;> simp [fragN, fragAlt, fragS] at h
  | .ifE t (some cnd) (some l) (some [some a]) => .intro fun h => by
      simp only [fragN, fragO, fragB, fragAlt, Bool.and_eq_true, beq_iff_eq] at h
      obtain ⟨⟨⟨rfl, hc⟩, hl⟩, hl2⟩ := h
      by_cases hif : a.tok.type = .IF
      · rw [if_pos hif] at hl2
        cases a with
        | ifE ta ca la aa =>
          simp only at hl2
          exact ifp_of ((gpx_node s c ap cnd).1 hc) hc hl (gp_stmts s c ap l true true hl)
            (altP_elseif ((gpx_node s c ap (.ifE ta ca la aa)).2.1 ta ca la aa rfl hl2) (fun q ws => ifE_head ta ca la aa q ws)
              (fun q => by simp only [altToks, if_pos hif]; rfl))
        | _ => simp at hl2
      · rw [if_neg hif] at hl2
        have hl2' := hl2
        rw [fragS_cons, Bool.and_eq_true] at hl2'
        exact ifp_of ((gpx_node s c ap cnd).1 hc) hc hl (gp_stmts s c ap l true true hl) (altP_block hl2
          (fun x hx => by
            simp only [List.mem_singleton] at hx
            exact ⟨a, hx, stmtP_of_gpx (gpx_node s c ap a) hl2'.1⟩)
          (fun q => altToks_block q [some a] (fun a' e => by cases e; exact hif)))
  | .ifE t (some cnd) (some l) (some (some a :: b :: r)) => .intro fun h => by
      simp only [fragN, fragO, fragB, fragAlt, Bool.and_eq_true, beq_iff_eq] at h
      obtain ⟨⟨⟨rfl, hc⟩, hl⟩, hl2⟩ := h
      exact ifp_of ((gpx_node s c ap cnd).1 hc) hc hl (gp_stmts s c ap l true true hl) (altP_block hl2
        (gp_stmts s c ap (some a :: b :: r) true true hl2) (fun q => altToks_block q _ (fun a' e => by cases e)))
theorem gp_list (s : TokStream) (c ap : Bool) : ∀ (xs : NList), fragL c ap xs = true → GPL s c ap xs
  | [], _ => fun x hx => by simp at hx
  | none :: xs, h => by simp [fragL, fragO] at h
  | some n :: xs, h => by
    simp only [fragL, fragO, Bool.and_eq_true] at h
    intro x hx
    rcases List.mem_cons.mp hx with rfl | hx
    · exact ⟨n, rfl, h.1, (gpx_node s c ap n).1 h.1⟩
    · exact gp_list s c ap xs h.2 x hx
theorem gp_pairs (s : TokStream) (c ap : Bool) : ∀ (kvs : NList), fragPairs c ap kvs = true → MPL s c ap kvs
  | [], _ => trivial
  | [_], h => by simp [fragPairs] at h
  | none :: _ :: _, h => by simp [fragPairs, fragO] at h
  | some _ :: none :: _, h => by simp [fragPairs, fragO] at h
  | some k :: some v :: rest, h => by
    simp only [fragPairs, fragO, Bool.and_eq_true] at h
    exact ⟨h.1.1, h.1.2, (gpx_node s c ap k).1 h.1.1, (gpx_node s c ap v).1 h.1.2, gp_pairs s c ap rest h.2⟩
theorem gp_stmts (s : TokStream) (c ap : Bool) : ∀ (l : NList) (ib first : Bool), fragS c ap ib first l = true → SPL s c ap l
  | [], _, _, _ => fun x hx => by simp at hx
  | none :: _, _, _, h => by simp [fragS] at h
  | some n :: rest, ib, first, h => by
    rw [fragS_cons, Bool.and_eq_true] at h
    intro x hx
    rcases List.mem_cons.mp hx with rfl | hx
    · exact ⟨n, rfl, stmtP_of_gpx (gpx_node s c ap n) h.1⟩
    · exact gp_stmts s c ap rest ib false h.2 x hx
end

end Grol.RT
