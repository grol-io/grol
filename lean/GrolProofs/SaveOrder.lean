import Grol.Save
/-
C14 lemmas: `SaveGlobals` as a function from the store to lines — the keys are written in
sorted order, one line per binding that is written, nothing else.
-/
namespace Grol.Save
open Grol.E
open Grol.Wire (Bytes)

theorem cmpBytes_le_total : ∀ (a b : Bytes), cmpBytes a b ≤ 0 ∨ cmpBytes b a ≤ 0
  | [], [] => by simp [cmpBytes]
  | [], _ :: _ => by simp [cmpBytes]
  | _ :: _, [] => by simp [cmpBytes]
  | x :: xs, y :: ys => by
    unfold cmpBytes
    by_cases h1 : x < y
    · simp [h1]
    · by_cases h2 : x > y
      · have h3 : y < x := h2
        simp [h3]
      · have h3 : ¬ y < x := h2
        have h4 : ¬ y > x := h1
        simp only [h1, h2, h3, h4, if_false]
        exact cmpBytes_le_total xs ys

theorem cmpBytes_le_trans : ∀ (a b c : Bytes), cmpBytes a b ≤ 0 → cmpBytes b c ≤ 0 → cmpBytes a c ≤ 0
  | [], [], _ => fun _ h => h
  | [], _ :: _, [] => fun _ _ => by simp [cmpBytes]
  | [], _ :: _, _ :: _ => fun _ _ => by simp [cmpBytes]
  | _ :: _, [], _ => fun h _ => by simp [cmpBytes] at h
  | _ :: _, _ :: _, [] => fun _ h => by simp [cmpBytes] at h
  | x :: xs, y :: ys, z :: zs => by
    intro h1 h2
    unfold cmpBytes at h1 h2 ⊢
    by_cases hxy : x < y
    · by_cases hyz : y < z
      · have : x < z := UInt8.lt_trans hxy hyz
        simp [this]
      · by_cases hzy : y > z
        · simp [hyz, hzy] at h2
        · have hyz' : y = z := UInt8.le_antisymm (UInt8.not_lt.mp hzy) (UInt8.not_lt.mp hyz)
          subst hyz'
          simp [hxy]
    · by_cases hyx : x > y
      · simp [hxy, hyx] at h1
      · have hxy' : x = y := UInt8.le_antisymm (UInt8.not_lt.mp hyx) (UInt8.not_lt.mp hxy)
        subst hxy'
        simp only [hxy, hyx, if_false] at h1
        by_cases hyz : x < z
        · simp [hyz]
        · by_cases hzy : x > z
          · simp [hyz, hzy] at h2
          · simp only [hyz, hzy, if_false] at h2 ⊢
            exact cmpBytes_le_trans xs ys zs h1 h2

theorem nameLe_total (a b : Bytes) : nameLe a b = true ∨ nameLe b a = true := by
  simpa [nameLe] using cmpBytes_le_total a b

theorem nameLe_trans {a b c : Bytes} (h1 : nameLe a b = true) (h2 : nameLe b c = true) : nameLe a c = true := by
  simp only [nameLe, decide_eq_true_eq] at h1 h2 ⊢
  exact cmpBytes_le_trans a b c h1 h2

def SortedB (l : List Binding) : Prop := l.Pairwise fun x y => nameLe x.name y.name = true

theorem insertB_perm (x : Binding) : ∀ l, (insertB x l).Perm (x :: l)
  | [] => List.Perm.refl _
  | y :: ys => by
    unfold insertB
    split
    · exact List.Perm.refl _
    · exact ((insertB_perm x ys).cons y).trans (List.Perm.swap x y ys)

theorem sortB_perm : ∀ l, (sortB l).Perm l
  | [] => List.Perm.refl _
  | x :: xs => (insertB_perm x (sortB xs)).trans ((sortB_perm xs).cons x)

theorem insertB_sorted (x : Binding) : ∀ l, SortedB l → SortedB (insertB x l)
  | [], _ => by simp [insertB, SortedB]
  | y :: ys, h => by
    unfold insertB
    have hy := List.pairwise_cons.mp h
    split
    · rename_i hle
      refine List.pairwise_cons.mpr ⟨?_, h⟩
      intro z hz
      rcases List.mem_cons.mp hz with rfl | hz
      · exact hle
      · exact nameLe_trans hle (hy.1 z hz)
    · rename_i hle
      have hyx : nameLe y.name x.name = true := by
        rcases nameLe_total x.name y.name with h' | h'
        · exact absurd h' hle
        · exact h'
      refine List.pairwise_cons.mpr ⟨?_, insertB_sorted x ys hy.2⟩
      intro z hz
      rcases List.mem_cons.mp ((insertB_perm x ys).mem_iff.mp hz) with rfl | hz
      · exact hyx
      · exact hy.1 z hz

theorem sortB_sorted : ∀ l, SortedB (sortB l)
  | [] => List.Pairwise.nil
  | x :: xs => insertB_sorted x _ (sortB_sorted xs)

/-- `SaveGlobals` writes a line for this binding -/
def wrote (fm : Fmt) (maxLen : Nat) (b : Binding) : Bool :=
  match saveLine fm maxLen b with
  | .ok (some _) => true
  | _ => false

theorem saveSorted_spec (fm : Fmt) (maxLen : Nat) : ∀ (bs : List Binding) (out : List (Bytes × Bytes)),
    saveSorted fm maxLen bs = .ok out →
      out.map (·.1) = (bs.filter (wrote fm maxLen)).map (·.name) ∧
      ∀ p ∈ out, ∃ b ∈ bs, p.1 = b.name ∧ saveLine fm maxLen b = .ok (some p.2)
  | [], out, h => by
    simp [saveSorted, pure, Except.pure] at h
    subst h
    simp
  | b :: rest, out, h => by
    unfold saveSorted at h
    cases hl : saveLine fm maxLen b with
    | error e => simp [hl, bind, Except.bind] at h
    | ok l =>
      cases ht : saveSorted fm maxLen rest with
      | error e => simp [hl, ht, bind, Except.bind] at h
      | ok tl =>
        have ih := saveSorted_spec fm maxLen rest tl ht
        cases l with
        | none =>
          simp [hl, ht, bind, Except.bind, pure, Except.pure] at h
          subst h
          refine ⟨by simp [wrote, hl, ih.1], ?_⟩
          intro p hp
          obtain ⟨b', hb', h1, h2⟩ := ih.2 p hp
          exact ⟨b', List.mem_cons_of_mem _ hb', h1, h2⟩
        | some line =>
          simp [hl, ht, bind, Except.bind, pure, Except.pure] at h
          subst h
          refine ⟨by simp [wrote, hl, ih.1], ?_⟩
          intro p hp
          rcases List.mem_cons.mp hp with rfl | hp
          · exact ⟨b, List.mem_cons_self, rfl, hl⟩
          · obtain ⟨b', hb', h1, h2⟩ := ih.2 p hp
            exact ⟨b', List.mem_cons_of_mem _ hb', h1, h2⟩

end Grol.Save
