import GrolProofs.RenQOps
import GrolProofs.RenWalk
/-
C04, the quiet simulation: the non recursive helpers of lean/Grol/Eval/Eval.lean in the quiet simulation.
-/
namespace Grol.R
open Grol.E

/-- inside the body of the quiet call the current frame is the quiet frame, a new frame -/
theorem StRq.curE {P : Qp} {s t : St} (hR : StRq P s t) (hp : ¬ P.pre) : t.cur = P.e ∧ P.σ.n0 ≤ t.cur := by
  rcases hR.enew with h | h
  · exact absurd h hp
  · exact ⟨hR.curq, by rw [hR.curq]; exact h⟩

/-- both runs read their current scope -/
theorem qsim_curEnv_bind {P : Qp} {s t : St} (hR : StRq P s t) {f g : Nat → M α} {Q : α → α → Prop}
    (h : SimQ P (f (sh P.σ t.cur)) (g t.cur) s t Q) : SimQ P (curEnv >>= f) (curEnv >>= g) s t Q := by
  refine SimQ.bind_read (runM_curEnv' s) (runM_curEnv' t) ?_
  rw [hR.cur]; exact h

theorem qsim_writeOut {P : Qp} {s t : St} (hR : StRq P s t) (b : List UInt8) :
    SimQ P (writeOut b) (writeOut b) s t (fun _ _ => True) := by
  intro u t' hy _
  unfold writeOut at hy ⊢
  rw [runM_modify] at hy
  cases hy
  refine ⟨(), _, runM_modify _ _, ?_, trivial⟩
  rw [hR.outs]
  cases t.outs with
  | nil => exact { hR with outs := rfl }
  | cons o rest => exact { hR with outs := rfl }

theorem qsim_noteHazard {P : Qp} {s t : St} (hR : StRq P s t) (c : Bool) (k n : String) :
    SimQ P (noteHazard c k n) (noteHazard c k n) s t (fun _ _ => True) := by
  unfold noteHazard
  refine SimQ.ite (fun _ => ?_) (fun _ => SimQ.pure hR trivial)
  intro u t' hy _
  rw [runM_modify] at hy
  cases hy
  exact ⟨(), _, runM_modify _ _, { hR with }, trivial⟩

variable {P : Qp} {learnt : Prop}

theorem StRq.quietNew {s t : St} (hR : StRq P s t) (hp : ¬ P.pre) : P.σ.n0 ≤ P.e := hR.enew.resolve_left hp

/-! ### the leaves of the walks -/

/-- a head treated from the states at hand, the tail walked -/
theorem SimQ.bind_jq {x : M α} {y : M β} {f : α → M γ} {g : β → M δ} {φ : β → α} {C : β → Prop} {Q' : γ → δ → Prop}
    {s t : St} (hx : SimQ P x y s t (fun a b => a = φ b ∧ C b)) (ty : Tr y) (hf : ∀ b, JQ P (C b) (f (φ b)) (g b) Q') :
    SimQ P (x >>= f) (y >>= g) s t Q' :=
  SimQ.bind hx (fun _ b s' t' hR' hq => hq.1 ▸ (hf b).sim hq.2 s' t' hR') ty fun b => (hf b).tr

/-- inside the body of the quiet call: a lookup from the quiet frame -/
theorem qj_envGet (hp : ¬ P.pre) (e : Nat) (name : String) (he : learnt → e = P.e) :
    JQ P learnt (envGet (sh P.σ e) name) (envGet e name) (QOptq P) :=
  ⟨trStep.envGet, fun h _ _ hR => he h ▸ qsim_envGet hR P.e name (hR.quietNew hp) (Or.inr rfl)⟩

theorem qj_envSet (hp : ¬ P.pre) (e : Nat) (name : String) (val : Obj) (he : learnt → e = P.e) (hcv : learnt → clean P val)
    {a : Obj} (ha : a = ren P.σ val := by rfl) :
    JQ P learnt (envSet (sh P.σ e) name a) (envSet e name val) (QOq P) :=
  ⟨trStep.envSet, fun h _ _ hR => ha ▸ he h ▸ qsim_envSet hR P.e name val (hR.quietNew hp) rfl (hcv h)⟩

theorem qj_setNoChecks (e : Nat) (name : String) (val : Obj) (create : Bool) (he : learnt → P.σ.n0 ≤ e)
    (hq : learnt → create = true ∨ isConstant name = true ∨ e = P.e) (hcv : learnt → clean P val)
    {a : Obj} (ha : a = ren P.σ val := by rfl) :
    JQ P learnt (setNoChecks (sh P.σ e) name a create) (setNoChecks e name val create) (QOq P) :=
  ⟨trStep.setNoChecks, fun h _ _ hR => ha ▸ qsim_setNoChecks hR e name val create (he h) (hq h) (hcv h)⟩

theorem qj_noteHazard (c : Bool) (k n : String) : JQ P learnt (noteHazard c k n) (noteHazard c k n) (fun _ _ => True) :=
  .of trStep.noteHazard fun _ _ hR => qsim_noteHazard hR c k n

theorem qj_triggerNoCache (e : Nat) : JQ P learnt (triggerNoCache (sh P.σ e)) (triggerNoCache e) (fun _ _ => True) :=
  .of trStep.triggerNoCache fun _ _ hR => qsim_triggerNoCache hR e

theorem qj_writeOut (b : List UInt8) : JQ P learnt (writeOut b) (writeOut b) (fun _ _ => True) :=
  .of trStep.writeOut fun _ _ hR => qsim_writeOut hR b

/-! ### the cache is off -/

theorem runM_cacheGet_off {st : St} (h : st.cfg.cacheOn = false) (key : String) (args : List Obj) :
    runM (cacheGet key args) st = (.ok none, st) := by
  unfold cacheGet
  rw [runM_bind, runM_get]
  simp only [h]
  rfl

theorem qsim_cacheSet {P : Qp} {s t : St} (hR : StRq P s t) (key : String) (args args' : List Obj) (res res' : Obj)
    (output : List UInt8) :
    SimQ P (cacheSet key args' res' output) (cacheSet key args res output) s t (fun _ _ => True) := by
  unfold cacheSet
  refine SimQ.bind_read (runM_get s) (runM_get t) ?_
  rw [hR.cfg, hR.off]
  exact SimQ.pure hR trivial

/-! ### calls -/

theorem qsim_newFrame {P : Qp} {s t : St} (hR : StRq P s t) {nfs nft : Frame}
    (hfr : FrQ P t.frames.size nfs nft) (hdec : FrameDec t.frames.size nft) :
    SimQ P (newFrame nfs) (newFrame nft) s t (fun a b => a = sh P.σ b ∧ P.σ.n0 ≤ b) := by
  intro b t' hy _
  unfold newFrame at hy ⊢
  rw [runM_bind, runM_get] at hy
  dsimp only at hy
  rw [runM_bind, runM_set] at hy
  dsimp only at hy
  rw [runM_pure] at hy
  cases hy
  have hsz : sh P.σ t.frames.size = s.frames.size := by rw [sh_of_ge P.σ hR.n0, hR.size]
  refine ⟨s.frames.size, { s with frames := s.frames.push nfs }, rfl, ?_, hsz.symm, hR.n0⟩
  refine { hR with size := ?_, n0 := ?_, frames := ?_, dec := ?_ }
  · simp only [Array.size_push]; rw [hR.size]; omega
  · simp only [Array.size_push]; exact Nat.le_succ_of_le hR.n0
  · intro i fi hi
    simp only [Array.getElem?_push] at hi ⊢
    by_cases hit : i = t.frames.size
    · subst hit
      simp only [if_true] at hi
      cases hi
      exact ⟨nfs, by simp [hsz], hfr⟩
    · simp only [hit, if_false] at hi
      obtain ⟨fsi, hfsi, hfri⟩ := hR.frames i fi hi
      refine ⟨fsi, ?_, hfri⟩
      have : sh P.σ i ≠ s.frames.size := by
        have := lt_of_frame hfsi
        omega
      simp only [this, if_false]
      exact hfsi
  · intro i fi hi
    simp only [Array.getElem?_push] at hi
    by_cases hit : i = t.frames.size
    · subst hit
      simp only [if_true] at hi
      cases hi
      exact hdec
    · simp only [hit, if_false] at hi
      exact hR.dec i fi hi

theorem qsim_callFrame (f : FuncVal) {k k' : Nat → M α} {Q : α → α → Prop}
    (hk : ∀ nenv, JQ P (learnt ∧ P.σ.n0 ≤ nenv) (k (sh P.σ nenv)) (k' nenv) Q) :
    JQ P learnt (withCallFrame (renFn P.σ f) k) (withCallFrame f k') Q := by
  refine ⟨tr_withCallFrame fun nenv => (hk nenv).tr, fun hl s t hR => ?_⟩
  show SimQ P _ _ s t Q
  unfold withCallFrame
  refine qsim_curEnv_bind hR ?_
  refine qsim_getFrame_bind hR t.cur ?_
  intro cfs cft hcte _ hcfr
  have hkey : (renFn P.σ f).key = f.key := rfl
  have he : (renFn P.σ f).env = sh P.σ f.env := rfl
  rw [sameFunction_ren P.σ hcfr.cacheKey hcfr.function f, hkey, he]
  have hpar : (if (sameFunction cft f) = true then sh P.σ t.cur else sh P.σ f.env) =
      sh P.σ (if (sameFunction cft f) = true then t.cur else f.env) := by split <;> rfl
  extract_lets same parentS parentT
  rw [show parentS = sh P.σ parentT from hpar]
  generalize parentT = parent
  refine qsim_getFrame_bind hR parent ?_
  intro pfs pft hpte _ hpfr
  rw [hpfr.depth]
  refine SimQ.bind_jq (qsim_newFrame hR ?_ ?_) tr_newFrame fun nenv => (hk nenv).weaken fun h => ⟨hl, h⟩
  · have hnd : ∀ n, ¬ P.D t.frames.size n := fun n h => absurd (hR.dlt _ n h) (by have := hR.n0; omega)
    exact ⟨rfl, rfl, rfl, rfl, fun _ _ => rfl, fun _ _ _ h => (by cases h), fun n h => absurd h (hnd n),
      fun _ => ⟨rfl, rfl⟩, fun h => absurd h (by have := hR.n0; omega), (by rw [hcfr.localFunc]), fun n h => absurd h (hnd n)⟩
  · refine ⟨?_, fun k e n h => by cases h⟩
    intro o ho
    cases ho
    exact lt_of_frame hpte

def simQLeaves (P : Qp) : Leaves P where
  toCalc := simQCalc P
  deref := simQ_deref P
  noteHazard := qj_noteHazard
  triggerNoCache := qj_triggerNoCache
  writeOut := qj_writeOut
  cacheSet := fun key args res output => .of trStep.cacheSet fun _ _ hR => qsim_cacheSet hR key args _ res _ output
  callFrame := fun f => qsim_callFrame f
  createIn := fun e name val he hc => qj_createOrSet e name val true he (fun _ => Or.inl rfl) hc
  setNoChecksIn := fun e name val he hc => qj_setNoChecks e name val true he (fun _ => Or.inl rfl) hc

theorem qsim_extendFunctionEnv {P : Qp} {s t : St} (hR : StRq P s t) (f : FuncVal) (args : List Obj)
    (hca : cleanL P args) :
    SimQ P (extendFunctionEnv (renFn P.σ f) (renL P.σ args)) (extendFunctionEnv f args) s t
      (fun a b => a = renX P.σ b ∧ (∀ n, b = .ok n → P.σ.n0 ≤ n) ∧ ∀ e, b = .error e → clean P e) :=
  ((simQLeaves P).extendFunctionEnv f args fun _ => hca).sim trivial s t hR

theorem qsim_finishCall {P : Qp} {s t : St} (hR : StRq P s t) (f : FuncVal) (args : List Obj) (curState before after : Nat)
    (cantCache : Bool) (res : Obj) (output : List UInt8) (hcr : clean P res) :
    SimQ P (finishCall (renFn P.σ f) (renL P.σ args) (sh P.σ curState) before after cantCache (ren P.σ res) output)
      (finishCall f args curState before after cantCache res output) s t (QOq P) :=
  ((simQLeaves P).finishCall f args curState before after cantCache res output fun _ => hcr).sim trivial s t hR

/-! ### the quiet simulation as a `Walk`: inside the body of the quiet call the quiet frame may be touched -/

def simQWalk (P : Qp) (hp : ¬ P.pre) : Walk P where
  toLeaves := simQLeaves P
  Cur := fun e => e = P.e
  curOk := StRq.curq
  envGet := fun e name he => qj_envGet hp e name he
  envSet := fun e name val he hc => qj_envSet hp e name val he hc
  createOrSet := fun e name val create he hc => ⟨trStep.createOrSet, fun h _ _ hR =>
    he h ▸ qsim_createOrSet hR P.e name val create (hR.quietNew hp) (Or.inr rfl) (hc h)⟩
  refValue := fun e name hc => ⟨trStep.refValue, fun h _ _ hR =>
    (qsim_refValue hR e name (hc h)).mono fun _ _ h => ⟨h.1, h.2.1⟩⟩

theorem qsim_deleteMapEntry {P : Qp} {s t : St} (hR : StRq P s t) (hp : ¬ P.pre) (left : Node) (index : Obj) :
    SimQ P (deleteMapEntry left (ren P.σ index)) (deleteMapEntry left index) s t (QOq P) :=
  ((simQWalk P hp).deleteMapEntry (learnt := True) left index).sim trivial s t hR

end Grol.R
