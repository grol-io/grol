import Grol.Eval.Values
/-
C04, an ingredient of (B) of `Props/C04.lean`: Go map-key equality (`keyEq`, the test a cache lookup
performs) is identity on hashable values that contain no float — the only hashable values on which it is
coarser than identity are floats (`0.0` and `-0.0` share an entry).
-/
namespace Grol.E

mutual
def noFloat : Obj → Bool
  | .float _ => false
  | .array els => noFloatList els
  | .map _ kvs => noFloatPairs kvs
  | _ => true
def noFloatList : List Obj → Bool
  | [] => true
  | x :: xs => noFloat x && noFloatList xs
def noFloatPairs : List (Obj × Obj) → Bool
  | [] => true
  | (k, v) :: xs => noFloat k && noFloat v && noFloatPairs xs
end

mutual
theorem keyEq_eq (cfg : Cfg) : ∀ a b : Obj, noFloat a = true → hashable cfg a = true → hashable cfg b = true →
    keyEq a b = true → a = b
  -- on values of different constructors `keyEq` computes to `false`
  | .int x, b, _, _, _, h => by
    cases b with
    | int y => rw [eq_of_beq (show (x == y) = true from h)]
    | _ => cases h
  | .bool x, b, _, _, _, h => by
    cases b with
    | bool y => rw [eq_of_beq (show (x == y) = true from h)]
    | _ => cases h
  | .null, b, _, _, _, h => by
    cases b with
    | null => rfl
    | _ => cases h
  | .str x, b, _, _, _, h => by
    cases b with
    | str y => rw [eq_of_beq (show (x == y) = true from h)]
    | _ => cases h
  | .float x, _, hn, _, _, _ => by cases hn
  | .array xs, b, hn, ha, hb, h => by
    cases b with
    | array ys =>
      rw [keyEqList_eq cfg xs ys hn (Bool.and_eq_true_iff.1 ha).2 (Bool.and_eq_true_iff.1 hb).2 h]
    | _ => cases h
  | .map bx xs, b, hn, ha, hb, h => by
    cases b with
    | map by' ys =>
      obtain ⟨ha1, ha2⟩ := Bool.and_eq_true_iff.1 ha
      obtain ⟨hb1, hb2⟩ := Bool.and_eq_true_iff.1 hb
      rw [Bool.not_eq_true'] at ha1 hb1
      rw [keyEqPairs_eq cfg xs ys hn ha2 hb2 h, ha1, hb1]
    | _ => cases h
  | .func _, _, _, ha, _, _ => by cases ha
  | .ext _, _, _, ha, _, _ => by cases ha
  | .error _, _, _, ha, _, _ => by cases ha
  | .ret _ _, _, _, ha, _, _ => by cases ha
  | .ref _ _, _, _, ha, _, _ => by cases ha
  | .quote _, _, _, ha, _, _ => by cases ha
theorem keyEqList_eq (cfg : Cfg) : ∀ a b : List Obj, noFloatList a = true → hashableList cfg a = true →
    hashableList cfg b = true → keyEqList a b = true → a = b
  | [], [], _, _, _, _ => rfl
  | [], _ :: _, _, _, _, h => by cases h
  | _ :: _, [], _, _, _, h => by cases h
  | x :: xs, y :: ys, hn, ha, hb, h => by
    obtain ⟨hn1, hn2⟩ := Bool.and_eq_true_iff.1 hn
    obtain ⟨ha1, ha2⟩ := Bool.and_eq_true_iff.1 ha
    obtain ⟨hb1, hb2⟩ := Bool.and_eq_true_iff.1 hb
    obtain ⟨h1, h2⟩ := Bool.and_eq_true_iff.1 h
    rw [keyEq_eq cfg x y hn1 ha1 hb1 h1, keyEqList_eq cfg xs ys hn2 ha2 hb2 h2]
theorem keyEqPairs_eq (cfg : Cfg) : ∀ a b : List (Obj × Obj), noFloatPairs a = true → hashablePairs cfg a = true →
    hashablePairs cfg b = true → keyEqPairs a b = true → a = b
  | [], [], _, _, _, _ => rfl
  | [], _ :: _, _, _, _, h => by cases h
  | _ :: _, [], _, _, _, h => by cases h
  | (k, v) :: xs, (k', v') :: ys, hn, ha, hb, h => by
    obtain ⟨hn1, hn2⟩ := Bool.and_eq_true_iff.1 hn
    obtain ⟨ha1, ha2⟩ := Bool.and_eq_true_iff.1 ha
    obtain ⟨hb1, hb2⟩ := Bool.and_eq_true_iff.1 hb
    obtain ⟨h1, h2⟩ := Bool.and_eq_true_iff.1 h
    obtain ⟨hnk, hnv⟩ := Bool.and_eq_true_iff.1 hn1
    obtain ⟨hak, hav⟩ := Bool.and_eq_true_iff.1 ha1
    obtain ⟨hbk, hbv⟩ := Bool.and_eq_true_iff.1 hb1
    obtain ⟨hk, hv⟩ := Bool.and_eq_true_iff.1 h1
    rw [keyEq_eq cfg k k' hnk hak hbk hk, keyEq_eq cfg v v' hnv hav hbv hv,
      keyEqPairs_eq cfg xs ys hn2 ha2 hb2 h2]
end

end Grol.E
