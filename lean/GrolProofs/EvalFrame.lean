import GrolProofs.EvalClosed
import GrolProofs.EnvRun
/-
Frame property of the evaluator model: no computation changes cfg / root / extNames, and on a
normal return the current scope and the depth counter are back to what they were.
-/
namespace Grol.E

structure Keeps (st st' : St) : Prop where
  cfg : st'.cfg = st.cfg
  root : st'.root = st.root
  extNames : st'.extNames = st.extNames

def Restores (st st' : St) : Prop := st'.cur = st.cur ∧ st'.depth = st.depth

theorem Keeps.refl (st : St) : Keeps st st := ⟨rfl, rfl, rfl⟩

theorem Keeps.trans {a b c : St} (h1 : Keeps a b) (h2 : Keeps b c) : Keeps a c :=
  ⟨h2.cfg.trans h1.cfg, h2.root.trans h1.root, h2.extNames.trans h1.extNames⟩

theorem Restores.refl (st : St) : Restores st st := ⟨rfl, rfl⟩

theorem Restores.trans {a b c : St} (h1 : Restores a b) (h2 : Restores b c) : Restores a c :=
  ⟨h2.1.trans h1.1, h2.2.trans h1.2⟩

structure Good (x : M α) : Prop where
  h : ∀ st, Keeps st (stateAfter x st) ∧ (∀ a, outcome x st = .ok a → Restores st (stateAfter x st))

theorem good_pure (a : α) : Good (pure a : M α) :=
  ⟨fun st => ⟨Keeps.refl st, fun _ _ => Restores.refl st⟩⟩

theorem good_bind {x : M α} {f : α → M β} (hx : Good x) (hf : ∀ a, Good (f a)) : Good (x >>= f) := by
  constructor
  intro st
  rw [outcome_bind, stateAfter_bind]
  have h1 := hx.h st
  cases h : outcome x st with
  | error e => exact ⟨h1.1, fun _ h' => by cases h'⟩
  | ok a =>
    have h2 := (hf a).h (stateAfter x st)
    exact ⟨h1.1.trans h2.1, fun b hb => (h1.2 a h).trans (h2.2 b hb)⟩

theorem good_stop (e : Stop) : Good (stop e : M α) :=
  ⟨fun st => ⟨Keeps.refl st, fun _ h => by cases h⟩⟩

theorem good_throw (e : Stop) : Good (throw e : M α) := good_stop e

theorem good_of_inert {x : M α} (hx : ∀ st, Inert st (stateAfter x st)) : Good x :=
  ⟨fun st => ⟨⟨(hx st).cfg, (hx st).root, (hx st).extNames⟩, fun _ _ => ⟨(hx st).cur, (hx st).depth⟩⟩⟩

theorem good_update {g : St → St} {k : St → M β} (hg : ∀ st, Inert st (g st)) (hk : ∀ s, Good (k s)) :
    Good (get >>= fun st => set (g st) >>= fun _ => k st) :=
  ⟨fun st =>
    have hk' := (hk st).h (g st)
    ⟨Keeps.trans ⟨(hg st).cfg, (hg st).root, (hg st).extNames⟩ hk'.1,
      fun a ha => Restores.trans ⟨(hg st).cur, (hg st).depth⟩ (hk'.2 a ha)⟩⟩

theorem good_setFrame {e f} : Good (setFrame e f) :=
  ⟨fun _ => ⟨⟨rfl, rfl, rfl⟩, fun _ _ => ⟨rfl, rfl⟩⟩⟩

theorem good_modifyFrame {e g} : Good (modifyFrame e g) := by
  constructor
  intro st
  rw [stateAfter_eq_run, run_modifyFrame]
  cases st.frames[e]? <;> exact ⟨⟨rfl, rfl, rfl⟩, fun _ _ => ⟨rfl, rfl⟩⟩

theorem goodStep : StepClosed Good where
  pure := good_pure
  stop := good_stop
  bind := good_bind
  read := ⟨fun st => ⟨Keeps.refl st, fun _ _ => Restores.refl st⟩⟩
  inert := good_of_inert
  update := good_update
  newFrame _ := ⟨fun _ => ⟨⟨rfl, rfl, rfl⟩, fun _ _ => ⟨rfl, rfl⟩⟩⟩
  modifyFrame _ _ _ := good_modifyFrame

theorem good_forIn {γ δ : Type} (l : List γ) (init : δ) (f : γ → δ → M (ForInStep δ))
    (hf : ∀ a b, Good (f a b)) : Good (forIn l init f) :=
  goodStep.forIn l init f hf

theorem good_extendFunctionEnv {f a} : Good (extendFunctionEnv f a) := goodStep.extendFunctionEnv

theorem good_envDelete_go {name fuel e} : Good (envDelete.go name fuel e) := by
  induction fuel generalizing e with
  | zero => exact good_pure _
  | succ n ih =>
    unfold envDelete.go
    refine good_bind goodStep.getFrame fun f => ?_
    extract_lets f'
    split
    · exact good_bind good_setFrame fun _ => good_bind goodStep.functionChanged fun _ => good_pure _
    · refine good_bind good_setFrame fun _ => ?_
      split
      · exact ih
      · exact good_pure _

/-! The brackets are analysed from the state `st0` they are entered from: in between, `cur` and `depth`
differ from `st0`, so the computations inside are only known to keep cfg / root / extNames and to give
back the `cur` and `depth` they started with. -/

theorem good_of_sat {x : M α}
    (h : ∀ st, Sat x st (fun r s => Keeps st s ∧ ∀ a, r = .ok a → Restores st s)) : Good x :=
  ⟨h⟩

theorem Sat.of_good {x : M α} (hx : Good x) {st : St} {Q : Except Stop α → St → Prop}
    (h : ∀ r s, Keeps st s → (∀ a, r = .ok a → Restores st s) → Q r s) : Sat x st Q :=
  h _ _ (hx.h st).1 (hx.h st).2

/-- a `Good` computation at the end of a bracket, where `cur` and `depth` are those of `st0` again -/
theorem Sat.good_tail {x : M α} (hx : Good x) {st0 st : St} (hk : Keeps st0 st) (hr : Restores st0 st) :
    Sat x st (fun r s => Keeps st0 s ∧ ∀ a, r = .ok a → Restores st0 s) :=
  ⟨hk.trans (hx.h st).1, fun a ha => hr.trans ((hx.h st).2 a ha)⟩

/-- a `Good` computation in the middle of a bracket: abnormal outcomes only need `Keeps` -/
theorem Sat.step {x : M α} (hx : Good x) {st0 s : St} {f : α → M β}
    (hk : Keeps st0 s)
    (hok : ∀ a s', Keeps st0 s' → Restores s s' →
      Sat (f a) s' (fun r s => Keeps st0 s ∧ ∀ a, r = .ok a → Restores st0 s)) :
    Sat (x >>= f) s (fun r s => Keeps st0 s ∧ ∀ a, r = .ok a → Restores st0 s) := by
  refine Sat.bind (Sat.of_good hx fun r s' hk' hr' => ?_)
  cases r with
  | error e => exact ⟨hk.trans hk', fun _ h => by cases h⟩
  | ok a => exact hok a s' (hk.trans hk') (hr' a rfl)

theorem goodClosed : EvalClosed Good where
  toStepClosed := goodStep
  envDelete _ _ := good_bind goodStep.read fun _ => good_envDelete_go
  deeper := by
    intro α β c _ e x k hx hk
    refine good_of_sat fun st => Sat.bind (Sat.get ?_)
    dsimp only
    split
    · exact Sat.bind (Sat.stop ⟨Keeps.refl _, fun _ h => by cases h⟩)
    · refine Sat.bind (Sat.set ?_)
      refine Sat.step hx ⟨rfl, rfl, rfl⟩ fun a s hks hrs => Sat.bind (Sat.modify ?_)
      refine Sat.good_tail (hk a) ⟨hks.cfg, hks.root, hks.extNames⟩ ⟨hrs.1, ?_⟩
      show s.depth - 1 = st.depth
      rw [hrs.2]
      exact Nat.add_sub_cancel ..
  inScope := by
    intro α β nenv x k hx hk
    refine good_of_sat fun st => Sat.bind (Sat.bind (Sat.get (Sat.pure (Sat.bind (Sat.modify ?_)))))
    refine Sat.step hx ⟨rfl, rfl, rfl⟩ fun a s2 hk2 hr2 => ?_
    refine Sat.step goodStep.getFrame hk2 fun fr s3 hk3 hr3 => Sat.bind (Sat.get (Sat.bind (Sat.set ?_)))
    refine Sat.good_tail (hk ..) ⟨hk3.cfg, hk3.root, hk3.extNames⟩ ⟨rfl, ?_⟩
    show s3.depth = st.depth
    rw [hr3.2, hr2.2]

structure AllGood (fuel : Nat) : Prop where
  eval : ∀ node, Good (Grol.E.eval fuel node)
  evalI : ∀ node, Good (Grol.E.evalI fuel node)
  evalStatements : ∀ l r, Good (Grol.E.evalStatements fuel l r)
  evalExpressions : ∀ l acc, Good (Grol.E.evalExpressions fuel l acc)
  evalAssignment : ∀ right op left, Good (Grol.E.evalAssignment fuel right op left)
  evalIf : ∀ c cons alt, Good (Grol.E.evalIf fuel c cons alt)
  evalFor : ∀ c body, Good (Grol.E.evalFor fuel c body)
  evalForLoop : ∀ c body last, Good (Grol.E.evalForLoop fuel c body last)
  evalForSpecialForms : ∀ c body, Good (Grol.E.evalForSpecialForms fuel c body)
  evalForInteger : ∀ body i e name last, Good (Grol.E.evalForInteger fuel body i e name last)
  evalForList : ∀ body list name last, Good (Grol.E.evalForList fuel body list name last)
  evalBuiltin : ∀ t ps, Good (Grol.E.evalBuiltin fuel t ps)
  evalPrint : ∀ t ps first buf, Good (Grol.E.evalPrint fuel t ps first buf)
  evalDelete : ∀ node, Good (Grol.E.evalDelete fuel node)
  evalIndexExpression : ∀ left tok i, Good (Grol.E.evalIndexExpression fuel left tok i)
  evalIndexRange : ∀ left li ri, Good (Grol.E.evalIndexRange fuel left li ri)
  evalMapLiteral : ∀ ks vs big acc, Good (Grol.E.evalMapLiteral fuel ks vs big acc)
  applyExtension : ∀ name args, Good (Grol.E.applyExtension fuel name args)
  applyFunction : ∀ fn args, Good (Grol.E.applyFunction fuel fn args)

example (node) : Good (evalI 0 node) := good_stop _

theorem allGood (fuel : Nat) : AllGood fuel :=
  have a := evalAll goodClosed fuel
  ⟨a.eval, a.evalI, a.evalStatements, a.evalExpressions, a.evalAssignment, a.evalIf, a.evalFor, a.evalForLoop,
    a.evalForSpecialForms, a.evalForInteger, a.evalForList, a.evalBuiltin, a.evalPrint, a.evalDelete,
    a.evalIndexExpression, a.evalIndexRange, a.evalMapLiteral, a.applyExtension, a.applyFunction⟩

theorem eval_keeps (fuel : Nat) (node : Node) (st : St) : Keeps st (stateAfter (eval fuel node) st) :=
  (((allGood fuel).eval node).h st).1

theorem eval_restores (fuel : Nat) (node : Node) (st : St) (v : Obj)
    (h : outcome (eval fuel node) st = .ok v) : Restores st (stateAfter (eval fuel node) st) :=
  (((allGood fuel).eval node).h st).2 v h

#print axioms eval_keeps
#print axioms eval_restores

end Grol.E
