import GrolProofs.PrintParseBase
/-
C02, positive half: one step lemma per parse function — its result on the success path, in terms
of the results of the calls it makes (total correctness: the result is `.ok`).
-/
namespace Grol.RT
open Grol Grol.Wire Grol.Generated Grol.Parser Grol.Printer Grol.PrintTokens
variable {s : TokStream}

theorem pE_step {f P : Nat} {st st1 : PState} {fn : PrefixFn} {l : ONode}
    (h1 : st.cur.type ≠ .EOL) (h2 : lookup prefixRegs st.cur.type = some fn)
    (h3 : prefixDispatch s f fn st = .ok (l, st1)) (h4 : st1.peek.type ≠ .LAMBDA) :
    parseExpression s (f + 1) P st = parseExpressionLoop s f P l st1 := by
  conv => lhs; unfold parseExpression
  simp [bind_apply, h1, h2, h3, h4]

/-- the loop stops at a token that does not bind tighter than `P` -/
theorem loop_stop {f P : Nat} {st : PState} {l : ONode} (h : precOf st.peek.type ≤ P) :
    parseExpressionLoop s (f + 1) P l st = .ok (l, st) := by
  unfold parseExpressionLoop
  have : ¬ (P < precOf st.peek.type) := by omega
  simp [bind_apply, this]

/-- the loop stops at a `(` or `[` with whitespace in front -/
theorem loop_stop_ws {f P : Nat} {st : PState} {l : ONode}
    (h : st.peek.type = .LPAREN ∨ st.peek.type = .LBRACKET) (hw : st.peek.hadWs = true) :
    parseExpressionLoop s (f + 1) P l st = .ok (l, st) := by
  unfold parseExpressionLoop
  rcases h with h | h
  · by_cases c : P < precOf TokType.LPAREN <;> simp [bind_apply, h, hw, c] <;> rfl
  · by_cases c : P < precOf TokType.LBRACKET <;> simp [bind_apply, h, hw, c] <;> rfl

theorem loop_step {f P : Nat} {st st1 : PState} {fn : InfixFn} {l l' : ONode}
    (h1 : st.peek.type ≠ .SEMICOLON) (h2 : P < precOf st.peek.type) (h3 : lookup infixRegs st.peek.type = some fn)
    (h4 : ¬ (st.peek.type = .LPAREN ∧ st.peek.hadWs = true)) (h5 : ¬ (st.peek.type = .LBRACKET ∧ st.peek.hadWs = true))
    (h6 : infixDispatch s f fn l (advance s st) = .ok (l', st1)) :
    parseExpressionLoop s (f + 1) P l st = parseExpressionLoop s f P l' st1 := by
  conv => lhs; unfold parseExpressionLoop
  simp [bind_apply, h1, h2, h3, h4, h5, h6]

@[simp] theorem pd_ident (f : Nat) : prefixDispatch s (f + 1) .parseIdentifier = parseIdentifier s := rfl
@[simp] theorem pd_int (f : Nat) : prefixDispatch s (f + 1) .parseIntegerLiteral = parseIntegerLiteral s := rfl
@[simp] theorem pd_float (f : Nat) : prefixDispatch s (f + 1) .parseFloatLiteral = parseFloatLiteral s := rfl
@[simp] theorem pd_bool (f : Nat) : prefixDispatch s (f + 1) .parseBoolean = parseBoolean := rfl
@[simp] theorem pd_str (f : Nat) : prefixDispatch s (f + 1) .parseStringLiteral = parseStringLiteral := rfl
@[simp] theorem pd_pre (f : Nat) : prefixDispatch s (f + 1) .parsePrefixExpression = parsePrefixExpression s f := rfl
@[simp] theorem pd_grp (f : Nat) : prefixDispatch s (f + 1) .parseGroupedExpression = parseGroupedExpression s f := rfl
@[simp] theorem pd_arr (f : Nat) : prefixDispatch s (f + 1) .parseArrayLiteral = parseArrayLiteral s f := rfl
@[simp] theorem id_infix (f : Nat) (l : ONode) : infixDispatch s (f + 1) .parseInfixExpression l = parseInfixExpression s f l := rfl
@[simp] theorem id_call (f : Nat) (l : ONode) : infixDispatch s (f + 1) .parseCallExpression l = parseCallExpression s f l := rfl
@[simp] theorem id_index (f : Nat) (l : ONode) : infixDispatch s (f + 1) .parseIndexExpression l = parseIndexExpression s f l := rfl

theorem parseIdentifier_ok {st : PState} (h : lookup postfixRegs st.peek.type = none) :
    parseIdentifier s st = .ok (some (.ident st.cur.tk), st) := by
  unfold parseIdentifier
  simp [bind_apply, h]

theorem parseIntegerLiteral_int {st : PState} (h : st.cur.num = .int) :
    parseIntegerLiteral s st = .ok (some (.intLit st.cur.tk), st) := by
  unfold parseIntegerLiteral
  simp [bind_apply, h]

theorem parseFloatLiteral_ok {st : PState} (h : st.cur.num = .float) :
    parseFloatLiteral s st = .ok (some (.floatLit st.cur.tk), st) := by
  unfold parseFloatLiteral
  simp [bind_apply, h]

theorem parseIntegerLiteral_float {st : PState} (h : st.cur.num = .float) :
    parseIntegerLiteral s st = .ok (some (.floatLit st.cur.tk), st) := by
  unfold parseIntegerLiteral
  simp [bind_apply, h, parseFloatLiteral_ok h]

theorem parseBoolean_ok (st : PState) : parseBoolean st = .ok (some (.boolean st.cur.tk), st) := rfl
theorem parseStringLiteral_ok (st : PState) : parseStringLiteral st = .ok (some (.strLit st.cur.tk), st) := rfl

theorem parsePrefixExpression_ok {f : Nat} {st st1 : PState} {r : ONode}
    (h : parseExpression s f prioPREFIX (advance s st) = .ok (r, st1)) :
    parsePrefixExpression s (f + 1) st = .ok (some (.pre st.cur.tk r), st1) := by
  unfold parsePrefixExpression
  simp [bind_apply, h]

theorem parseInfixExpression_ok {f : Nat} {st st1 : PState} {l r : ONode}
    (h0 : ¬ (st.cur.type = .COLON ∧ st.peek.type = .RBRACKET))
    (h : parseExpression s f (precOf st.cur.type) (advance s st) = .ok (r, st1)) :
    parseInfixExpression s (f + 1) l st = .ok (some (.infix st.cur.tk l r), st1) := by
  unfold parseInfixExpression
  have h0' : ¬ ((st.cur.tk).type = .COLON ∧ st.peek.type = .RBRACKET) := h0
  simp [bind_apply, h, h0']

theorem parseInfixExpression_open {f : Nat} {st : PState} {l : ONode}
    (h0 : st.cur.type = .COLON) (h1 : st.peek.type = .RBRACKET) :
    parseInfixExpression s (f + 1) l st = .ok (some (.infix st.cur.tk l none), st) := by
  unfold parseInfixExpression
  have h0' : (st.cur.tk).type = .COLON := h0
  simp [bind_apply, h0', h1]

theorem parseGroupedExpression_ok {f : Nat} {st st1 : PState} {e : ONode}
    (h : parseExpression s f prioLOWEST (advance s st) = .ok (e, st1)) (hp : st1.peek.type = .RPAREN) :
    parseGroupedExpression s (f + 1) st = .ok (e, advance s st1) := by
  unfold parseGroupedExpression
  simp [bind_apply, h, hp, expectPeek_ok hp]

theorem parseCallExpression_ok {f : Nat} {st st1 : PState} {fn : ONode} {el : NList}
    (h : parseExpressionList s f .RPAREN st = .ok (some el, st1)) :
    parseCallExpression s (f + 1) fn st = .ok (some (.call st.cur.tk fn el), st1) := by
  unfold parseCallExpression
  simp [bind_apply, h]

theorem parseArrayLiteral_ok {f : Nat} {st st1 : PState} {el : NList}
    (h : parseExpressionList s f .RBRACKET st = .ok (some el, st1)) :
    parseArrayLiteral s (f + 1) st = .ok (some (.array st.cur.tk el), st1) := by
  unfold parseArrayLiteral
  simp [bind_apply, h]

theorem parseExpressionList_empty {f : Nat} {st : PState} {e : TokType} (h : st.peek.type = e) :
    parseExpressionList s (f + 1) e st = .ok (some [], advance s st) := by
  unfold parseExpressionList
  simp [bind_apply, h]

theorem parseExpressionList_ok {f : Nat} {st st1 st2 : PState} {e : TokType} {x : ONode} {args : NList}
    (h0 : st.peek.type ≠ e) (h1 : parseExpression s f prioLOWEST (advance s st) = .ok (x, st1))
    (h2 : parseExpressionListLoop s f [x] st1 = .ok (args, st2)) (h3 : st2.peek.type = e) :
    parseExpressionList s (f + 1) e st = .ok (some args, advance s st2) := by
  unfold parseExpressionList
  simp [bind_apply, h0, h1, h2, expectPeek_ok h3]

theorem parseExpressionListLoop_stop {f : Nat} {st : PState} {args : NList} (h : st.peek.type ≠ .COMMA) :
    parseExpressionListLoop s (f + 1) args st = .ok (args, st) := by
  unfold parseExpressionListLoop
  simp [bind_apply, h]

theorem parseExpressionListLoop_step {f : Nat} {st st1 : PState} {args : NList} {x : ONode}
    (h : st.peek.type = .COMMA) (h1 : parseExpression s f prioLOWEST (advance s (advance s st)) = .ok (x, st1)) :
    parseExpressionListLoop s (f + 1) args st = parseExpressionListLoop s f (args ++ [x]) st1 := by
  conv => lhs; unfold parseExpressionListLoop
  simp [bind_apply, h, h1]

theorem parseIndexExpression_bracket {f : Nat} {st st1 : PState} {l idx : ONode}
    (h0 : st.cur.type = .LBRACKET) (h : parseExpression s f prioLOWEST (advance s st) = .ok (idx, st1))
    (hp : st1.peek.type = .RBRACKET) :
    parseIndexExpression s (f + 1) l st = .ok (some (.index st.cur.tk l idx), advance s st1) := by
  unfold parseIndexExpression
  simp [bind_apply, h0, h, expectPeek_ok hp]

theorem parseIndexExpression_dot {f : Nat} {st st1 : PState} {l idx : ONode}
    (h0 : st.cur.type = .DOT) (h : parseExpression s f prioDOTINDEX (advance s st) = .ok (idx, st1)) :
    parseIndexExpression s (f + 1) l st = .ok (some (.index st.cur.tk l idx), st1) := by
  unfold parseIndexExpression
  simp [bind_apply, h0, h]

theorem parseStatement_ok {f : Nat} {st st1 : PState} {e : ONode}
    (h0 : st.cur.type ≠ .RETURN) (h : parseExpression s f prioLOWEST st = .ok (e, st1)) (hp : st1.peek.type ≠ .SEMICOLON) :
    parseStatement s (f + 1) st = .ok (e, st1) := by
  unfold parseStatement
  simp [bind_apply, h0, h, hp]

theorem parseProgramLoop_stop {f : Nat} {st : PState} {acc : NList} (h : st.cur.type = .EOF) :
    parseProgramLoop s (f + 1) acc st = .ok (acc, st) := by
  unfold parseProgramLoop
  simp [bind_apply, h]

theorem parseProgramLoop_step {f : Nat} {st st1 : PState} {acc : NList} {n : Node}
    (h0 : st.cur.type ≠ .EOF) (h1 : st.cur.type ≠ .EOL) (h : parseStatement s f st = .ok (some n, st1)) :
    parseProgramLoop s (f + 1) acc st = parseProgramLoop s f (acc ++ [some n]) (advance s st1) := by
  conv => lhs; unfold parseProgramLoop
  simp [bind_apply, h0, h1, h]

@[simp] theorem pd_control (f : Nat) : prefixDispatch s (f + 1) .parseControlExpression = parseControlExpression := rfl
@[simp] theorem pd_builtin (f : Nat) : prefixDispatch s (f + 1) .parseBuiltin = parseBuiltin s f := rfl
@[simp] theorem pd_func (f : Nat) : prefixDispatch s (f + 1) .parseFunctionLiteral = parseFunctionLiteral s f := rfl
@[simp] theorem pd_if (f : Nat) : prefixDispatch s (f + 1) .parseIfExpression = parseIfExpression s f := rfl
@[simp] theorem pd_for (f : Nat) : prefixDispatch s (f + 1) .parseForExpression = parseForExpression s f := rfl

theorem parseControlExpression_ok (st : PState) : parseControlExpression st = .ok (some (.control st.cur.tk), st) := rfl

theorem parseIdentifier_post {st : PState} (h : lookup postfixRegs st.peek.type = some .parsePostfixExpression) :
    parseIdentifier s st = .ok (some (.post st.peek.tk st.cur.tk), advance s st) := by
  unfold parseIdentifier parsePostfixExpression
  simp [bind_apply, h]

theorem parseBuiltin_ok {f : Nat} {st st1 : PState} {el : NList} (h0 : st.peek.type = .LPAREN)
    (h : parseExpressionList s f .RPAREN (advance s st) = .ok (some el, st1)) :
    parseBuiltin s (f + 1) st = .ok (some (.builtin st.cur.tk el), st1) := by
  unfold parseBuiltin
  simp [bind_apply, expectPeek_ok h0, h]

theorem parseBlockStatement_eq (f : Nat) (st : PState) :
    parseBlockStatement s (f + 1) st = parseBlockLoop s f [] (advance s st) := by
  conv => lhs; unfold parseBlockStatement
  simp [bind_apply]

theorem parseBlockLoop_stop {f : Nat} {st : PState} {acc : NList} (h : st.cur.type = .RBRACE) :
    parseBlockLoop s (f + 1) acc st = .ok (some acc, st) := by
  unfold parseBlockLoop
  simp [bind_apply, h]

theorem parseBlockLoop_step {f : Nat} {st st1 : PState} {acc : NList} {stmt : ONode}
    (h0 : st.cur.type ≠ .RBRACE) (h1 : st.cur.type ≠ .EOF) (h2 : st.cur.type ≠ .EOL)
    (h : parseStatement s f st = .ok (stmt, st1)) :
    parseBlockLoop s (f + 1) acc st = parseBlockLoop s f (acc ++ [stmt]) (advance s st1) := by
  conv => lhs; unfold parseBlockLoop
  simp [bind_apply, h0, h1, h2, h]

theorem parseStatement_ret {f : Nat} {st : PState} (h : st.cur.type = .RETURN) :
    parseStatement s (f + 1) st = parseReturnStatement s f st := by
  conv => lhs; unfold parseStatement
  simp [bind_apply, h]

theorem parseReturnStatement_bare {f : Nat} {st : PState}
    (h : st.peek.type = .SEMICOLON ∨ st.peek.type = .RBRACE ∨ st.peek.type = .EOF ∨ st.peek.type = .EOL) :
    parseReturnStatement s (f + 1) st = .ok (some (.ret st.cur.tk none), st) := by
  unfold parseReturnStatement
  rcases h with h | h | h | h <;> simp [bind_apply, h]

theorem parseReturnStatement_value {f : Nat} {st st1 : PState} {v : ONode}
    (h0 : st.peek.type ≠ .SEMICOLON ∧ st.peek.type ≠ .RBRACE ∧ st.peek.type ≠ .EOF ∧ st.peek.type ≠ .EOL)
    (h : parseExpression s f prioLOWEST (advance s st) = .ok (v, st1)) (hp : st1.peek.type ≠ .SEMICOLON) :
    parseReturnStatement s (f + 1) st = .ok (some (.ret st.cur.tk v), st1) := by
  unfold parseReturnStatement
  simp [bind_apply, h0.1, h0.2.1, h0.2.2.1, h0.2.2.2, h, hp]

theorem parseFunctionParametersLoop_stop {f : Nat} {st : PState} {acc : NList} (h : st.peek.type ≠ .COMMA) :
    parseFunctionParametersLoop s (f + 1) acc st = .ok (acc, st) := by
  unfold parseFunctionParametersLoop
  simp [bind_apply, h]

theorem parameter_ok {st : PState} : parameter s st = .ok (some (.ident st.cur.tk), st) := by
  unfold parameter
  simp [bind_apply]

theorem parseFunctionParametersLoop_step {f : Nat} {st : PState} {acc : NList} (h : st.peek.type = .COMMA) :
    parseFunctionParametersLoop s (f + 1) acc st =
      parseFunctionParametersLoop s f (acc ++ [some (.ident (advance s (advance s st)).cur.tk)]) (advance s (advance s st)) := by
  conv => lhs; unfold parseFunctionParametersLoop
  simp [bind_apply, h, parameter_ok]

theorem parseFunctionParameters_empty {f : Nat} {st : PState} (h : st.peek.type = .RPAREN) :
    parseFunctionParameters s f st = .ok (([], false), advance s st) := by
  unfold parseFunctionParameters
  simp [bind_apply, h]

/-- the list passes `okParamList` (identifiers, the last one may be `..`): the parameters and the variadic flag -/
theorem parseFunctionParameters_ok {f : Nat} {st st1 : PState} {ids : NList} {t : Option Tk} (h0 : st.peek.type ≠ .RPAREN)
    (h : parseFunctionParametersLoop s f [some (.ident st.peek.tk)] (advance s st) = .ok (ids, st1))
    (hp : st1.peek.type = .RPAREN) (hk : okParamList ids = some (t, true)) :
    parseFunctionParameters s f st = .ok ((ids, t.isSome), advance s st1) := by
  unfold parseFunctionParameters
  simp [bind_apply, h0, parameter_ok, h, expectPeek_ok hp, hk]

theorem parseFunctionLiteral_anon {f : Nat} {st st1 st2 : PState} {params : NList} {variadic : Bool} {body : Stmts}
    (h0 : st.peek.type = .LPAREN) (h1 : parseFunctionParameters s f (advance s st) = .ok ((params, variadic), st1))
    (h2 : st1.peek.type = .LBRACE) (h3 : parseBlockStatement s f (advance s st1) = .ok (body, st2)) (h4 : st2.cont = false) :
    parseFunctionLiteral s (f + 1) st = .ok (some (.func st.cur.tk none params body variadic false), st2) := by
  unfold parseFunctionLiteral
  have hn : st.peek.type ≠ .IDENT := by rw [h0]; decide
  simp [bind_apply, hn, expectPeek_ok h0, h1, expectPeek_ok h2, h3, h4]

theorem parseFunctionLiteral_named {f : Nat} {st st1 st2 : PState} {params : NList} {variadic : Bool} {body : Stmts}
    (hn : st.peek.type = .IDENT) (h0 : (advance s st).peek.type = .LPAREN)
    (h1 : parseFunctionParameters s f (advance s (advance s st)) = .ok ((params, variadic), st1))
    (h2 : st1.peek.type = .LBRACE) (h3 : parseBlockStatement s f (advance s st1) = .ok (body, st2)) (h4 : st2.cont = false) :
    parseFunctionLiteral s (f + 1) st = .ok (some (.func st.cur.tk (some st.peek.tk) params body variadic false), st2) := by
  unfold parseFunctionLiteral
  simp [bind_apply, hn, expectPeek_ok h0, h1, expectPeek_ok h2, h3, h4]

theorem parseForExpression_ok {f : Nat} {st st1 st2 : PState} {cond : ONode} {body : Stmts}
    (h1 : parseExpression s f prioLOWEST (advance s st) = .ok (cond, st1)) (h2 : st1.peek.type = .LBRACE)
    (h3 : parseBlockStatement s f (advance s st1) = .ok (body, st2)) (h4 : st2.cont = false) :
    parseForExpression s (f + 1) st = .ok (some (.forE st.cur.tk cond body), st2) := by
  unfold parseForExpression
  simp [bind_apply, h1, expectPeek_ok h2, h3, h4]

/-- What `parseIfExpression` reads after the first block, from the state `st2`: nothing, `else { … }` or `else if …`;
`alt` is the alternative it stores and `st3` the state it ends in. -/
inductive ElseAt (s : TokStream) (f : Nat) (st2 : PState) : Stmts → PState → Prop
  | none (h5 : st2.peek.type ≠ .ELSE) : ElseAt s f st2 none st2
  | block {alt : Stmts} {st3 : PState} (h5 : st2.peek.type = .ELSE) (h6 : (advance s st2).peek.type = .LBRACE)
      (h7 : parseBlockStatement s f (advance s (advance s st2)) = .ok (alt, st3)) (h8 : st3.cont = false) :
      ElseAt s f st2 alt st3
  | elseif {altN : ONode} {st3 : PState} (h5 : st2.peek.type = .ELSE) (h6 : (advance s st2).peek.type = .IF)
      (h7 : parseIfExpression s f (advance s (advance s st2)) = .ok (altN, st3)) : ElseAt s f st2 (some [altN]) st3

theorem parseIfExpression_ok {f : Nat} {st st1 st2 st3 : PState} {cond : ONode} {cons alt : Stmts}
    (h1 : parseExpression s f prioLOWEST (advance s st) = .ok (cond, st1)) (h2 : st1.peek.type = .LBRACE)
    (h3 : parseBlockStatement s f (advance s st1) = .ok (cons, st2)) (h4 : st2.cont = false) (he : ElseAt s f st2 alt st3) :
    parseIfExpression s (f + 1) st = .ok (some (.ifE st.cur.tk cond cons alt), st3) := by
  conv => lhs; unfold parseIfExpression
  simp only [bind_apply, getSt_apply, nextToken_apply, h1, expectPeek_ok h2]
  cases he with
  | none h5 => simp [bind_apply, h3, h4, h5]
  | block h5 h6 h7 h8 =>
    have hn : (advance s st2).peek.type ≠ .IF := by rw [h6]; decide
    simp [bind_apply, h3, h4, h5, hn, expectPeek_ok h6, h7, h8]
  | elseif h5 h6 h7 => simp [bind_apply, h3, h4, h5, h6, h7]

@[simp] theorem pd_macro (f : Nat) : prefixDispatch s (f + 1) .parseMacroLiteral = parseMacroLiteral s f := rfl
@[simp] theorem pd_map (f : Nat) : prefixDispatch s (f + 1) .parseMapLiteral = parseMapLiteral s f := rfl
@[simp] theorem id_lambda (f : Nat) (l : ONode) : infixDispatch s (f + 1) .parseLambdaExpression l = parseLambdaMulti s f l [] := rfl

theorem parseMacroLiteral_ok {f : Nat} {st st1 st2 : PState} {params : NList} {variadic : Bool} {body : Stmts}
    (h0 : st.peek.type = .LPAREN) (h1 : parseFunctionParameters s f (advance s st) = .ok ((params, variadic), st1))
    (h2 : st1.peek.type = .LBRACE) (h3 : parseBlockStatement s f (advance s st1) = .ok (body, st2)) (h4 : st2.cont = false) :
    parseMacroLiteral s (f + 1) st = .ok (some (.macroLit st.cur.tk params body), st2) := by
  unfold parseMacroLiteral
  simp [bind_apply, expectPeek_ok h0, h1, expectPeek_ok h2, h3, h4]

theorem parseMapLiteral_eq (f : Nat) (st : PState) : parseMapLiteral s (f + 1) st = parseMapLoop s f st.cur.tk [] st := by
  conv => lhs; unfold parseMapLiteral
  simp [bind_apply]

theorem parseMapLoop_close {f : Nat} {st : PState} {tok : Tk} {kvs : NList} (h : st.peek.type = .RBRACE) :
    parseMapLoop s (f + 1) tok kvs st = .ok (some (.mapLit tok kvs), advance s st) := by
  unfold parseMapLoop
  simp [bind_apply, h, expectPeek_ok h]

theorem parseMapLoop_comma {f : Nat} {st st1 : PState} {tok t : Tk} {kvs : NList} {k : Node} {v : ONode}
    (h0 : st.peek.type ≠ .RBRACE) (hc : st.cont = false)
    (h1 : parseExpression s f prioLOWEST (advance s st) = .ok (some (.infix t (some k) v), st1)) (ht : t.type = .COLON)
    (h2 : st1.peek.type = .COMMA) :
    parseMapLoop s (f + 1) tok kvs st = parseMapLoop s f tok (kvs ++ [some k, v]) (advance s st1) := by
  conv => lhs; unfold parseMapLoop
  have hn : st1.peek.type ≠ .RBRACE := by rw [h2]; decide
  simp [bind_apply, h0, hc, h1, ht, hn, expectPeek_ok h2, mapInsert]

theorem parseMapLoop_last {f : Nat} {st st1 : PState} {tok t : Tk} {kvs : NList} {k : Node} {v : ONode}
    (h0 : st.peek.type ≠ .RBRACE) (hc : st.cont = false)
    (h1 : parseExpression s f prioLOWEST (advance s st) = .ok (some (.infix t (some k) v), st1)) (ht : t.type = .COLON)
    (h2 : st1.peek.type = .RBRACE) :
    parseMapLoop s (f + 1) tok kvs st = parseMapLoop s f tok (kvs ++ [some k, v]) st1 := by
  conv => lhs; unfold parseMapLoop
  simp [bind_apply, h0, hc, h1, ht, h2, mapInsert]

/-- `parseExpression` when the prefix expression is followed by `=>` at a level other than LAMBDA: the loop takes it -/
theorem pE_step' {f P : Nat} {st st1 : PState} {fn : PrefixFn} {l : ONode}
    (h1 : st.cur.type ≠ .EOL) (h2 : lookup prefixRegs st.cur.type = some fn)
    (h3 : prefixDispatch s f fn st = .ok (l, st1)) (h4 : ¬ (st1.peek.type = .LAMBDA ∧ P = prioLAMBDA)) :
    parseExpression s (f + 1) P st = parseExpressionLoop s f P l st1 := by
  conv => lhs; unfold parseExpression
  simp [bind_apply, h1, h2, h3, h4]

/-- … and at level LAMBDA: the lambda is built directly -/
theorem pE_lambda5 {f : Nat} {st st1 : PState} {fn : PrefixFn} {l : ONode}
    (h1 : st.cur.type ≠ .EOL) (h2 : lookup prefixRegs st.cur.type = some fn)
    (h3 : prefixDispatch s f fn st = .ok (l, st1)) (h4 : st1.peek.type = .LAMBDA) :
    parseExpression s (f + 1) prioLAMBDA st = parseLambdaMulti s f l [] (advance s st1) := by
  conv => lhs; unfold parseExpression
  simp [bind_apply, h1, h2, h3, h4]

/-- `()` of `() => …`: no expression, no error -/
theorem pE_empty_parens {f P : Nat} {st : PState} (h1 : st.cur.type ≠ .EOL) (h2 : lookup prefixRegs st.cur.type = none)
    (h3 : st.peek.type = .LAMBDA) : parseExpression s (f + 1) P st = .ok (none, st) := by
  unfold parseExpression
  simp [bind_apply, h1, h2, h3]

theorem parseGroupedExpression_lambda0 {f : Nat} {st st1 : PState} {e : ONode}
    (h : parseExpression s f prioLOWEST (advance s st) = .ok (e, st1)) (hp : st1.peek.type = .LAMBDA) :
    parseGroupedExpression s (f + 1) st = parseLambdaMulti s f e [] (advance s st1) := by
  conv => lhs; unfold parseGroupedExpression
  simp [bind_apply, h, hp]

theorem parseGroupedExpression_lambdaN {f : Nat} {st st1 st2 : PState} {e : ONode} {el : NList}
    (h : parseExpression s f prioLOWEST (advance s st) = .ok (e, st1)) (hp : st1.peek.type = .COMMA)
    (h2 : parseExpressionList s f .RPAREN (advance s st1) = .ok (some el, st2)) (hp2 : st2.peek.type = .LAMBDA) :
    parseGroupedExpression s (f + 1) st = parseLambdaMulti s f e el (advance s st2) := by
  conv => lhs; unfold parseGroupedExpression
  simp [bind_apply, h, hp, h2, expectPeek_ok hp2]

/-- `left`, when there is one, is the first parameter -/
theorem parseLambdaMulti_ok {f : Nat} {st st2 : PState} {left : ONode} {more params : NList} {t : Option Tk} {body : Stmts}
    (hpar : (match left with | none => more | some l => some l :: more) = params) (hok : okParamList params = some (t, true))
    (h2 : st.peek.type = .LBRACE) (h3 : parseBlockStatement s f (advance s st) = .ok (body, st2)) (h4 : st2.cont = false) :
    parseLambdaMulti s (f + 1) left more st = .ok (some (.func st.cur.tk none params body t.isSome true), st2) := by
  subst hpar
  unfold parseLambdaMulti
  cases left <;> simp [bind_apply, hok, h2, h3, h4]

end Grol.RT
