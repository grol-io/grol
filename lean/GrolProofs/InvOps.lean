import GrolProofs.InvEnv
/-
Operators on values (lean/Grol/Eval/Ops.lean): results of the list and map operations are well scoped;
`Post` for the infix, comparison, `first`/`rest` and index operators, with the state unchanged (`OkSame`).
-/
namespace Grol.G
open Grol.E Grol.K

variable {P : Policy}

theorem mapGet_ok {n : Nat} {kvs : List (Obj × Obj)} {key v : Obj} (hk : okPairs P n kvs = true)
    (h : mapGet kvs key = .ok (some v)) : okObj P n v = true :=
  mapGet_all (okObj P n · = true) (okPairs_iff.1 hk) h

theorem mapSet_ok {n : Nat} {cfg : Cfg} {big : Bool} {kvs : List (Obj × Obj)} {key val : Obj}
    {r : Bool × List (Obj × Obj)} (hk : okPairs P n kvs = true) (hkey : okObj P n key = true)
    (hval : okObj P n val = true) (h : mapSet cfg big kvs key val = .ok r) : okPairs P n r.2 = true :=
  okPairs_iff.2 (mapSet_all (okObj P n · = true) (okPairs_iff.1 hk) hkey hval h)

theorem mapDelete_ok {n : Nat} {kvs kvs' : List (Obj × Obj)} {key : Obj} (hk : okPairs P n kvs = true)
    (h : mapDelete kvs key = .ok (some kvs')) : okPairs P n kvs' = true :=
  okPairs_iff.2 (mapDelete_all (okObj P n · = true) (okPairs_iff.1 hk) h)

theorem mapAppend_ok {n : Nat} {cfg : Cfg} {lbig : Bool} {l r : List (Obj × Obj)} {res : Bool × List (Obj × Obj)}
    (hl : okPairs P n l = true) (hr : okPairs P n r = true) (h : mapAppend cfg lbig l r = .ok res) :
    okPairs P n res.2 = true :=
  okPairs_iff.2 (mapAppend_all (okObj P n · = true) (okPairs_iff.1 hl) (okPairs_iff.1 hr) h)

abbrev OkSame (P : Policy) (st : St) : Obj → St → Prop := fun v s => s = st ∧ okObj P st.frames.size v = true

theorem np_unmodelled {w : String} : ∀ s, Stop.unmodelled w ≠ .goPanic s := fun _ h => by cases h

theorem okObj_err {n : Nat} {m : String} : okObj P n (err m) = true := by simp [err, okObj]

theorem okList_append {n : Nat} {a b : List Obj} (ha : okList P n a = true) (hb : okList P n b = true) :
    okList P n (a ++ b) = true := by
  rw [okList_iff] at *
  intro x hx
  rcases List.mem_append.1 hx with h | h
  · exact ha x h
  · exact hb x h

theorem okList_take {n k : Nat} {a : List Obj} (ha : okList P n a = true) : okList P n (a.take k) = true := by
  rw [okList_iff] at *
  exact fun x hx => ha x (List.mem_of_mem_take hx)

theorem okList_drop {n k : Nat} {a : List Obj} (ha : okList P n a = true) : okList P n (a.drop k) = true := by
  rw [okList_iff] at *
  exact fun x hx => ha x (List.mem_of_mem_drop hx)

theorem okPairs_take {n k : Nat} {a : List (Obj × Obj)} (ha : okPairs P n a = true) : okPairs P n (a.take k) = true := by
  rw [okPairs_iff] at *
  exact fun x hx => ha x (List.mem_of_mem_take hx)

theorem okPairs_drop {n k : Nat} {a : List (Obj × Obj)} (ha : okPairs P n a = true) : okPairs P n (a.drop k) = true := by
  rw [okPairs_iff] at *
  exact fun x hx => ha x (List.mem_of_mem_drop hx)

theorem okList_set {n k : Nat} {a : List Obj} {v : Obj} (ha : okList P n a = true) (hv : okObj P n v = true) :
    okList P n (a.set k v) = true := by
  rw [okList_iff] at *
  intro x hx
  rcases List.mem_or_eq_of_mem_set hx with h | h
  · exact ha x h
  · subst h; exact hv

theorem okList_reverse {n : Nat} {a : List Obj} (ha : okList P n a = true) : okList P n a.reverse = true := by
  rw [okList_iff] at *
  exact fun x hx => ha x (List.mem_reverse.1 hx)

theorem okList_repeat {n : Nat} {a : List Obj} (ha : okList P n a = true) : ∀ k, okList P n (repeatList a k) = true
  | 0 => by simp [repeatList, okList]
  | k + 1 => by unfold repeatList; exact okList_append ha (okList_repeat ha k)

theorem okList_int64Range {n : Nat} (l r : Int64) : okList P n (int64Range l r) = true := by
  rw [okList_iff]
  intro x hx
  unfold int64Range at hx
  simp only [List.mem_map] at hx
  obtain ⟨i, _, rfl⟩ := hx
  simp [okObj]

theorem okObj_getD {n : Nat} {a : List Obj} (ha : okList P n a = true) (k : Nat) : okObj P n (a.getD k .null) = true := by
  rw [List.getD_eq_getElem?_getD]
  cases h : a[k]? with
  | none => simp [okObj]
  | some x => exact (okList_iff.1 ha) x (List.mem_of_getElem? h)

theorem post_mustBeOk {st : St} (hI : Inv P st) (n : Int) : Post P (mustBeOk n) st (fun _ s => s = st) := by
  unfold mustBeOk
  split
  · exact Post.stop hI np_unmodelled
  · exact Post.pure hI rfl

theorem mustBeOk_bind {st : St} (hI : Inv P st) (n : Int) {f : Unit → M β} {R : β → St → Prop}
    (h : Post P (f ()) st R) : Post P (mustBeOk n >>= f) st R := by
  refine Post.bind (post_mustBeOk hI n) ?_
  rintro _ s _ _ rfl
  exact h

theorem post_evalIntegerInfix {st : St} (hI : Inv P st) (op : String) (l r : Int64) :
    Post P (evalIntegerInfix op l r) st (OkSame P st) := by
  obtain ⟨v, hv, h | ⟨n, h⟩⟩ := evalIntegerInfix_val op l r (Q := fun v => okObj P st.frames.size v = true)
    (fun _ => rfl) (fun _ => okObj_err) (okList_int64Range l r)
  · rw [h]; exact Post.pure hI ⟨rfl, hv⟩
  · rw [h]; exact mustBeOk_bind hI n (Post.pure hI ⟨rfl, hv⟩)

theorem post_evalFloatInfix {st : St} (hI : Inv P st) (op : String) (l r : Obj) :
    Post P (evalFloatInfix op l r) st (OkSame P st) := by
  unfold evalFloatInfix
  split
  · split
    all_goals first
      | exact Post.pure hI ⟨rfl, rfl⟩
      | exact Post.stop hI np_unmodelled
  · exact Post.pure hI ⟨rfl, okObj_err⟩

theorem post_evalStringInfix {st : St} (hI : Inv P st) (op : String) (l : List UInt8) (r : Obj) :
    Post P (evalStringInfix op l r) st (OkSame P st) := by
  unfold evalStringInfix
  split
  · refine mustBeOk_bind hI _ ?_    -- the memory budget check of string + string
    exact Post.pure hI ⟨rfl, rfl⟩
  · split
    · exact Post.pure hI ⟨rfl, okObj_err⟩
    · refine mustBeOk_bind hI _ ?_
      split <;> exact Post.pure hI ⟨rfl, rfl⟩
  · exact Post.pure hI ⟨rfl, okObj_err⟩

theorem post_evalArrayInfix {st : St} (hI : Inv P st) (op : String) {l : List Obj} {r : Obj}
    (hl : okList P st.frames.size l = true) (hr : okObj P st.frames.size r = true) :
    Post P (evalArrayInfix op l r) st (OkSame P st) := by
  unfold evalArrayInfix
  split
  · split
    · exact Post.pure hI ⟨rfl, okObj_err⟩
    · split
      · exact Post.pure hI ⟨rfl, okObj_err⟩
      · refine mustBeOk_bind hI _ ?_
        split
        · exact Post.pure hI ⟨rfl, by simp [newArray, okObj, okList]⟩
        · exact Post.pure hI ⟨rfl, by simp only [newArray, okObj]; exact okList_repeat hl _⟩
  · split
    · next r' =>
      refine mustBeOk_bind hI _ ?_
      refine Post.pure hI ⟨rfl, ?_⟩
      simp only [newArray, okObj] at hr ⊢
      exact okList_append hl hr
    · refine Post.bind (post_valueOf hI hr) ?_
      rintro v s hIs _ ⟨rfl, hv, _⟩
      refine Post.pure hIs ⟨rfl, ?_⟩
      simp only [newArray, okObj]
      exact okList_append hl (by simp [okList, hv])
  · exact Post.pure hI ⟨rfl, okObj_err⟩

theorem post_equalsM {st : St} (hI : Inv P st) {a b : Obj} (ha : okObj P st.frames.size a = true)
    (hb : okObj P st.frames.size b = true) : Post P (equalsM a b) st (fun _ s => s = st) := by
  unfold equalsM
  try dsimp only
  split
  · exact Post.pure hI rfl
  · refine Post.bind (post_valueOf hI ha) ?_
    rintro x s hIs _ ⟨rfl, _, _⟩
    refine Post.bind (post_valueOf hIs hb) ?_
    rintro y s hIs' _ ⟨rfl, _, _⟩
    refine Post.bind (Q := fun _ s' => s' = s) (Post.liftR hIs' (cmp_npr x y) (fun _ _ => rfl)) ?_
    rintro c s' hIs'' _ rfl
    exact Post.pure hIs'' rfl

theorem post_cmpM {st : St} (hI : Inv P st) {a b : Obj} (ha : okObj P st.frames.size a = true)
    (hb : okObj P st.frames.size b = true) : Post P (cmpM a b) st (fun _ s => s = st) := by
  unfold cmpM
  refine Post.bind (post_valueOf hI ha) ?_
  rintro x s hIs _ ⟨rfl, _, _⟩
  refine Post.bind (post_valueOf hIs hb) ?_
  rintro y s hIs' _ ⟨rfl, _, _⟩
  exact Post.liftR hIs' (cmp_npr x y) (fun _ _ => rfl)

theorem post_boolOf {st : St} {x : M α} {g : α → Bool} (h : Post P x st (fun _ s => s = st)) :
    Post P (x >>= fun a => pure (boolObj (g a))) st (OkSame P st) := by
  refine Post.bind h ?_
  rintro a s hIs _ rfl
  exact Post.pure hIs ⟨rfl, by simp [boolObj, okObj]⟩

theorem post_evalInfixOp {st : St} (hI : Inv P st) (op : String) {l r : Obj} (hl : okObj P st.frames.size l = true)
    (hr : okObj P st.frames.size r = true) : Post P (evalInfixOp op l r) st (OkSame P st) := by
  unfold evalInfixOp
  split
  · exact post_boolOf (g := fun b => b) (post_equalsM hI hl hr)
  · exact post_boolOf (g := fun b => !b) (post_equalsM hI hl hr)
  · exact post_boolOf (g := fun c => c == 1) (post_cmpM hI hl hr)
  · exact post_boolOf (g := fun c => c == -1) (post_cmpM hI hl hr)
  · exact post_boolOf (g := fun c => decide (c ≥ 0)) (post_cmpM hI hl hr)
  · exact post_boolOf (g := fun c => decide (c ≤ 0)) (post_cmpM hI hl hr)
  · exact Post.pure hI ⟨rfl, by simp [boolObj, okObj]⟩
  · exact Post.pure hI ⟨rfl, by simp [boolObj, okObj]⟩
  · split
    · exact post_evalIntegerInfix hI _ _ _
    · exact post_evalFloatInfix hI _ _ _
    · exact post_evalFloatInfix hI _ _ _
    · exact post_evalStringInfix hI _ _ _
    · next l' _ _ _ => exact post_evalArrayInfix hI _ (by simpa [okObj] using hl) hr
    · split
      · refine Post.bind_read (runM_get st) ?_
        simp only [okObj] at hl hr
        have hl' := hl
        have hr' := hr
        refine Post.bind (Q := fun res s => s = st ∧ okPairs P st.frames.size res.2 = true)
          (Post.liftR hI (mapAppend_npr _ _ _ _) (fun res hres => ⟨rfl, mapAppend_ok hl' hr' hres⟩)) ?_
        rintro ⟨big', kvs⟩ s hIs _ ⟨rfl, hk⟩
        exact Post.pure hIs ⟨rfl, by simpa [okObj] using hk⟩
      · exact Post.pure hI ⟨rfl, okObj_err⟩
    · exact Post.pure hI ⟨rfl, okObj_err⟩

theorem okObj_makeFirst {n : Nat} {k v : Obj} (hk : okObj P n k = true) (hv : okObj P n v = true) :
    okObj P n (makeFirst k v) = true := by
  simp [makeFirst, okObj, okPairs, keyKey, valueKey, hk, hv]

theorem post_objFirst {st : St} (hI : Inv P st) {o : Obj} (ho : okObj P st.frames.size o = true) :
    Post P (objFirst o) st (OkSame P st) := by
  unfold objFirst
  split
  · exact Post.pure hI ⟨rfl, rfl⟩
  · exact Post.pure hI ⟨rfl, rfl⟩
  · next x xs =>
    simp only [okObj, okList, Bool.and_eq_true] at ho
    exact Post.pure hI ⟨rfl, ho.1⟩
  · exact Post.pure hI ⟨rfl, rfl⟩
  · next k v xs =>
    simp only [okObj, okPairs, Bool.and_eq_true] at ho
    exact Post.pure hI ⟨rfl, okObj_makeFirst ho.1.1 ho.1.2⟩
  · exact Post.pure hI ⟨rfl, rfl⟩
  · split
    · exact Post.pure hI ⟨rfl, rfl⟩
    · split <;> exact Post.stop hI np_unmodelled
  · next f =>
    refine Post.pure hI ⟨rfl, ?_⟩
    simp only [newArray, okObj]
    rw [okList_iff]
    intro x hx
    simp only [List.mem_map] at hx
    obtain ⟨p, _, rfl⟩ := hx
    rfl
  · exact Post.pure hI ⟨rfl, okObj_err⟩

theorem post_objRest {st : St} (hI : Inv P st) {o : Obj} (ho : okObj P st.frames.size o = true) :
    Post P (objRest o) st (OkSame P st) := by
  unfold objRest
  split
  · exact Post.pure hI ⟨rfl, rfl⟩
  · split
    · exact Post.pure hI ⟨rfl, rfl⟩
    · split
      · exact Post.pure hI ⟨rfl, rfl⟩
      · exact Post.stop hI np_unmodelled
  · next els =>
    split
    · exact Post.pure hI ⟨rfl, rfl⟩
    · refine Post.pure hI ⟨rfl, ?_⟩
      simp only [newArray, okObj] at ho ⊢
      exact okList_drop ho
  · next big kvs =>
    split
    · exact Post.pure hI ⟨rfl, rfl⟩
    · refine Post.bind_read (runM_get st) ?_
      refine Post.pure hI ⟨rfl, ?_⟩
      simp only [okObj] at ho ⊢
      exact okPairs_drop ho
  · exact Post.stop hI np_unmodelled
  · exact Post.pure hI ⟨rfl, okObj_err⟩

theorem okObj_ite {n : Nat} {c : Prop} [Decidable c] {a b : Obj} (ha : okObj P n a = true) (hb : okObj P n b = true) :
    okObj P n (if c then a else b) = true := by
  split <;> assumption

theorem okObj_arrayIndex {n : Nat} {els : List Obj} (h : okList P n els = true) (idx : Int64) :
    okObj P n (arrayIndex els idx) = true := by
  unfold arrayIndex
  exact okObj_ite rfl (okObj_getD h _)

theorem post_indexIdx {st : St} (hI : Inv P st) {left index : Obj} (hl : okObj P st.frames.size left = true) :
    Post P (indexIdx left index) st (OkSame P st) := by
  unfold indexIdx
  dsimp only
  split
  · exact Post.ite (fun _ => Post.pure hI ⟨rfl, rfl⟩) (fun _ => Post.pure hI ⟨rfl, rfl⟩)
  · simp only [okObj] at hl
    exact Post.pure hI ⟨rfl, okObj_arrayIndex hl _⟩
  · simp only [okObj] at hl
    have hk := hl
    refine Post.bind (Q := fun r s => s = st ∧ ∀ v, r = some v → okObj P st.frames.size v = true)
      (Post.liftR hI (mapGet_npr _ _) (fun r hr => ⟨rfl, fun v hv => by subst hv; exact mapGet_ok hk hr⟩)) ?_
    rintro r s hIs _ ⟨rfl, hr⟩
    split
    · next v => exact Post.pure hIs ⟨rfl, hr v rfl⟩
    · exact Post.pure hIs ⟨rfl, rfl⟩
  · exact Post.pure hI ⟨rfl, rfl⟩
  · exact Post.pure hI ⟨rfl, okObj_err⟩

theorem okObj_evalPrefixOp {n : Nat} (op : String) {r : Obj} (h : okObj P n r = true) :
    okObj P n (evalPrefixOp op r) = true := by
  unfold evalPrefixOp
  split
  · exact h
  · unfold evalBang; split <;> rfl
  · unfold evalMinus; split <;> rfl
  · split <;> rfl
  · split <;> rfl
  · exact h
  · exact okObj_err

end Grol.G
