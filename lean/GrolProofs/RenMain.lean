import GrolProofs.RenWalk
/-
C10 (two-run simulation): the mutually recursive tree walker, by induction on the fuel.  The simulation
is a `Walk` without dirty bindings, in which every frame may be touched; `applyFunction` (the cache is on, and
both runs hit or miss alike) and `evalDelete` are treated here.
-/
namespace Grol.R
open Grol.E Calc

/-- the statement proved for every function of the mutual block, at a given fuel: run from related
states on renamed arguments, the two runs end the same way, in related states, with renamed results -/
structure SimSpec (σ : Sh) (fuel : Nat) : Prop where
  eval : ∀ node s t, StR σ s t → SimAt σ (eval fuel node) (eval fuel node) s t (QO σ)
  evalI : ∀ node s t, StR σ s t → SimAt σ (evalI fuel node) (evalI fuel node) s t (QO σ)
  evalStatements : ∀ l res s t, StR σ s t →
    SimAt σ (evalStatements fuel l (ren σ res)) (evalStatements fuel l res) s t (QO σ)
  evalExpressions : ∀ l acc s t, StR σ s t →
    SimAt σ (evalExpressions fuel l (renL σ acc)) (evalExpressions fuel l acc) s t (fun a b => a = renEx σ b)
  evalAssignment : ∀ right op left s t, StR σ s t →
    SimAt σ (evalAssignment fuel (ren σ right) op left) (evalAssignment fuel right op left) s t (QO σ)
  evalIf : ∀ c cons alt s t, StR σ s t → SimAt σ (evalIf fuel c cons alt) (evalIf fuel c cons alt) s t (QO σ)
  evalFor : ∀ c body s t, StR σ s t → SimAt σ (evalFor fuel c body) (evalFor fuel c body) s t (QO σ)
  evalForLoop : ∀ c body last s t, StR σ s t →
    SimAt σ (evalForLoop fuel c body (ren σ last)) (evalForLoop fuel c body last) s t (QO σ)
  evalForSpecialForms : ∀ c body s t, StR σ s t →
    SimAt σ (evalForSpecialForms fuel c body) (evalForSpecialForms fuel c body) s t (QOpt σ)
  evalForInteger : ∀ body i endV name last s t, StR σ s t →
    SimAt σ (evalForInteger fuel body i endV name (ren σ last)) (evalForInteger fuel body i endV name last) s t (QO σ)
  evalForList : ∀ body list name last s t, StR σ s t →
    SimAt σ (evalForList fuel body (ren σ list) name (ren σ last)) (evalForList fuel body list name last) s t (QO σ)
  evalBuiltin : ∀ tk ps s t, StR σ s t → SimAt σ (evalBuiltin fuel tk ps) (evalBuiltin fuel tk ps) s t (QO σ)
  evalPrint : ∀ tk ps first buf s t, StR σ s t →
    SimAt σ (evalPrint fuel tk ps first buf) (evalPrint fuel tk ps first buf) s t (QO σ)
  evalDelete : ∀ node s t, StR σ s t → SimAt σ (evalDelete fuel node) (evalDelete fuel node) s t (QO σ)
  evalIndexExpression : ∀ left tok i s t, StR σ s t →
    SimAt σ (evalIndexExpression fuel (ren σ left) tok i) (evalIndexExpression fuel left tok i) s t (QO σ)
  evalIndexRange : ∀ left li ri s t, StR σ s t →
    SimAt σ (evalIndexRange fuel (ren σ left) li ri) (evalIndexRange fuel left li ri) s t (QO σ)
  evalMapLiteral : ∀ ks vs big acc s t, StR σ s t →
    SimAt σ (evalMapLiteral fuel ks vs big (renP σ acc)) (evalMapLiteral fuel ks vs big acc) s t (QO σ)
  applyExtension : ∀ name args s t, StR σ s t →
    SimAt σ (applyExtension fuel name (renL σ args)) (applyExtension fuel name args) s t (QO σ)
  applyFunction : ∀ fn args s t, StR σ s t →
    SimAt σ (applyFunction fuel (ren σ fn) (renL σ args)) (applyFunction fuel fn args) s t (QO σ)

theorem SimAt.set {σ : Sh} {s t s' t' : St} (h : StR σ s' t') :
    SimAt σ (set s' : M Unit) (set t' : M Unit) s t (fun _ _ => True) := by
  unfold SimAt; rw [runM_set, runM_set]; exact ⟨h, trivial⟩

theorem SimAt.modify {σ : Sh} {s t : St} {g g' : St → St} (h : StR σ (g s) (g' t)) :
    SimAt σ (modify g : M Unit) (modify g' : M Unit) s t (fun _ _ => True) := by
  unfold SimAt; rw [runM_modify, runM_modify]; exact ⟨h, trivial⟩

def simAtWalk (σ : Sh) : Walk (Qp.plain σ) where
  toLeaves := simAtLeaves σ
  Cur := fun _ => True
  curOk := fun _ => trivial
  envGet := fun e name _ => simAt_leaf trStep.envGet fun _ _ hR =>
    (sim_envGet hR e name).mono fun _ _ h => ⟨h, fun v _ => clean_plain σ v⟩
  envSet := fun e name val _ _ => simAt_leaf trStep.envSet fun _ _ hR => (sim_envSet hR e name val).clean
  createOrSet := fun e name val create _ _ => simAt_leaf trStep.createOrSet fun _ _ hR =>
    (sim_createOrSet hR e name val create).clean
  refValue := fun e name _ => simAt_leaf trStep.refValue fun _ _ hR =>
    (sim_refValue hR e name).mono fun _ b h => ⟨h.1, clean_plain σ b⟩

variable {σ : Sh} {s t : St}

theorem sim_evalIdentifier (hR : StR σ s t) (name : String) :
    SimAt σ (evalIdentifier name) (evalIdentifier name) s t (QO σ) := ((simAtWalk σ).evalIdentifier name).plain hR

theorem sim_evalPrefixIncrDecr (hR : StR σ s t) (op : String) (node : Node) :
    SimAt σ (evalPrefixIncrDecr op node) (evalPrefixIncrDecr op node) s t (QO σ) :=
  ((simAtWalk σ).evalPrefixIncrDecr op node).plain hR

theorem sim_evalPostfix (hR : StR σ s t) (op : String) (id : String) :
    SimAt σ (evalPostfix op id) (evalPostfix op id) s t (QO σ) := ((simAtWalk σ).evalPostfix op id).plain hR

theorem sim_evalIndexAssignment (hR : StR σ s t) (which : Node) (index value : Obj) :
    SimAt σ (evalIndexAssignment which (ren σ index) (ren σ value)) (evalIndexAssignment which index value) s t (QO σ) :=
  ((simAtWalk σ).evalIndexAssignment which index value (fun _ => clean_plain σ index) fun _ => clean_plain σ value).plain hR

theorem sim_deleteMapEntry (hR : StR σ s t) (left : Node) (index : Obj) :
    SimAt σ (deleteMapEntry left (ren σ index)) (deleteMapEntry left index) s t (QO σ) :=
  ((simAtWalk σ).deleteMapEntry left index).plain hR

theorem sim_derefList : ∀ (l : List Obj) (s t : St), StR σ s t →
    SimAt σ (derefList (renL σ l)) (derefList l) s t (fun a b => a = renL σ b) :=
  fun l _ _ hR => ((simAtWalk σ).derefList l fun _ => cleanL_plain σ l).plain hR

theorem applyFunction_sim_step {σ : Sh} {fuel : Nat}
    (ih : ∀ node s t, StR σ s t → SimAt σ (eval fuel node) (eval fuel node) s t (QO σ)) : ∀ fn args s t, StR σ s t →
    SimAt σ (applyFunction (fuel + 1) (ren σ fn) (renL σ args)) (applyFunction (fuel + 1) fn args) s t (QO σ) := by
  intro fn args s t hR
  cases fn with
  | func f =>
    simp only [ren]
    unfold Grol.E.applyFunction
    dsimp only
    have hk : (renFn σ f).key = f.key := rfl
    have hb : (renFn σ f).body = f.body := rfl
    rw [hk, hb]
    refine sim_curEnv_bind hR ?_
    refine sim_getFrame_bind hR t.cur ?_
    intro cfs0 cft0 _ _ hcfr0
    try dsimp only
    rw [sameFunction_ren σ hcfr0.cacheKey hcfr0.function f, hcfr0.localFunc]
    have hcg : SimAt σ (if (cft0.localFunc && sameFunction cft0 f) = true then pure none else cacheGet f.key (renL σ args))
        (if (cft0.localFunc && sameFunction cft0 f) = true then pure none else cacheGet f.key args) s t
        (fun a b => a = b.map (fun p => (ren σ p.1, p.2))) :=
      SimAt.ite (fun _ => SimAt.pure hR rfl) (fun _ => sim_cacheGet hR f.key args)
    refine SimAt.bind hcg ?_
    rintro _ r s1 t1 hR1 rfl
    cases r with
    | some vo =>
      obtain ⟨v, output⟩ := vo
      simp only [Option.map]
      refine SimAt.ite (fun _ => ?_) (fun _ => SimAt.pure hR1 rfl)
      exact SimAt.bind (sim_writeOut hR1 output) (fun _ _ s2 t2 hR2 _ => SimAt.pure hR2 rfl)
    | none =>
      simp only [Option.map]
      refine SimAt.bind (sim_extendFunctionEnv hR1 f args) ?_
      rintro _ r1 s2 t2 hR2 ⟨rfl, hn0⟩
      cases r1 with
      | error e => exact SimAt.pure hR2 rfl
      | ok nenv =>
        have hnenv := hn0 nenv rfl
        simp only [renX]
        refine sim_curEnv_bind hR2 ?_
        refine SimAt.bind (Q := fun _ _ => True) (SimAt.modify (g := fun st => { st with cur := sh σ nenv, outs := [] :: st.outs })
          (g' := fun st => { st with cur := nenv, outs := [] :: st.outs })
          ⟨hR2.cfg, hR2.extNames, hR2.depth, hR2.steps, by simp only [hR2.outs], hR2.cache, rfl, hR2.root, hR2.size, hR2.n0,
            hR2.pos, hR2.frames, hR2.dec⟩) ?_
        intro _ _ s3 t3 hR3 _
        refine SimAt.bind (ih _ _ _ hR3) ?_
        rintro _ res s4 t4 hR4 rfl
        refine sim_getFrame_bind hR4 nenv ?_
        intro fs1 ft1 _ _ hfr1
        rw [(hfr1.counters hnenv).1, (hfr1.counters hnenv).2.1]
        refine SimAt.bind_read (runM_get s4) (runM_get t4) ?_
        rw [hR4.outs]
        try dsimp only
        refine SimAt.bind (Q := fun _ _ => True) (SimAt.set ?_) ?_
        · exact ⟨hR4.cfg, hR4.extNames, hR4.depth, hR4.steps, rfl, hR4.cache, rfl, hR4.root, hR4.size, hR4.n0,
            hR4.pos, hR4.frames, hR4.dec⟩
        · intro _ _ s5 t5 hR5 _
          exact sim_finishCall hR5 f args t2.cur _ _ _ res _
  | _ =>
    all_goals
      simp only [ren]
      unfold Grol.E.applyFunction
      exact SimAt.pure hR rfl

theorem evalDelete_sim_step {σ : Sh} {fuel : Nat} {learnt : Prop} (ih : (simAtWalk σ).Spec fuel) (node : Node) :
    (simAtWalk σ).J learnt (evalDelete (fuel + 1) node) (evalDelete (fuel + 1) node) (QOq (Qp.plain σ)) := by
  unfold Grol.E.evalDelete
  refine (simAtWalk σ).curEnv_bind fun e => ((simAtWalk σ).triggerNoCache e).seq ?_
  split
  · refine J.ite (fun _ => .const _) (fun _ => ?_)
    extract_lets jp
    have hjp : ∀ {learnt : Prop}, (simAtWalk σ).J learnt (jp ()) (jp ()) (QOq (Qp.plain σ)) := by
      intro _
      unfold jp
      exact (simAtWalk σ).curEnv_bind fun e => .of (trClosed.envDelete _ _) fun _ _ hR => (sim_envDelete hR e _).clean
    exact J.ite (fun _ => J.modify_bind (fun _ => rfl) (fun _ _ h => StR.clearCache h) hjp) (fun _ => hjp)
  · exact J.ite (fun _ => .const _) (fun _ => (simAtWalk σ).deleteMapEntry _ (.str _))
  · refine J.bind (ih.eval _) fun index => ?_
    rw [ren_isError]
    exact J.ite (fun _ => J.pure fun h => ⟨rfl, h.2⟩) (fun _ => (simAtWalk σ).deleteMapEntry _ index)
  · exact .const _

theorem simWalk_all (σ : Sh) : ∀ fuel, (simAtWalk σ).Spec fuel
  | 0 => .zero _
  | fuel + 1 =>
    have ih := simWalk_all σ fuel
    ih.succ (evalDelete_sim_step ih) fun fn args _ => .of ((allTr (fuel + 1)).applyFunction _ _) fun s t hR =>
      (applyFunction_sim_step (fun node _ _ hR => (ih.eval node).plain hR) fn args s t hR).clean

/-- every function of the tree walker, at every fuel, runs in lockstep in the two runs -/
theorem simSpec_all (σ : Sh) (fuel : Nat) : SimSpec σ fuel :=
  have S := simWalk_all σ fuel
  have cl := clean_plain σ
  { eval := fun node _ _ hR => (S.eval node).plain hR
    evalI := fun node _ _ hR => (S.evalI node).plain hR
    evalStatements := fun l res _ _ hR => (S.evalStatements l res fun _ => cl res).plain hR
    evalExpressions := fun l acc _ _ hR => (S.evalExpressions l acc fun _ => cleanL_plain σ acc).plain hR
    evalAssignment := fun right op left _ _ hR => (S.evalAssignment right op left fun _ => cl right).plain hR
    evalIf := fun c cons alt _ _ hR => (S.evalIf c cons alt).plain hR
    evalFor := fun c body _ _ hR => (S.evalFor c body).plain hR
    evalForLoop := fun c body last _ _ hR => (S.evalForLoop c body last fun _ => cl last).plain hR
    evalForSpecialForms := fun c body _ _ hR => (S.evalForSpecialForms c body).plain hR
    evalForInteger := fun body i endV name last _ _ hR =>
      (S.evalForInteger body i endV name last fun _ => cl last).plain hR
    evalForList := fun body list name last _ _ hR =>
      (S.evalForList body list name last (fun _ => cl list) fun _ => cl last).plain hR
    evalBuiltin := fun tk ps _ _ hR => (S.evalBuiltin tk ps).plain hR
    evalPrint := fun tk ps first buf _ _ hR => (S.evalPrint tk ps first buf).plain hR
    evalDelete := fun node _ _ hR => (S.evalDelete node).plain hR
    evalIndexExpression := fun left tok i _ _ hR => (S.evalIndexExpression left tok i fun _ => cl left).plain hR
    evalIndexRange := fun left li ri _ _ hR => (S.evalIndexRange left li ri fun _ => cl left).plain hR
    evalMapLiteral := fun ks vs big acc _ _ hR => (S.evalMapLiteral ks vs big acc fun _ => cleanP_plain σ acc).plain hR
    applyExtension := fun name args _ _ hR => (S.applyExtension name args).plain hR
    applyFunction := fun fn args _ _ hR => (S.applyFunction fn args fun _ => cleanL_plain σ args).plain hR }

end Grol.R
