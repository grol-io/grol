import GrolProofs.EvalInv
/-
The pure value operations (lean/Grol/Eval/Values.lean) never panic.
-/
namespace Grol.E

/-- one layer of `cmp`: a value, or declined, or the comparison of the components of `a` -/
theorem cmp_npr_step (a b : Obj)
    (ih : match a with
      | .array as => ∀ bs, NPR (cmpList as bs)
      | .map _ as => ∀ bs, NPR (cmpPairs as bs)
      | .ret a' _ => ∀ b', NPR (cmp a' b')
      | _ => True) : NPR (cmp a b) := by
  unfold cmp
  split
  all_goals first
    | exact NPR.pure _
    | exact NPR.throw_unmodelled _
    | skip
  · next bs => exact .ite (.pure _) (.ite (.pure _) (ih bs))
  · next bs => exact .ite (.pure _) (.ite (.pure _) (ih bs))
  · next b' _ => exact ih b'

mutual
theorem cmp_npr : ∀ (a b : Obj), NPR (cmp a b)
  | .array as, b => cmp_npr_step (.array as) b (cmpList_npr as)
  | .map big as, b => cmp_npr_step (.map big as) b (cmpPairs_npr as)
  | .ret a' k, b => cmp_npr_step (.ret a' k) b (cmp_npr a')
  | .null, b | .bool _, b | .int _, b | .float _, b | .str _, b | .func _, b | .ext _, b | .error _, b | .ref .., b
  | .quote _, b => cmp_npr_step _ b trivial
termination_by structural a => a
theorem cmpList_npr : ∀ (a b : List Obj), NPR (cmpList a b)
  | a :: as, b :: bs => by
    unfold cmpList
    exact NPR.bind (cmp_npr a b) fun _ _ => .ite (.pure _) (cmpList_npr as bs)
  | [], _ => by unfold cmpList; exact NPR.pure _
  | _ :: _, [] => by unfold cmpList; exact NPR.pure _
termination_by structural a => a
theorem cmpPairs_npr : ∀ (a b : List (Obj × Obj)), NPR (cmpPairs a b)
  | (ka, va) :: as, (kb, vb) :: bs => by
    unfold cmpPairs
    exact NPR.bind (cmp_npr ka kb) fun _ _ => .ite (.pure _) <|
      NPR.bind (cmp_npr va vb) fun _ _ => .ite (.pure _) (cmpPairs_npr as bs)
  | [], _ => by unfold cmpPairs; exact NPR.pure _
  | _ :: _, [] => by unfold cmpPairs; exact NPR.pure _
termination_by structural a => a
end

theorem quoteByte_npr (b : UInt8) : NPR (quoteByte b) := by
  unfold quoteByte
  iterate 11 refine NPR.ite (NPR.pure _) ?_
  exact NPR.throw_unmodelled _

theorem quoteBody_npr : ∀ (s : List UInt8), NPR (quoteBody s)
  | [] => NPR.pure _
  | b :: rest => by
    unfold quoteBody
    refine NPR.bind (quoteByte_npr b) (fun _ _ => ?_)
    exact NPR.bind (quoteBody_npr rest) (fun _ _ => NPR.pure _)

theorem quoteBytes_npr (s : List UInt8) : NPR (quoteBytes s) := by
  unfold quoteBytes
  exact NPR.bind (quoteBody_npr s) (fun _ _ => NPR.pure _)

theorem floatStr_npr (b : UInt64) : NPR (floatStr b) := by
  unfold floatStr
  exact .ite (.pure _) (.ite (.pure _) (.ite (.ite (.pure _) (.pure _)) (NPR.throw_unmodelled _)))

/-- one layer of `inspect`: a text, or declined, or built from the texts of the components of `o` -/
theorem inspect_npr_step (o : Obj)
    (ih : match o with
      | .array els => NPR (inspectList els)
      | .map _ kvs => NPR (inspectPairs kvs)
      | .ret v _ => NPR (inspect v)
      | _ => True) : NPR (inspect o) := by
  unfold inspect
  split
  all_goals first
    | exact NPR.pure _
    | exact NPR.throw_unmodelled _
    | skip
  · next b => exact NPR.bind (floatStr_npr b) (fun _ _ => NPR.pure _)
  · next s => exact quoteBytes_npr s
  · exact NPR.bind ih (fun _ _ => NPR.pure _)
  · exact NPR.bind ih (fun _ _ => NPR.pure _)
  · split
    · exact NPR.pure _
    · exact NPR.throw_unmodelled _
  · exact ih

mutual
theorem inspect_npr : ∀ (o : Obj), NPR (inspect o)
  | .array els => inspect_npr_step (.array els) (inspectList_npr els)
  | .map big kvs => inspect_npr_step (.map big kvs) (inspectPairs_npr kvs)
  | .ret v k => inspect_npr_step (.ret v k) (inspect_npr v)
  | .null | .bool _ | .int _ | .float _ | .str _ | .func _ | .ext _ | .error _ | .ref .. | .quote _ =>
    inspect_npr_step _ trivial
termination_by structural o => o
theorem inspectList_npr : ∀ (l : List Obj), NPR (inspectList l)
  | [] => by unfold inspectList; exact NPR.pure _
  | [x] => by unfold inspectList; exact inspect_npr x
  | x :: y :: xs => by
    unfold inspectList
    exact NPR.bind (inspect_npr x) fun _ _ => NPR.bind (inspectList_npr (y :: xs)) fun _ _ => NPR.pure _
termination_by structural l => l
theorem inspectPairs_npr : ∀ (l : List (Obj × Obj)), NPR (inspectPairs l)
  | [] => by unfold inspectPairs; exact NPR.pure _
  | [(k, v)] => by
    unfold inspectPairs
    exact NPR.bind (inspect_npr k) fun _ _ => NPR.bind (inspect_npr v) fun _ _ => NPR.pure _
  | (k, v) :: y :: xs => by
    unfold inspectPairs
    exact NPR.bind (inspect_npr k) fun _ _ => NPR.bind (inspect_npr v) fun _ _ =>
      NPR.bind (inspectPairs_npr (y :: xs)) fun _ _ => NPR.pure _
termination_by structural l => l
end

/-! ### maps

The map operations build their result from the pairs, the key and the value they are given: whatever
holds of all of these (`p`) holds of the result. -/

theorem mapFind_go_npr (key : Obj) : ∀ (kvs : List (Obj × Obj)) (i : Nat), NPR (mapFind.go key kvs i)
  | [], i => NPR.pure _
  | (k, v) :: rest, i => by
    unfold mapFind.go
    exact NPR.bind (cmp_npr k key) fun c _ => .ite (.pure _) (.ite (.pure _) (mapFind_go_npr key rest (i + 1)))

theorem mapFind_npr (kvs : List (Obj × Obj)) (key : Obj) : NPR (mapFind kvs key) :=
  mapFind_go_npr key kvs 0

theorem mapFind_go_mem (key : Obj) : ∀ (kvs : List (Obj × Obj)) (i : Nat) (v : Obj) (j : Nat),
    mapFind.go key kvs i = .ok (some v, j) → ∃ k, (k, v) ∈ kvs
  | [], i, v, j, h => by simp [mapFind.go, pure, Except.pure] at h
  | (k, w) :: rest, i, v, j, h => by
    unfold mapFind.go at h
    cases hc : cmp k key with
    | error e => rw [hc] at h; cases h
    | ok c =>
      rw [hc] at h
      simp only [bind, Except.bind] at h
      split at h
      · cases h
      · split at h
        · cases h; exact ⟨k, List.mem_cons_self⟩
        · obtain ⟨k', hk'⟩ := mapFind_go_mem key rest (i + 1) v j h
          exact ⟨k', List.mem_cons_of_mem _ hk'⟩

theorem R.bind_ok {x : R α} {f : α → R β} {b : β} (h : x >>= f = .ok b) : ∃ a, x = .ok a ∧ f a = .ok b := by
  cases x with
  | error e => cases h
  | ok a => exact ⟨a, rfl, h⟩

theorem mapGet_npr (kvs : List (Obj × Obj)) (key : Obj) : NPR (mapGet kvs key) :=
  NPR.bind (mapFind_npr kvs key) (fun _ _ => NPR.pure _)

theorem mapGet_all (p : Obj → Prop) {kvs : List (Obj × Obj)} {key v : Obj} (hk : ∀ kv ∈ kvs, p kv.1 ∧ p kv.2)
    (h : mapGet kvs key = .ok (some v)) : p v := by
  obtain ⟨⟨r, j⟩, hf, h⟩ := R.bind_ok h
  cases h
  obtain ⟨k, hk'⟩ := mapFind_go_mem key kvs 0 v j hf
  exact (hk _ hk').2

theorem mapSet_npr (cfg : Cfg) (big : Bool) (kvs : List (Obj × Obj)) (key val : Obj) :
    NPR (mapSet cfg big kvs key val) := by
  refine NPR.bind (mapFind_npr kvs key) (fun r _ => ?_)
  obtain ⟨found, i⟩ := r
  dsimp only
  split <;> exact NPR.pure _

theorem mapSet_all (p : Obj → Prop) {cfg : Cfg} {big : Bool} {kvs : List (Obj × Obj)} {key val : Obj}
    {r : Bool × List (Obj × Obj)} (hk : ∀ kv ∈ kvs, p kv.1 ∧ p kv.2) (hkey : p key) (hval : p val)
    (h : mapSet cfg big kvs key val = .ok r) : ∀ kv ∈ r.2, p kv.1 ∧ p kv.2 := by
  obtain ⟨⟨found, i⟩, _, h⟩ := R.bind_ok h
  dsimp only at h
  intro kv hkv
  split at h <;> cases h
  · rcases List.mem_or_eq_of_mem_set hkv with h1 | rfl
    · exact hk kv h1
    · refine ⟨?_, hval⟩
      unfold mapSet.oldKey
      split
      · next k _ hi => exact (hk _ (List.mem_of_getElem? hi)).1
      · exact hkey
  · simp only [List.mem_append, List.mem_singleton] at hkv
    rcases hkv with (h1 | rfl) | h1
    · exact hk kv (List.mem_of_mem_take h1)
    · exact ⟨hkey, hval⟩
    · exact hk kv (List.mem_of_mem_drop h1)

theorem mapDelete_npr (kvs : List (Obj × Obj)) (key : Obj) : NPR (mapDelete kvs key) := by
  refine NPR.bind (mapFind_npr kvs key) (fun r _ => ?_)
  obtain ⟨found, i⟩ := r
  dsimp only
  split <;> exact NPR.pure _

theorem mapDelete_all (p : Obj → Prop) {kvs kvs' : List (Obj × Obj)} {key : Obj}
    (hk : ∀ kv ∈ kvs, p kv.1 ∧ p kv.2) (h : mapDelete kvs key = .ok (some kvs')) :
    ∀ kv ∈ kvs', p kv.1 ∧ p kv.2 := by
  obtain ⟨⟨found, i⟩, _, h⟩ := R.bind_ok h
  dsimp only at h
  split at h <;> cases h
  exact fun kv hkv => hk kv (List.mem_of_mem_eraseIdx hkv)

theorem mapAppend_go_npr (cfg : Cfg) : ∀ (r : List (Obj × Obj)) (acc : Bool × List (Obj × Obj)),
    NPR (mapAppend.go cfg acc r)
  | [], acc => NPR.pure _
  | (k, v) :: rest, acc => by
    unfold mapAppend.go
    exact NPR.bind (mapSet_npr cfg _ _ k v) (fun acc' _ => mapAppend_go_npr cfg rest acc')

theorem mapAppend_npr (cfg : Cfg) (lbig : Bool) (l r : List (Obj × Obj)) : NPR (mapAppend cfg lbig l r) :=
  mapAppend_go_npr cfg r _

theorem mapAppend_go_all (p : Obj → Prop) (cfg : Cfg) : ∀ (r : List (Obj × Obj)) (acc res : Bool × List (Obj × Obj)),
    (∀ kv ∈ r, p kv.1 ∧ p kv.2) → (∀ kv ∈ acc.2, p kv.1 ∧ p kv.2) → mapAppend.go cfg acc r = .ok res →
    ∀ kv ∈ res.2, p kv.1 ∧ p kv.2
  | [], acc, res, _, ha, h => by cases h; exact ha
  | (k, v) :: rest, acc, res, hr, ha, h => by
    unfold mapAppend.go at h
    obtain ⟨acc', hs, h⟩ := R.bind_ok h
    have h1 := hr (k, v) List.mem_cons_self
    exact mapAppend_go_all p cfg rest acc' res (fun kv hkv => hr kv (List.mem_cons_of_mem _ hkv))
      (mapSet_all p ha h1.1 h1.2 hs) h

theorem mapAppend_all (p : Obj → Prop) {cfg : Cfg} {lbig : Bool} {l r : List (Obj × Obj)}
    {res : Bool × List (Obj × Obj)} (hl : ∀ kv ∈ l, p kv.1 ∧ p kv.2) (hr : ∀ kv ∈ r, p kv.1 ∧ p kv.2)
    (h : mapAppend cfg lbig l r = .ok res) : ∀ kv ∈ res.2, p kv.1 ∧ p kv.2 :=
  mapAppend_go_all p cfg r _ res hr hl h

end Grol.E
