import GrolProofs.EvalOps
/-
An induction principle for the evaluator model.  A property of computations in `M` that survives
sequencing and holds of the few primitive state accesses (`StepClosed`) holds of every helper of the
environment and operator layer (`closed_by` takes a helper apart into these); if it also survives the
two brackets of the tree walker, where `depth`, `cur` and `outs` change and change back (`EvalClosed`),
it holds of all 19 functions of the mutual block, at every fuel (`evalAll`).

`Sat x st Q` applies a postcondition to the outcome and final state of the run of `x` from `st`; the
instances of the principle are proved with its rules.  `Inert` is what most primitives satisfy: nothing
but the output writers, the result cache, the step counter and the hazard log changes.
-/
namespace Grol.E
open Grol.Wire (Bytes)

def Sat (x : M α) (st : St) (Q : Except Stop α → St → Prop) : Prop :=
  Q (outcome x st) (stateAfter x st)

theorem Sat.bind {x : M α} {f : α → M β} {st : St} {Q : Except Stop β → St → Prop}
    (h : Sat x st (fun r s => match r with
      | .ok a => Sat (f a) s Q
      | .error e => Q (.error e) s)) : Sat (x >>= f) st Q := by
  unfold Sat at *
  rw [outcome_bind, stateAfter_bind]
  revert h
  cases outcome x st <;> exact id

theorem Sat.pure {a : α} {st : St} {Q : Except Stop α → St → Prop} (h : Q (.ok a) st) :
    Sat (pure a : M α) st Q := h

theorem Sat.get {st : St} {Q : Except Stop St → St → Prop} (h : Q (.ok st) st) :
    Sat (get : M St) st Q := h

theorem Sat.set {s st : St} {Q : Except Stop PUnit → St → Prop} (h : Q (.ok ⟨⟩) s) :
    Sat (set s : M PUnit) st Q := h

theorem Sat.modify {g : St → St} {st : St} {Q : Except Stop PUnit → St → Prop}
    (h : Q (.ok ⟨⟩) (g st)) : Sat (modify g : M PUnit) st Q := h

theorem Sat.stop {e : Stop} {st : St} {Q : Except Stop α → St → Prop} (h : Q (.error e) st) :
    Sat (stop e : M α) st Q := h

structure Inert (st st' : St) : Prop where
  cfg : st'.cfg = st.cfg
  frames : st'.frames = st.frames
  cur : st'.cur = st.cur
  root : st'.root = st.root
  depth : st'.depth = st.depth
  extNames : st'.extNames = st.extNames

theorem Inert.refl (st : St) : Inert st st := ⟨rfl, rfl, rfl, rfl, rfl, rfl⟩

structure StepClosed (C : ∀ {α : Type}, M α → Prop) : Prop where
  pure : ∀ {α} (a : α), C (pure a : M α)
  stop : ∀ {α} (e : Stop), C (stop e : M α)
  bind : ∀ {α β} {x : M α} {f : α → M β}, C x → (∀ a, C (f a)) → C (x >>= f)
  read : C (get : M St)
  inert : ∀ {α} {x : M α}, (∀ st, Inert st (stateAfter x st)) → C x
  /-- what follows may still use the state as it was read -/
  update : ∀ {β} {g : St → St} {k : St → M β}, (∀ st, Inert st (g st)) → (∀ st, C (k st)) →
    C (get >>= fun st => set (g st) >>= fun _ => k st)
  newFrame : ∀ f, C (newFrame f)
  /-- frames are rewritten in place only by functions that do not lower the miss counter -/
  modifyFrame : ∀ e {g : Frame → Frame}, (∀ f, f.getMiss ≤ (g f).getMiss) → C (modifyFrame e g)

section
variable {C : ∀ {α : Type}, M α → Prop} (h : StepClosed C)
include h

theorem StepClosed.throw (e : Stop) : C (throw e : M α) := h.stop e

theorem StepClosed.liftR (r : R α) : C (liftR r) := by
  cases r with
  | ok a => exact h.pure a
  | error e => exact h.stop e

theorem StepClosed.modify {g : St → St} (hg : ∀ st, Inert st (g st)) : C (modify g : M PUnit) :=
  h.inert hg

theorem StepClosed.forIn {γ δ : Type} (l : List γ) (init : δ) (f : γ → δ → M (ForInStep δ))
    (hf : ∀ a b, C (f a b)) : C (forIn l init f) := by
  induction l generalizing init with
  | nil => exact h.pure _
  | cons a as ih =>
    rw [List.forIn_cons]
    refine h.bind (hf a init) fun r => ?_
    cases r with
    | done b => exact h.pure _
    | yield b => exact ih b

end

syntax "closed_step " term : tactic
macro_rules | `(tactic| closed_step $h) => `(tactic| first
  | intro _
  | with_reducible first
    | exact StepClosed.pure $h _
    | apply StepClosed.bind $h
    | exact StepClosed.stop $h _ | exact StepClosed.throw $h _ | exact StepClosed.liftR $h _
    | exact StepClosed.read $h | exact StepClosed.newFrame $h _
    | (apply StepClosed.modifyFrame $h; intro _; first | exact Nat.le_refl _ | exact Nat.le_succ _)
    | (apply StepClosed.modify $h; exact fun _ => ⟨rfl, rfl, rfl, rfl, rfl, rfl⟩)
  | split
  | dsimp only)

/-- `closed_by h using t₁, …` proves `C x` for a helper `x` put together from the primitives of
`h : StepClosed C` by sequencing, `if` and `match`, and from the callees `tᵢ : C _` -/
syntax "closed_by " term (" using " term,+)? : tactic
macro_rules
  | `(tactic| closed_by $h) => `(tactic| repeat' closed_step $h)
  | `(tactic| closed_by $h using $ts,*) =>
    `(tactic| repeat' (first | (with_reducible first $[| exact $ts]*) | closed_step $h))

section
variable {C : ∀ {α : Type}, M α → Prop} (h : StepClosed C)
include h

theorem StepClosed.getFrame {e} : C (getFrame e) := by unfold E.getFrame; closed_by h
theorem StepClosed.refValue {e n} : C (refValue e n) := by unfold E.refValue; closed_by h using h.getFrame
theorem StepClosed.refAlive {e n} : C (refAlive e n) := by unfold E.refAlive; closed_by h using h.getFrame
theorem StepClosed.valueOf_go {n o} : C (valueOf.go n o) := by
  induction n generalizing o with
  | zero => cases o <;> simp only [valueOf.go] <;> closed_by h
  | succ n ih => cases o <;> simp only [valueOf.go] <;> closed_by h using h.refValue, h.getFrame, ih
theorem StepClosed.valueOf {o} : C (valueOf o) := by unfold E.valueOf; closed_by h using h.valueOf_go
theorem StepClosed.triggerNoCache {e} : C (triggerNoCache e) := by unfold E.triggerNoCache; closed_by h
theorem StepClosed.makeRef_go {orig name fuel e} : C (makeRef.go orig name fuel e) := by
  induction fuel generalizing e with
  | zero => unfold makeRef.go; closed_by h
  | succ n ih => unfold makeRef.go; closed_by h using h.getFrame, ih
theorem StepClosed.makeRef {e n} : C (makeRef e n) := by unfold E.makeRef; closed_by h using h.makeRef_go
theorem StepClosed.envGet {e n} : C (envGet e n) := by
  unfold E.envGet
  extract_lets jp
  have hjp : ∀ r, C (jp r) := by
    intro r
    unfold jp
    refine h.bind h.getFrame fun f => ?_
    extract_lets jp2
    have h2 : ∀ r, C (jp2 r) := by
      intro r; unfold jp2; closed_by h using h.refAlive, h.refValue, h.getFrame, h.makeRef
    closed_by h using h2 ()
  closed_by h using hjp ()
theorem StepClosed.rootBindsFunc {n} : C (rootBindsFunc n) := by unfold E.rootBindsFunc; closed_by h
theorem StepClosed.envCreate {e n v} : C (envCreate e n v) := by
  unfold E.envCreate; closed_by h using h.valueOf, h.rootBindsFunc
theorem StepClosed.functionChanged {w o} : C (functionChanged w o) := by unfold E.functionChanged; closed_by h
theorem StepClosed.envStoreAt {w e n v} : C (envStoreAt w e n v) := by
  unfold E.envStoreAt; closed_by h using h.getFrame, h.functionChanged, h.rootBindsFunc
theorem StepClosed.envUpdate {e n f v} : C (envUpdate e n f v) := by
  unfold E.envUpdate; closed_by h using h.valueOf, h.envStoreAt
theorem StepClosed.setNoChecks {e n v c} : C (setNoChecks e n v c) := by
  unfold E.setNoChecks
  closed_by h using h.envCreate, h.getFrame, h.envUpdate, h.makeRef, h.valueOf, h.functionChanged, h.rootBindsFunc
theorem StepClosed.createOrSet {e n v c} : C (createOrSet e n v c) := by
  unfold E.createOrSet; closed_by h using h.envGet, h.valueOf, h.setNoChecks
theorem StepClosed.envSet {e n v} : C (envSet e n v) := h.createOrSet
theorem StepClosed.mustBeOk {n} : C (mustBeOk n) := by unfold E.mustBeOk; closed_by h
theorem StepClosed.evalIntegerInfix {op l r} : C (evalIntegerInfix op l r) := by
  unfold E.evalIntegerInfix; closed_by h using h.mustBeOk
theorem StepClosed.evalFloatInfix {op l r} : C (evalFloatInfix op l r) := by unfold E.evalFloatInfix; closed_by h
theorem StepClosed.evalStringInfix {op l r} : C (evalStringInfix op l r) := by
  unfold E.evalStringInfix; closed_by h using h.mustBeOk
theorem StepClosed.evalArrayInfix {op l r} : C (evalArrayInfix op l r) := by
  unfold E.evalArrayInfix; closed_by h using h.mustBeOk, h.valueOf
theorem StepClosed.equalsM {a b} : C (equalsM a b) := by unfold E.equalsM; closed_by h using h.valueOf
theorem StepClosed.cmpM {a b} : C (cmpM a b) := by unfold E.cmpM; closed_by h using h.valueOf
theorem StepClosed.evalInfixOp {op l r} : C (evalInfixOp op l r) := by
  unfold E.evalInfixOp
  closed_by h using h.equalsM, h.cmpM, h.evalIntegerInfix, h.evalFloatInfix, h.evalStringInfix, h.evalArrayInfix
theorem StepClosed.objFirst {o} : C (objFirst o) := by unfold E.objFirst; closed_by h
theorem StepClosed.objRest {o} : C (objRest o) := by unfold E.objRest; closed_by h
theorem StepClosed.indexIdx {l i} : C (indexIdx l i) := by unfold E.indexIdx; closed_by h
theorem StepClosed.writeOut {b} : C (writeOut b) := by
  refine h.modify fun st => ?_
  split <;> exact ⟨rfl, rfl, rfl, rfl, rfl, rfl⟩
theorem StepClosed.curEnv : C curEnv := by unfold E.curEnv; closed_by h
theorem StepClosed.evalIdentifier {n} : C (evalIdentifier n) := by unfold E.evalIdentifier; closed_by h using h.envGet
theorem StepClosed.evalPrefixIncrDecr {op n} : C (evalPrefixIncrDecr op n) := by
  unfold E.evalPrefixIncrDecr; closed_by h using h.curEnv, h.envGet, h.valueOf, h.envSet
theorem StepClosed.evalPostfix {op i} : C (evalPostfix op i) := by
  unfold E.evalPostfix; closed_by h using h.curEnv, h.envGet, h.valueOf, h.envSet
theorem StepClosed.noteHazard {c k n} : C (noteHazard c k n) := by unfold E.noteHazard; closed_by h
theorem StepClosed.evalIndexAssignment {w i v} : C (evalIndexAssignment w i v) := by
  unfold E.evalIndexAssignment; closed_by h using h.valueOf, h.curEnv, h.envGet, h.noteHazard, h.envSet
theorem StepClosed.deleteMapEntry {l i} : C (deleteMapEntry l i) := by
  unfold E.deleteMapEntry; closed_by h using h.curEnv, h.envGet, h.valueOf, h.noteHazard, h.envSet
theorem StepClosed.derefList {l} : C (derefList l) := by
  induction l with
  | nil => exact h.pure _
  | cons x xs ih => unfold E.derefList; closed_by h using h.valueOf, ih
theorem StepClosed.cacheGet {k a} : C (cacheGet k a) := by unfold E.cacheGet; closed_by h
theorem StepClosed.bindParams {nenv l} : C (bindParams nenv l) := by
  induction l with
  | nil => exact h.pure _
  | cons x xs ih =>
    obtain ⟨p, a⟩ := x; unfold E.bindParams; closed_by h using h.valueOf, h.triggerNoCache, h.createOrSet, ih
theorem StepClosed.extendFunctionEnv {f a} : C (extendFunctionEnv f a) := by
  unfold E.extendFunctionEnv
  closed_by h using h.curEnv, h.getFrame, h.valueOf, h.bindParams, h.setNoChecks
theorem StepClosed.cacheSet {k a r o} : C (cacheSet k a r o) := by
  refine h.inert fun st => (?_ : Sat _ st fun _ s => Inert st s)
  unfold E.cacheSet
  refine Sat.bind (Sat.get ?_)
  dsimp only
  repeat' split
  all_goals exact ⟨rfl, rfl, rfl, rfl, rfl, rfl⟩
theorem StepClosed.finishCall {f a c b af cc r o} : C (finishCall f a c b af cc r o) := by
  unfold E.finishCall; closed_by h using h.writeOut, h.triggerNoCache, h.cacheSet

end

structure EvalClosed (C : ∀ {α : Type}, M α → Prop) : Prop extends StepClosed C where
  /-- the one frame write outside `modifyFrame`: `envDelete` edits the frame it has read and stores it with
  `setFrame`, so this is not a consequence of the fields above -/
  envDelete : ∀ e n, C (envDelete e n)
  /-- the depth bracket of `eval`: `x` runs one level deeper, `k` at the old depth again -/
  deeper : ∀ {α β} {c : St → Prop} [∀ st, Decidable (c st)] {e : Stop} {x : M α} {k : α → M β},
    C x → (∀ a, C (k a)) →
    C (do let st ← get
          if c st then E.stop e
          set { st with depth := st.depth + 1 }
          let a ← x
          modify fun st => { st with depth := st.depth - 1 }
          k a)
  /-- the scope bracket of `applyFunction`: `x` runs in scope `nenv` with a writer of its own, `k` in the
  caller's scope again, with what `x` wrote -/
  inScope : ∀ {α β} {nenv : Nat} {x : M α} {k : Nat → α → Frame → Bytes → M β},
    C x → (∀ cur a fr out, C (k cur a fr out)) →
    C (do let cur ← curEnv
          modify fun st => { st with cur := nenv, outs := [] :: st.outs }
          let a ← x
          let fr ← getFrame nenv
          let st ← get
          let (output, outs) := match st.outs with
            | o :: rest => (chunksBytes o, rest)
            | [] => ([], [])
          set { st with cur := cur, outs := outs }
          k cur a fr output)

structure EvalAll (C : ∀ {α : Type}, M α → Prop) (fuel : Nat) : Prop where
  eval : ∀ node, C (Grol.E.eval fuel node)
  evalI : ∀ node, C (Grol.E.evalI fuel node)
  evalStatements : ∀ l r, C (Grol.E.evalStatements fuel l r)
  evalExpressions : ∀ l acc, C (Grol.E.evalExpressions fuel l acc)
  evalAssignment : ∀ right op left, C (Grol.E.evalAssignment fuel right op left)
  evalIf : ∀ c cons alt, C (Grol.E.evalIf fuel c cons alt)
  evalFor : ∀ c body, C (Grol.E.evalFor fuel c body)
  evalForLoop : ∀ c body last, C (Grol.E.evalForLoop fuel c body last)
  evalForSpecialForms : ∀ c body, C (Grol.E.evalForSpecialForms fuel c body)
  evalForInteger : ∀ body i e name last, C (Grol.E.evalForInteger fuel body i e name last)
  evalForList : ∀ body list name last, C (Grol.E.evalForList fuel body list name last)
  evalBuiltin : ∀ t ps, C (Grol.E.evalBuiltin fuel t ps)
  evalPrint : ∀ t ps first buf, C (Grol.E.evalPrint fuel t ps first buf)
  evalDelete : ∀ node, C (Grol.E.evalDelete fuel node)
  evalIndexExpression : ∀ left tok i, C (Grol.E.evalIndexExpression fuel left tok i)
  evalIndexRange : ∀ left li ri, C (Grol.E.evalIndexRange fuel left li ri)
  evalMapLiteral : ∀ ks vs big acc, C (Grol.E.evalMapLiteral fuel ks vs big acc)
  applyExtension : ∀ name args, C (Grol.E.applyExtension fuel name args)
  applyFunction : ∀ fn args, C (Grol.E.applyFunction fuel fn args)

section
variable {C : ∀ {α : Type}, M α → Prop} (h : EvalClosed C)
include h

theorem evalAll_zero : EvalAll C 0 where
  eval _ := h.stop _
  evalI _ := h.stop _
  evalStatements _ _ := h.stop _
  evalExpressions _ _ := h.stop _
  evalAssignment _ _ _ := h.stop _
  evalIf _ _ _ := h.stop _
  evalFor _ _ := h.stop _
  evalForLoop _ _ _ := h.stop _
  evalForSpecialForms _ _ := h.stop _
  evalForInteger _ _ _ _ _ := h.stop _
  evalForList _ _ _ _ := h.stop _
  evalBuiltin _ _ := h.stop _
  evalPrint _ _ _ _ := h.stop _
  evalDelete _ := h.stop _
  evalIndexExpression _ _ _ := h.stop _
  evalIndexRange _ _ _ := h.stop _
  evalMapLiteral _ _ _ _ := h.stop _
  applyExtension _ _ := h.stop _
  applyFunction _ _ := h.stop _

end

section
variable {C : ∀ {α : Type}, M α → Prop} (h : EvalClosed C) {n : Nat} (ih : EvalAll C n)
include h ih

theorem EvalClosed.eval_step (node) : C (eval (n + 1) node) := by
  unfold eval
  refine h.deeper (ih.evalI node) fun result => ?_
  extract_lets jp
  have hjp : ∀ r, C (jp r) := by
    intro r; unfold jp
    split
    · exact h.refValue
    · exact h.pure _
  split
  · split <;> exact h.bind (h.pure _) hjp
  · exact h.bind (h.pure _) hjp

theorem EvalClosed.evalI_step (node) : C (evalI (n + 1) node) := by
  unfold evalI
  refine h.update (fun _ => ⟨rfl, rfl, rfl, rfl, rfl, rfl⟩) fun st => ?_
  extract_lets jp
  have hjp : C (jp ()) := by
    unfold jp
    split
    · exact ih.evalStatements _ _
    · exact ih.evalIf _ _ _
    · exact ih.evalFor _ _
    · exact h.evalIdentifier
    · -- prefix
      split
      · exact h.evalPrefixIncrDecr
      · refine h.bind (ih.eval _) fun r => ?_
        split <;> exact h.pure _
    · exact h.evalPostfix
    · -- infix: assignment, or the operands with the short cuts of `&&`, `||` and the pipe
      split
      · exact h.bind (ih.eval _) fun _ => ih.evalAssignment _ _ _
      · refine h.bind (ih.eval _) fun left => ?_
        split
        · exact h.pure _
        extract_lets jp3 jp2 jp1
        have h3 : ∀ u, C (jp3 u) := by
          intro u; unfold jp3
          refine h.bind (ih.eval _) fun right => ?_
          split
          · exact h.pure _
          split
          · exact h.bind h.read fun _ => h.bind h.noteHazard fun _ => h.evalInfixOp
          · exact h.evalInfixOp
        have h2 : ∀ u, C (jp2 u) := by
          intro u; unfold jp2
          split
          · split
            · split
              · exact h.bind (h.stop _) h3
              · exact h3 ()
            · exact h3 ()
          · exact h3 ()
        have h1 : ∀ u, C (jp1 u) := by
          intro u; unfold jp1
          split
          · split
            · exact h.pure _
            · exact h2 ()
          · exact h2 ()
        split
        · split
          · exact h.pure _
          · exact h1 ()
        · exact h1 ()
    · exact h.pure _
    · exact h.pure _
    · exact h.pure _
    · exact h.pure _
    · exact h.pure _
    · -- return
      split
      · exact h.pure _
      · exact h.bind (ih.evalI _) fun _ => h.pure _
    · exact ih.evalBuiltin _ _
    · -- function literal
      refine h.bind h.curEnv fun e => ?_
      extract_lets f
      split
      · refine h.bind h.envSet fun oerr => ?_
        split <;> exact h.pure _
      · exact h.pure _
    · -- call
      refine h.bind (ih.eval _) fun f => ?_
      split
      · exact h.pure _
      refine h.bind (ih.evalExpressions _ _) fun r => ?_
      split
      · exact h.pure _
      · split
        · exact ih.applyExtension _ _
        · exact ih.applyFunction _ _
    · -- array literal
      refine h.bind (ih.evalExpressions _ _) fun r => ?_
      split
      · exact h.pure _
      · exact h.bind h.derefList fun _ => h.pure _
    · exact h.bind h.read fun _ => ih.evalMapLiteral _ _ _ _
    · -- index
      extract_lets jp1
      have h1 : ∀ u, C (jp1 u) := by
        intro u; unfold jp1
        exact h.bind (ih.eval _) fun _ => ih.evalIndexExpression _ _ _
      split
      · refine h.bind h.read fun _ => ?_
        split
        · exact h.bind (h.stop _) h1
        · exact h1 ()
      · exact h1 ()
    · exact h.pure _
    · exact h.pure _
    · exact h.stop _
  split
  · split
    · exact h.pure _
    · exact hjp
  · exact hjp

theorem EvalClosed.evalStatements_step (l r) : C (evalStatements (n + 1) l r) := by
  unfold evalStatements
  split
  · next hf => cases hf
  · exact h.pure _
  · next hf =>
    cases hf
    split
    · exact ih.evalStatements _ _
    · refine h.bind (ih.evalI _) fun r => ?_
      split
      · exact h.pure _
      · exact h.pure _
      · exact ih.evalStatements _ _

theorem EvalClosed.evalExpressions_step (l acc) : C (evalExpressions (n + 1) l acc) := by
  unfold evalExpressions
  split
  · next hf => cases hf
  · exact h.pure _
  · next hf =>
    cases hf
    refine h.bind (ih.evalI _) fun v => ?_
    split
    · exact h.pure _
    · exact ih.evalExpressions _ _

theorem EvalClosed.evalAssignment_step (right op left) : C (evalAssignment (n + 1) right op left) := by
  unfold evalAssignment
  split
  · exact h.pure _
  split
  · split
    · exact h.evalIndexAssignment
    · exact h.pure _
  · split
    · exact h.bind (ih.eval _) fun _ => h.evalIndexAssignment
    · exact h.pure _
  · split
    · exact h.bind h.curEnv fun _ => h.createOrSet
    · exact h.pure _
  · exact h.pure _

theorem EvalClosed.evalIf_step (c cons alt) : C (evalIf (n + 1) c cons alt) := by
  unfold evalIf
  refine h.bind (ih.evalI _) fun cv => h.bind h.valueOf fun condition => ?_
  split
  · exact ih.evalI _
  · split
    · exact h.pure _
    · exact ih.evalI _
  · exact h.pure _

theorem EvalClosed.evalFor_step (c body) : C (evalFor (n + 1) c body) := by
  unfold evalFor
  refine h.bind (ih.evalForSpecialForms _ _) fun r => ?_
  split
  · exact h.pure _
  · exact ih.evalForLoop _ _ _

theorem EvalClosed.evalForLoop_step (c body last) : C (evalForLoop (n + 1) c body last) := by
  unfold evalForLoop
  refine h.bind (ih.evalI _) fun cv => h.bind h.valueOf fun condition => ?_
  split
  · refine h.bind (ih.evalI _) fun r => ?_
    split
    · exact h.pure _
    · split
      · exact h.pure _
      · split
        · exact ih.evalForLoop _ _ _
        · exact h.pure _
    · exact ih.evalForLoop _ _ _
  · exact h.pure _
  · exact h.pure _
  · exact h.pure _
  · exact ih.evalForInteger _ _ _ _ _
  · exact h.pure _

theorem EvalClosed.evalForSpecialForms_step (c body) : C (evalForSpecialForms (n + 1) c body) := by
  unfold evalForSpecialForms
  split
  · split
    · exact h.pure _
    split
    · split
      · refine h.bind (ih.evalI _) fun _ => h.bind h.valueOf fun start => ?_
        split
        · exact h.pure _
        · refine h.bind (ih.evalI _) fun _ => h.bind h.valueOf fun endV => ?_
          split
          · exact h.pure _
          · exact h.bind (ih.evalForInteger _ _ _ _ _) fun _ => h.pure _
      · refine h.bind (ih.evalI _) fun _ => h.bind h.valueOf fun v => ?_
        split
        · exact h.bind (ih.evalForInteger _ _ _ _ _) fun _ => h.pure _
        · exact h.pure _
        · exact h.bind (ih.evalForList _ _ _ _) fun _ => h.pure _
        · exact h.bind (ih.evalForList _ _ _ _) fun _ => h.pure _
        · exact h.bind (ih.evalForList _ _ _ _) fun _ => h.pure _
        · exact h.pure _
    · exact h.pure _
  · exact h.pure _

theorem EvalClosed.evalForInteger_step (body i e name last) : C (evalForInteger (n + 1) body i e name last) := by
  unfold evalForInteger
  split
  · exact h.pure _
  split
  · exact h.pure _
  extract_lets jp
  have hjp : C (jp ()) := by
    unfold jp
    refine h.bind (ih.evalI _) fun r => ?_
    split
    · exact h.pure _
    · split
      · exact h.pure _
      · split
        · exact ih.evalForInteger _ _ _ _ _
        · split <;> exact h.pure _
    · exact ih.evalForInteger _ _ _ _ _
  split
  · refine h.bind h.curEnv fun _ => h.bind h.envSet fun oerr => ?_
    split
    · exact h.pure _
    · exact hjp
  · exact hjp

theorem EvalClosed.evalForList_step (body list name last) : C (evalForList (n + 1) body list name last) := by
  unfold evalForList
  split
  · exact h.pure _
  refine h.bind h.objFirst fun v => h.bind h.objRest fun rest => h.bind h.curEnv fun _ =>
    h.bind h.envSet fun oerr => ?_
  split
  · exact h.pure _
  refine h.bind (ih.evalI _) fun r => ?_
  split
  · exact h.pure _
  · split
    · exact h.pure _
    · split
      · exact ih.evalForList _ _ _ _
      · split <;> exact h.pure _
  · exact ih.evalForList _ _ _ _

theorem EvalClosed.evalBuiltin_step (t ps) : C (evalBuiltin (n + 1) t ps) := by
  unfold evalBuiltin
  split
  split
  · exact h.pure _
  extract_lets jp2 jp1
  have h2 : C (jp2 ()) := by
    unfold jp2
    refine h.bind (ih.evalI _) fun _ => h.bind h.valueOf fun val => ?_
    split
    · exact h.pure _
    split
    · split
      · exact h.bind h.curEnv fun _ => h.bind h.triggerNoCache fun _ => h.pure _
      · exact h.pure _
    · exact h.bind h.valueOf fun _ => h.objFirst
    · exact h.bind h.valueOf fun _ => h.objRest
    · refine h.bind h.valueOf fun _ => ?_
      extract_lets l
      split <;> exact h.pure _
    · exact h.pure _
  have h1 : C (jp1 ()) := by
    unfold jp1
    split
    · exact ih.evalDelete _
    split
    · exact ih.evalPrint _ _ _ _
    split
    · exact h.bind (h.stop _) fun _ => h2
    · exact h2
  split
  · exact h.bind (h.stop _) fun _ => h1
  · exact h1

theorem EvalClosed.evalPrint_step (t ps first buf) : C (evalPrint (n + 1) t ps first buf) := by
  unfold evalPrint
  split
  · next hf => cases hf
  · extract_lets jp
    have hjp : C (jp ()) := by
      unfold jp
      exact h.bind h.writeOut fun _ => h.pure _
    split
    · split
      · exact h.pure _
      · exact h.bind (h.stop _) fun _ => hjp
    · exact hjp
  · next hf =>
    cases hf
    extract_lets buf2 jp
    refine h.bind (ih.evalI _) fun r => ?_
    split
    · exact h.pure _
    refine h.bind h.valueOf fun r' => ?_
    have hjp : ∀ piece, C (jp piece) := by
      intro piece; unfold jp
      exact ih.evalPrint _ _ _ _
    split
    · exact h.bind (h.pure _) hjp
    · exact h.bind (h.liftR _) hjp

theorem EvalClosed.evalDelete_step (node) : C (evalDelete (n + 1) node) := by
  unfold evalDelete
  refine h.bind h.curEnv fun _ => h.bind h.triggerNoCache fun _ => ?_
  split
  · split
    · exact h.pure _
    extract_lets jp
    have hjp : C (jp ()) := by
      unfold jp
      exact h.bind h.curEnv fun _ => h.envDelete _ _
    split
    · exact h.bind (h.modify fun _ => ⟨rfl, rfl, rfl, rfl, rfl, rfl⟩) fun _ => hjp
    · exact hjp
  · split
    · exact h.pure _
    · exact h.deleteMapEntry
  · refine h.bind (ih.eval _) fun index => ?_
    split
    · exact h.pure _
    · exact h.deleteMapEntry
  · exact h.pure _

theorem EvalClosed.evalIndexExpression_step (left tok i) : C (evalIndexExpression (n + 1) left tok i) := by
  unfold evalIndexExpression
  split
  · exact h.pure _
  split
  · split
    · exact h.pure _
    · exact h.indexIdx
  · split
    · exact ih.evalIndexRange _ _ _
    · refine h.bind (ih.eval _) fun index => ?_
      split
      · exact h.pure _
      · exact h.indexIdx

theorem EvalClosed.evalIndexRange_step (left li ri) : C (evalIndexRange (n + 1) left li ri) := by
  unfold evalIndexRange
  refine h.bind (ih.eval _) fun leftIndex => ?_
  extract_lets nilRight num jp
  have hjp : ∀ r, C (jp r) := by
    intro rightIndex
    unfold jp
    split
    · extract_lets l l' r
      split
      · exact h.pure _
      split
      · exact h.pure _
      · exact h.pure _
      · exact h.bind h.read fun _ => h.pure _
      · exact h.pure _
      · exact h.pure _
    · exact h.pure _
  split
  · exact h.bind (h.pure _) hjp
  · exact h.bind (ih.eval _) hjp

theorem EvalClosed.evalMapLiteral_step (ks vs big acc) : C (evalMapLiteral (n + 1) ks vs big acc) := by
  unfold evalMapLiteral
  split
  · next hf => cases hf
  · next hf =>
    cases hf
    refine h.bind (ih.eval _) fun _ => h.bind h.valueOf fun key => ?_
    split
    · exact h.pure _
    refine h.bind h.equalsM fun eq => ?_
    split
    · exact h.pure _
    refine h.bind (ih.eval _) fun _ => h.bind h.valueOf fun value => ?_
    split
    · exact h.pure _
    refine h.bind h.read fun _ => h.bind (h.liftR _) fun r => ?_
    exact ih.evalMapLiteral _ _ _ _
  · exact h.pure _

theorem EvalClosed.applyFunction_step (fn args) : C (applyFunction (n + 1) fn args) := by
  unfold applyFunction
  split
  · next f =>
    refine h.bind h.curEnv fun c => h.bind h.getFrame fun cf => ?_
    extract_lets skip
    refine h.bind (x := if skip = true then pure none else cacheGet f.key args) ?_ fun r => ?_
    · split
      · exact h.pure _
      · exact h.cacheGet
    split
    · split
      · exact h.bind h.writeOut fun _ => h.pure _
      · exact h.pure _
    · refine h.bind h.extendFunctionEnv fun r => ?_
      split
      · exact h.pure _
      · exact h.inScope (ih.eval _) fun _ _ _ _ => h.finishCall
  · exact h.pure _


theorem evalAll_succ : EvalAll C (n + 1) where
  eval := h.eval_step ih
  evalI := h.evalI_step ih
  evalStatements := h.evalStatements_step ih
  evalExpressions := h.evalExpressions_step ih
  evalAssignment := h.evalAssignment_step ih
  evalIf := h.evalIf_step ih
  evalFor := h.evalFor_step ih
  evalForLoop := h.evalForLoop_step ih
  evalForSpecialForms := h.evalForSpecialForms_step ih
  evalForInteger := h.evalForInteger_step ih
  evalForList := h.evalForList_step ih
  evalBuiltin := h.evalBuiltin_step ih
  evalPrint := h.evalPrint_step ih
  evalDelete := h.evalDelete_step ih
  evalIndexExpression := h.evalIndexExpression_step ih
  evalIndexRange := h.evalIndexRange_step ih
  evalMapLiteral := h.evalMapLiteral_step ih
  applyExtension _ _ := h.stop _
  applyFunction := h.applyFunction_step ih

end

theorem evalAll {C : ∀ {α : Type}, M α → Prop} (h : EvalClosed C) : ∀ fuel, EvalAll C fuel
  | 0 => evalAll_zero h
  | fuel + 1 => evalAll_succ h (evalAll h fuel)

end Grol.E
