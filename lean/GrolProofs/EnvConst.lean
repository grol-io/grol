import GrolProofs.EnvRun
/-
The environment layer of the evaluator model (lean/Grol/Eval/Env.lean = object/state.go):
what `Get` may change (references and miss counters, never a value), and the constant check
of `CreateOrSet`.
-/
namespace Grol.E

theorem lookupStore_setStore_eq (s : List (String × Obj)) (n : String) (v : Obj) :
    lookupStore (setStore s n v) n = some v := by
  induction s with
  | nil => simp [setStore, lookupStore]
  | cons kv rest ih =>
    obtain ⟨k, w⟩ := kv
    unfold setStore
    by_cases h : (k == n) = true
    · simp only [h, if_true]; unfold lookupStore; simp [h]
    · simp only [h]; unfold lookupStore; simp [h, ih]

theorem lookupStore_setStore_ne (s : List (String × Obj)) (n m : String) (v : Obj) (h : m ≠ n) :
    lookupStore (setStore s n v) m = lookupStore s m := by
  induction s with
  | nil =>
    have : (n == m) = false := by simp [Ne.symm h]
    simp [setStore, lookupStore, this]
  | cons kv rest ih =>
    obtain ⟨k, w⟩ := kv
    unfold setStore
    by_cases hk : (k == n) = true
    · have hkn : k = n := by simpa using hk
      have : (k == m) = false := by simp [hkn, Ne.symm h]
      simp only [hk, if_true]; unfold lookupStore; simp [this]
    · simp only [hk]; unfold lookupStore
      by_cases hm : (k == m) = true
      · simp [hm]
      · simp [hm, ih]

theorem lookupStore_cons (k : String) (v : Obj) (rest : List (String × Obj)) (m : String) :
    lookupStore ((k, v) :: rest) m = if k == m then some v else lookupStore rest m := by
  rw [lookupStore]

theorem delStore_cons (k : String) (v : Obj) (rest : List (String × Obj)) (n : String) :
    delStore ((k, v) :: rest) n = if k != n then (k, v) :: delStore rest n else delStore rest n := by
  simp only [delStore, List.filter_cons]

theorem lookupStore_delStore_ne (s : List (String × Obj)) (n m : String) (h : m ≠ n) :
    lookupStore (delStore s n) m = lookupStore s m := by
  induction s with
  | nil => rfl
  | cons kv rest ih =>
    obtain ⟨k, w⟩ := kv
    rw [delStore_cons, lookupStore_cons]
    by_cases hk : k = n
    · simp [hk, ih]
      intro hnm; exact absurd hnm.symm h
    · have hne : (k != n) = true := by simp [hk]
      simp only [hne, if_true, lookupStore_cons, ih]

theorem lookupStore_delStore_self (s : List (String × Obj)) (n : String) :
    lookupStore (delStore s n) n = none := by
  induction s with
  | nil => rfl
  | cons kv rest ih =>
    obtain ⟨k, w⟩ := kv
    rw [delStore_cons]
    by_cases hk : k = n
    · simp [hk, ih]
    · have hne : (k != n) = true := by simp [hk]
      have hkn : (k == n) = false := by simp [hk]
      simp only [hne, if_true, lookupStore_cons, hkn, ih]
      simp

/-- the VALUE a store binds to a name: reference entries (caches of an outer binding) do not count -/
def lookupVal (store : List (String × Obj)) (name : String) : Option Obj :=
  match lookupStore store name with
  | some (.ref ..) => none
  | r => r

def frameVal (st : St) (e : Nat) (name : String) : Option Obj :=
  match st.frames[e]? with
  | some f => lookupVal f.store name
  | none => none

/-- `st'` differs from `st` at most by reference entries and counters (miss counters, `numSet`,
`cantCache`): same frames, same value bound to every name in every frame, same scope chain -/
structure SameValues (st st' : St) : Prop where
  size : st'.frames.size = st.frames.size
  vals : ∀ e name, frameVal st' e name = frameVal st e name
  outer : ∀ e : Nat, (st'.frames[e]?).map Frame.outer = (st.frames[e]?).map Frame.outer
  cfg : st'.cfg = st.cfg
  cur : st'.cur = st.cur
  root : st'.root = st.root
  ext : st'.extNames = st.extNames

theorem SameValues.refl (st : St) : SameValues st st :=
  ⟨rfl, fun _ _ => rfl, fun _ => rfl, rfl, rfl, rfl, rfl⟩

theorem SameValues.trans {a b c : St} (h1 : SameValues a b) (h2 : SameValues b c) : SameValues a c :=
  ⟨h2.size.trans h1.size, fun e n => (h2.vals e n).trans (h1.vals e n), fun e => (h2.outer e).trans (h1.outer e),
   h2.cfg.trans h1.cfg, h2.cur.trans h1.cur, h2.root.trans h1.root, h2.ext.trans h1.ext⟩

theorem sameValues_setFrame (st : St) (e : Nat) (f f' : Frame) (h : st.frames[e]? = some f)
    (hv : ∀ name, lookupVal f'.store name = lookupVal f.store name) (ho : f'.outer = f.outer) :
    SameValues st { st with frames := st.frames.setIfInBounds e f' } := by
  obtain ⟨hlt, hfe⟩ := Array.getElem?_eq_some_iff.mp h
  refine ⟨Array.size_setIfInBounds, ?_, ?_, rfl, rfl, rfl, rfl⟩
  · intro e' name
    unfold frameVal
    simp only [Array.getElem?_setIfInBounds]
    by_cases he : e = e'
    · subst he; simp [hlt, hv, hfe]
    · simp [he]
  · intro e'
    simp only [Array.getElem?_setIfInBounds]
    by_cases he : e = e'
    · subst he; simp [hlt, ho, hfe]
    · simp [he]

theorem lookupVal_setStore_ref (s : List (String × Obj)) (n : String) (re : Nat) (rn : String) (m : String)
    (hn : lookupVal s n = none) : lookupVal (setStore s n (.ref re rn)) m = lookupVal s m := by
  unfold lookupVal at *
  by_cases h : m = n
  · subst h; rw [lookupStore_setStore_eq]; simp only; exact hn.symm
  · rw [lookupStore_setStore_ne _ _ _ _ h]

theorem lookupVal_delStore_ref (s : List (String × Obj)) (n m : String)
    (hn : lookupVal s n = none) : lookupVal (delStore s n) m = lookupVal s m := by
  unfold lookupVal at *
  by_cases h : m = n
  · subst h; rw [lookupStore_delStore_self]; simp only; exact hn.symm
  · rw [lookupStore_delStore_ne _ _ _ h]

theorem sv_bind {x : M α} {f : α → M β} {st : St}
    (hx : SameValues st (run x st).2)
    (hf : ∀ a st1, run x st = (.ok a, st1) → SameValues st1 (run (f a) st1).2) :
    SameValues st (run (x >>= f) st).2 := by
  rw [run_bind]
  split
  next a st1 h => rw [h] at hx; exact hx.trans (hf a st1 h)
  next e st1 h => rw [h] at hx; exact hx

theorem sv_bind_ro {x : M α} {f : α → M β} {st : St} (hx : ReadOnly x)
    (hf : ∀ a, run x st = (.ok a, st) → SameValues st (run (f a) st).2) :
    SameValues st (run (x >>= f) st).2 := by
  refine sv_bind (by rw [hx st]; exact SameValues.refl _) ?_
  intro a st1 h
  have h2 := hx st
  rw [h] at h2; simp only at h2; subst h2
  exact hf a h

theorem sv_pure (a : α) (st : St) : SameValues st (run (pure a : M α) st).2 := SameValues.refl _

theorem sv_modifyFrame (e : Nat) (g : Frame → Frame) (st : St)
    (hg : ∀ f, st.frames[e]? = some f →
      (∀ name, lookupVal (g f).store name = lookupVal f.store name) ∧ (g f).outer = f.outer) :
    SameValues st (run (modifyFrame e g) st).2 := by
  rw [run_modifyFrame]
  cases h : st.frames[e]? with
  | none => exact SameValues.refl _
  | some f => exact sameValues_setFrame st e f (g f) h (hg f h).1 (hg f h).2

theorem refTo_isRef (o : Nat) (name : String) (obj : Obj) : ∃ re rn, refTo o name obj = .ref re rn := by
  cases obj <;> exact ⟨_, _, rfl⟩

/-- `makeRef` only adds a reference entry (and bumps a miss counter) in the frame it was asked
from — provided that frame holds no VALUE under the name, which is how `Get` and `SetNoChecks` call it -/
theorem makeRef_go_sameValues (orig : Nat) (name : String) (fuel e : Nat) (st : St)
    (hn : frameVal st orig name = none) :
    SameValues st (run (makeRef.go orig name fuel e) st).2 := by
  induction fuel generalizing e with
  | zero => unfold makeRef.go; exact sv_pure _ _
  | succ fuel ih =>
    unfold makeRef.go
    refine sv_bind_ro (ReadOnly.getFrame _) fun f _ => ?_
    split
    · exact sv_pure _ _
    · next o _ =>
      refine sv_bind_ro (ReadOnly.getFrame _) fun fo _ => ?_
      split
      · exact ih o
      · next obj _ =>
        obtain ⟨re, rn, hr⟩ := refTo_isRef o name obj
        dsimp only
        refine sv_bind (sv_modifyFrame _ _ _ ?_) fun _ st1 _ => ?_
        · intro f0 hf0
          refine ⟨fun m => ?_, rfl⟩
          show lookupVal (setStore f0.store name (refTo o name obj)) m = lookupVal f0.store m
          rw [hr]
          refine lookupVal_setStore_ref _ _ _ _ _ ?_
          unfold frameVal at hn; rw [hf0] at hn; exact hn
        · split
          · refine sv_bind_ro (ReadOnly.getFrame _) fun _ _ => ?_
            refine sv_bind_ro (ReadOnly.pure _) fun _ _ => ?_
            split
            · exact sv_bind (sv_modifyFrame _ _ _ fun f0 _ => ⟨fun _ => rfl, rfl⟩) fun _ _ _ => sv_pure _ _
            · exact sv_pure _ _
          · refine sv_bind_ro (ReadOnly.pure _) fun _ _ => ?_
            split
            · exact sv_bind (sv_modifyFrame _ _ _ fun f0 _ => ⟨fun _ => rfl, rfl⟩) fun _ _ _ => sv_pure _ _
            · exact sv_pure _ _

theorem makeRef_sameValues (orig : Nat) (name : String) (st : St) (hn : frameVal st orig name = none) :
    SameValues st (run (makeRef orig name) st).2 := by
  unfold makeRef
  refine sv_bind_ro ReadOnly.get fun s h => ?_
  exact makeRef_go_sameValues _ _ _ _ _ hn

theorem frameVal_none_of_lookup {st : St} {e : Nat} {f : Frame} {name : String}
    (hf : st.frames[e]? = some f) (hl : lookupStore f.store name = none) : frameVal st e name = none := by
  unfold frameVal lookupVal; rw [hf]; simp only [hl]

theorem envGetStored_sameValues (e : Nat) (name : String) (st : St) (f : Frame) (hfe : st.frames[e]? = some f) :
    SameValues st (run (envGetStored e name f) st).2 := by
  unfold envGetStored
  split
  · next re rn hl =>
    refine sv_bind_ro (readOnly_refAlive _ _) fun alive _ => ?_
    split
    · -- a stale reference is dropped: the frame held no VALUE under the name
      have hnone : lookupVal f.store name = none := by unfold lookupVal; simp only [hl]
      refine sv_bind (sv_modifyFrame _ _ _ ?_) fun _ st1 h1 => ?_
      · intro f0 hf0
        cases hfe.symm.trans hf0
        exact ⟨fun m => lookupVal_delStore_ref _ _ _ hnone, rfl⟩
      · split
        · exact sv_pure _ _
        · refine makeRef_sameValues _ _ _ ?_
          rw [run_modifyFrame, hfe] at h1
          cases h1
          obtain ⟨hlt, _⟩ := Array.getElem?_eq_some_iff.mp hfe
          unfold frameVal lookupVal
          simp [hlt, lookupStore_delStore_self]
    · refine sv_bind_ro (readOnly_refValue _ _) fun tgt _ => ?_
      refine sv_bind_ro (ReadOnly.getFrame _) fun fr _ => ?_
      dsimp only
      split
      · exact sv_bind (sv_modifyFrame _ _ _ fun f0 _ => ⟨fun _ => rfl, rfl⟩) fun _ _ _ => sv_pure _ _
      · exact sv_pure _ _
  · exact sv_pure _ _
  · next hl =>
    split
    · exact sv_pure _ _
    · exact makeRef_sameValues _ _ _ (frameVal_none_of_lookup hfe hl)

/-- **`Get` never changes a value**: whatever the state, after `envGet e name` every frame binds
the same VALUE to every name and has the same parent; only reference entries (added by `makeRef`,
or a stale one removed) and the miss counters may differ. -/
theorem envGet_sameValues (e : Nat) (name : String) (st : St) :
    SameValues st (run (envGet e name) st).2 := by
  rw [run_envGet]
  split
  · exact SameValues.refl _
  · split
    · exact SameValues.refl _
    · next f hfe =>
      split
      · exact SameValues.refl _
      · exact envGetStored_sameValues e name st f hfe

/-- `sameValue(old, val)` is false in state `st1`: different object types (a Reference is not type-equal
to a value), or the dereferenced values compare unequal, or they compare equal but differ in a type
at some level (`[1,2]` against `[1.0,2]`) -/
def NotEqualsIn (st1 : St) (old val : Obj) : Prop :=
  old.typeNum ≠ val.typeNum ∨
  ∃ o v c, (run (valueOf old) st1).1 = .ok o ∧ (run (valueOf val) st1).1 = .ok v ∧ cmp o v = .ok c ∧
    (c ≠ 0 ∨ sameTypes o v = false)

theorem run_of_readOnly {x : M α} (hx : ReadOnly x) {st : St} {a : α} (h : (run x st).1 = .ok a) :
    run x st = (.ok a, st) := by
  have := hx st
  exact Prod.ext h this

/-- **C19 (1)**: `CreateOrSet` on a constant name that `Get` finds bound (in the frame itself or, through
a reference, anywhere up the scope chain) to a value not `Equals` to the new one returns an error object
and changes no value in any frame: the state differs from the initial one at most by the reference
entries and miss counters `Get` maintains. -/
theorem createOrSet_constant_refused (e : Nat) (name : String) (val : Obj) (create : Bool) (st st1 : St) (old : Obj)
    (hc : isConstant name = true)
    (hget : run (envGet e name) st = (.ok (some old), st1))
    (hne : NotEqualsIn st1 old val) :
    (run (createOrSet e name val create) st).1 = .ok (.error ("attempt to change constant " ++ name)) ∧
    SameValues st (run (createOrSet e name val create) st).2 := by
  have hsv : SameValues st st1 := by
    have := envGet_sameValues e name st; rw [hget] at this; exact this
  unfold createOrSet
  dsimp only
  simp only [hc, if_true]
  rw [run_bind, hget]
  dsimp only
  rcases hne with hty | ⟨o, v, c, ho, hv, hcmp, hc0⟩
  · have : (old.typeNum != val.typeNum) = true := by simp [hty]
    simp only [this, if_true]
    rw [run_bind, run_pure]
    exact ⟨rfl, hsv⟩
  · by_cases hty : (old.typeNum != val.typeNum) = true
    · simp only [hty, if_true]
      rw [run_bind, run_pure]
      exact ⟨rfl, hsv⟩
    · simp only [hty, Bool.false_eq_true, if_false]
      rw [run_bind, run_of_readOnly (readOnly_valueOf old) ho]
      dsimp only
      rw [run_bind, run_of_readOnly (readOnly_valueOf val) hv]
      dsimp only
      rw [run_bind, run_liftR, hcmp]
      dsimp only
      rw [run_bind, run_pure]
      have : (c == 0 && sameTypes o v) = false := by
        rcases hc0 with h | h
        · simp [h]
        · simp [h]
      simp only [this]
      exact ⟨rfl, hsv⟩

/-- if the `Get` that precedes the check stops (e.g. a Go panic on a nil environment), `CreateOrSet` stops
the same way, and nothing was written either -/
theorem createOrSet_constant_reads_only_before_check (e : Nat) (name : String) (val : Obj) (create : Bool) (st : St)
    (hc : isConstant name = true) (err : Stop) (st1 : St)
    (hget : run (envGet e name) st = (.error err, st1)) :
    (run (createOrSet e name val create) st).1 = .error err ∧
    SameValues st (run (createOrSet e name val create) st).2 := by
  have hsv : SameValues st st1 := by
    have := envGet_sameValues e name st; rw [hget] at this; exact this
  unfold createOrSet
  dsimp only
  simp only [hc, if_true]
  rw [run_bind, hget]
  exact ⟨rfl, hsv⟩

end Grol.E
