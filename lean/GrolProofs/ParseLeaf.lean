import GrolProofs.ParseSafe
/-
C08, parser half: the two panic sites that are excluded by what the lexer guarantees (`StreamWF`).
-/
namespace Grol.Parser
open Grol.Generated

variable {s : TokStream}

theorem safe_errorLine (hwf : StreamWF s) (st : PState) : SafeAt s (errorLine s) st := by
  intro hi
  unfold errorLine
  have h := (hwf (st.idx - 1)).1
  rw [← hi.peek] at h
  rw [if_pos h]
  exact ⟨hi, trivial⟩

theorem lookup_forall {β : Type} {l : List (TokType × β)} {P : TokType → β → Prop} (hP : ∀ p ∈ l, P p.1 p.2)
    {t : TokType} {v : β} (h : lookup l t = some v) : P t v := by
  induction l with
  | nil => cases h
  | cons p rest ih =>
    unfold lookup at h
    split at h
    · next e => cases h; exact e ▸ hP p List.mem_cons_self
    · exact ih (fun q hq => hP q (List.mem_cons_of_mem _ hq)) h

theorem parseComment_regs : ∀ t : TokType, lookup prefixRegs t = some .parseComment → t = .LINECOMMENT ∨ t = .BLOCKCOMMENT :=
  fun _ h => lookup_forall (P := fun t v => v = .parseComment → t = .LINECOMMENT ∨ t = .BLOCKCOMMENT) (by decide) h rfl

theorem safe_parseComment (hwf : StreamWF s) (st : PState)
    (hc : st.cur.type = .LINECOMMENT ∨ st.cur.type = .BLOCKCOMMENT) : SafeAt s parseComment st := by
  intro hi
  unfold parseComment
  show OKQ s _ (PM.bind getSt _ st)
  simp only [PM.bind, getSt]
  split
  · split
    · exact ⟨inv_setCont hi, trivial⟩
    · exact ⟨hi, trivial⟩
  · rename_i hnb
    have hl : st.cur.type = .LINECOMMENT := hc.resolve_right hnb
    -- a line comment is followed by a newline or the end marker
    have hw := (hwf (st.idx - 2)).2 (by rw [← hi.cur]; exact hl)
    have h2 := hi.idx
    have e : st.idx - 2 + 1 = st.idx - 1 := by omega
    rw [e, ← hi.peek, ← hi.nl] at hw
    split
    · rename_i hcond
      simp only [Bool.and_eq_true, Bool.not_eq_true', bne_iff_ne, ne_eq] at hcond
      obtain ⟨⟨h1, h2⟩, h3⟩ := hcond
      rcases hw with hw | hw | hw
      · rw [hw] at h1; cases h1
      · exact absurd hw h2
      · exact absurd hw h3
    · exact ⟨hi, trivial⟩

end Grol.Parser
