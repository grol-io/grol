import Grol.Eval.Macro
/-
Lemmas about the macro expansion model (lean/Grol/Eval/Macro.lean): the specification-side
substitution `subst`, the side conditions `paramOnly` / `noCalls`, and the two inductions over
the traversal of `modify`.
-/
namespace Grol.Macro
open Grol.E

/-! ### substitution, as a plain structural recursion -/

/-- what becomes of `name(ps)` once its parameters are substituted: `unquote(p)` with `p` bound is the
tree bound to `p`; every other builtin call is kept -/
def substUnquote (env : MEnv) (name : String) (ps : List Node) : Node :=
  if name = "UNQUOTE" then
    match ps with
    | [.ident p] => (lookupArg env p).getD (.builtin name ps)
    | _ => .builtin name ps
  else .builtin name ps

mutual
/-- `subst T env`: the template with every `unquote(p)` replaced by the tree bound to `p`, everything
else copied -/
def subst (env : MEnv) : Node → Node
  | .stmts l => .stmts (substList env l)
  | .inf op l r => .inf op (subst env l) (subst env r)
  | .pre op r => .pre op (subst env r)
  | .idx tok l i => .idx tok (subst env l) (subst env i)
  | .ifE c a b => .ifE (subst env c) (subst env a) (subst env b)
  | .forE c b => .forE (subst env c) (subst env b)
  | .ret v => .ret (subst env v)
  | .fn name ps variadic lambda key body => .fn name ps variadic lambda key (subst env body)
  | .arr els => .arr (substList env els)
  | .mapLit ks vs => .mapLit (substList env ks) (substList env vs)
  | .builtin name ps => substUnquote env name (substList env ps)
  | .call fn args => .call (subst env fn) (substList env args)
  | .macroLit ps body => .macroLit ps (subst env body)
  | .ident n => .ident n
  | .int v => .int v
  | .float b => .float b
  | .str s => .str s
  | .bool b => .bool b
  | .post op n => .post op n
  | .none => .none
  | .ctl k => .ctl k
  | .comment => .comment
def substList (env : MEnv) : List Node → List Node
  | [] => []
  | x :: xs => subst env x :: substList env xs
end

/-- is `name(ps)` either not an unquote, or an unquote the macro state evaluates by a parameter lookup
(or leaves alone: an unquote without exactly one parameter is kept as it is) -/
def okUnquote (env : MEnv) (name : String) (ps : List Node) : Bool :=
  if name = "UNQUOTE" then
    match ps with
    | [.ident p] => p != "info" && p != "self" && (lookupArg env p).isSome
    | [_] => false
    | _ => true
  else true

mutual
/-- every `unquote` argument in the template is a parameter name (bound in `env`) -/
def paramOnly (env : MEnv) : Node → Bool
  | .stmts l => paramOnlyList env l
  | .inf _ l r => paramOnly env l && paramOnly env r
  | .pre _ r => paramOnly env r
  | .idx _ l i => paramOnly env l && paramOnly env i
  | .ifE c a b => paramOnly env c && paramOnly env a && paramOnly env b
  | .forE c b => paramOnly env c && paramOnly env b
  | .ret v => paramOnly env v
  | .fn _ _ _ _ _ body => paramOnly env body
  | .arr els => paramOnlyList env els
  | .mapLit ks vs => paramOnlyList env ks && paramOnlyList env vs
  | .builtin name ps => paramOnlyList env ps && okUnquote env name (substList env ps)
  | .call fn args => paramOnly env fn && paramOnlyList env args
  | .macroLit _ body => paramOnly env body
  | .ident _ => true
  | .int _ => true
  | .float _ => true
  | .str _ => true
  | .bool _ => true
  | .post _ _ => true
  | .none => true
  | .ctl _ => true
  | .comment => true
def paramOnlyList (env : MEnv) : List Node → Bool
  | [] => true
  | x :: xs => paramOnly env x && paramOnlyList env xs
end

mutual
/-- the program contains no call whose callee names a macro of the store -/
def noCalls (store : Store) : Node → Bool
  | .stmts l => noCallsList store l
  | .inf _ l r => noCalls store l && noCalls store r
  | .pre _ r => noCalls store r
  | .idx _ l i => noCalls store l && noCalls store i
  | .ifE c a b => noCalls store c && noCalls store a && noCalls store b
  | .forE c b => noCalls store c && noCalls store b
  | .ret v => noCalls store v
  | .fn _ _ _ _ _ body => noCalls store body
  | .arr els => noCallsList store els
  | .mapLit ks vs => noCallsList store ks && noCallsList store vs
  | .builtin _ ps => noCallsList store ps
  | .call fn args => noCalls store fn && noCallsList store args && (isMacroCall store fn).isNone
  | .macroLit _ body => noCalls store body
  | .ident _ => true
  | .int _ => true
  | .float _ => true
  | .str _ => true
  | .bool _ => true
  | .post _ _ => true
  | .none => true
  | .ctl _ => true
  | .comment => true
def noCallsList (store : Store) : List Node → Bool
  | [] => true
  | x :: xs => noCalls store x && noCallsList store xs
end

@[simp] theorem ok_bind {α β : Type} (a : α) (f : α → X β) : (Except.ok a >>= f) = f a := rfl
@[simp] theorem pure_bind' {α β : Type} (a : α) (f : α → X β) : ((pure a : X α) >>= f) = f a := rfl
@[simp] theorem pure_eq_ok {α : Type} (a : α) : (pure a : X α) = .ok a := rfl

theorem unquoteCb_builtin (lim : Limits) (store : Store) (env : MEnv) (name : String) (ps : List Node)
    (h : okUnquote env name ps = true) :
    unquoteCb lim store env (.builtin name ps) = .ok (substUnquote env name ps) := by
  unfold okUnquote at h
  unfold substUnquote
  by_cases hn : name = "UNQUOTE"
  · subst hn
    rw [if_pos rfl] at h ⊢
    match ps, h with
    | [], _ => rfl
    | _ :: _ :: _, _ => simp [unquoteCb]
    | [x], h =>
      -- only an identifier passes `okUnquote`
      cases x <;> first | cases h | skip
      rename_i p
      simp only [Bool.and_eq_true, bne_iff_ne, ne_eq] at h
      obtain ⟨⟨h1, h2⟩, h3⟩ := h
      cases hl : lookupArg env p with
      | none => simp [hl] at h3
      | some a =>
        simp only [unquoteCb, evalUnquoteArg, hl, Option.getD]
        have : (p == "info" || p == "self") = false := by simp [h1, h2]
        simp [this, convertObjectToASTNode]
  · simp only [hn, if_false]
    unfold unquoteCb
    split
    · rename_i heq
      injection heq with h1 _
      exact absurd h1 hn
    · rfl

/-- the unquote callback leaves every node that is not a builtin call alone -/
theorem unquoteCb_other (lim : Limits) (store : Store) (env : MEnv) (n : Node)
    (h : ∀ name ps, n ≠ .builtin name ps) : unquoteCb lim store env n = .ok n := by
  unfold unquoteCb
  split
  · exact absurd rfl (h _ _)
  · rfl

theorem modify_ifE (f : Node → X Node) (c a b : Node) (h : b ≠ .none) :
    modify f (.ifE c a b) = (do let c' ← modify f c; let a' ← modify f a; let b' ← modify f b; f (.ifE c' a' b')) := by
  rw [modify]
  intro hb; exact h hb

theorem modify_ret (f : Node → X Node) (v : Node) (h : v ≠ .none) :
    modify f (.ret v) = (do f (.ret (← modify f v))) := by
  rw [modify]
  intro hb; exact h hb

/-! ### `evalUnquoteCalls` is `subst` on templates whose unquotes name parameters -/

/-! In each case below `modify` is unfolded once, the results for the children are put in, and what is
left computes: the callback returns a node that is not of its own kind (builtin call, call) as it is. -/

mutual
theorem modify_unquote (lim : Limits) (store : Store) (env : MEnv) :
    ∀ (t : Node), paramOnly env t = true → modify (unquoteCb lim store env) t = .ok (subst env t)
  | .pre op r, h => by rw [modify, modify_unquote lim store env r h]; rfl
  | .fn name ps variadic lambda key body, h => by rw [modify, modify_unquote lim store env body h]; rfl
  | .macroLit ps body, h => by rw [modify, modify_unquote lim store env body h]; rfl
  | .inf op l r, h => by
    have ⟨h1, h2⟩ := Bool.and_eq_true_iff.1 h
    rw [modify, modify_unquote lim store env l h1, modify_unquote lim store env r h2]; rfl
  | .idx tok l i, h => by
    have ⟨h1, h2⟩ := Bool.and_eq_true_iff.1 h
    rw [modify, modify_unquote lim store env l h1, modify_unquote lim store env i h2]; rfl
  | .forE c b, h => by
    have ⟨h1, h2⟩ := Bool.and_eq_true_iff.1 h
    rw [modify, modify_unquote lim store env c h1, modify_unquote lim store env b h2]; rfl
  | .stmts l, h => by rw [modify, modifyList_unquote lim store env l h]; rfl
  | .arr els, h => by rw [modify, modifyList_unquote lim store env els h]; rfl
  | .mapLit ks vs, h => by
    have ⟨h1, h2⟩ := Bool.and_eq_true_iff.1 h
    rw [modify, modifyList_unquote lim store env ks h1, modifyList_unquote lim store env vs h2]; rfl
  | .ifE c a b, h => by
    have ⟨h12, h3⟩ := Bool.and_eq_true_iff.1 h
    have ⟨h1, h2⟩ := Bool.and_eq_true_iff.1 h12
    by_cases hn : b = .none
    · subst hn; rw [modify, modify_unquote lim store env c h1, modify_unquote lim store env a h2]; rfl
    · rw [modify_ifE _ _ _ _ hn, modify_unquote lim store env c h1, modify_unquote lim store env a h2, modify_unquote lim store env b h3]; rfl
  | .ret v, h => by
    by_cases hn : v = .none
    · subst hn; rfl
    · rw [modify_ret _ _ hn, modify_unquote lim store env v h]; rfl
  | .builtin name ps, h => by
    have ⟨h1, h2⟩ := Bool.and_eq_true_iff.1 h
    rw [modify, modifyList_unquote lim store env ps h1]
    exact unquoteCb_builtin _ _ _ _ _ h2
  | .call fn args, h => by
    have ⟨h1, h2⟩ := Bool.and_eq_true_iff.1 h
    rw [modify, modify_unquote lim store env fn h1, modifyList_unquote lim store env args h2]; rfl
  | .ident _, _ => rfl
  | .int _, _ => rfl
  | .float _, _ => rfl
  | .str _, _ => rfl
  | .bool _, _ => rfl
  | .post _ _, _ => rfl
  | .none, _ => rfl
  | .ctl _, _ => rfl
  | .comment, _ => rfl
theorem modifyList_unquote (lim : Limits) (store : Store) (env : MEnv) :
    ∀ (l : List Node), paramOnlyList env l = true → modifyList (unquoteCb lim store env) l = .ok (substList env l)
  | [], _ => rfl
  | x :: xs, h => by
    have ⟨h1, h2⟩ := Bool.and_eq_true_iff.1 h
    rw [modifyList, modify_unquote lim store env x h1, modifyList_unquote lim store env xs h2]; rfl
end

theorem expandCb_other (lim : Limits) (store : Store) (n : Node)
    (h : ∀ fn args, n ≠ .call fn args) : expandCb lim store n = .ok n := by
  unfold expandCb
  split
  · exact absurd rfl (h _ _)
  · rfl

theorem expandCb_notMacro (lim : Limits) (store : Store) (fn : Node) (args : List Node)
    (h : isMacroCall store fn = none) : expandCb lim store (.call fn args) = .ok (.call fn args) := by
  simp only [expandCb, h]
  rfl

/-! ### a program without macro calls is left as it is -/

mutual
theorem modify_noCalls (lim : Limits) (store : Store) :
    ∀ (t : Node), noCalls store t = true → modify (expandCb lim store) t = .ok t
  | .pre op r, h => by rw [modify, modify_noCalls lim store r h]; rfl
  | .fn name ps variadic lambda key body, h => by rw [modify, modify_noCalls lim store body h]; rfl
  | .macroLit ps body, h => by rw [modify, modify_noCalls lim store body h]; rfl
  | .inf op l r, h => by
    have ⟨h1, h2⟩ := Bool.and_eq_true_iff.1 h
    rw [modify, modify_noCalls lim store l h1, modify_noCalls lim store r h2]; rfl
  | .idx tok l i, h => by
    have ⟨h1, h2⟩ := Bool.and_eq_true_iff.1 h
    rw [modify, modify_noCalls lim store l h1, modify_noCalls lim store i h2]; rfl
  | .forE c b, h => by
    have ⟨h1, h2⟩ := Bool.and_eq_true_iff.1 h
    rw [modify, modify_noCalls lim store c h1, modify_noCalls lim store b h2]; rfl
  | .stmts l, h => by rw [modify, modifyList_noCalls lim store l h]; rfl
  | .arr els, h => by rw [modify, modifyList_noCalls lim store els h]; rfl
  | .mapLit ks vs, h => by
    have ⟨h1, h2⟩ := Bool.and_eq_true_iff.1 h
    rw [modify, modifyList_noCalls lim store ks h1, modifyList_noCalls lim store vs h2]; rfl
  | .ifE c a b, h => by
    have ⟨h12, h3⟩ := Bool.and_eq_true_iff.1 h
    have ⟨h1, h2⟩ := Bool.and_eq_true_iff.1 h12
    by_cases hn : b = .none
    · subst hn; rw [modify, modify_noCalls lim store c h1, modify_noCalls lim store a h2]; rfl
    · rw [modify_ifE _ _ _ _ hn, modify_noCalls lim store c h1, modify_noCalls lim store a h2, modify_noCalls lim store b h3]; rfl
  | .ret v, h => by
    by_cases hn : v = .none
    · subst hn; rfl
    · rw [modify_ret _ _ hn, modify_noCalls lim store v h]; rfl
  | .builtin name ps, h => by rw [modify, modifyList_noCalls lim store ps h]; rfl
  | .call fn args, h => by
    have ⟨h12, h3⟩ := Bool.and_eq_true_iff.1 h
    have ⟨h1, h2⟩ := Bool.and_eq_true_iff.1 h12
    rw [modify, modify_noCalls lim store fn h1, modifyList_noCalls lim store args h2]
    exact expandCb_notMacro _ _ _ _ (Option.isNone_iff_eq_none.1 h3)
  | .ident _, _ => rfl
  | .int _, _ => rfl
  | .float _, _ => rfl
  | .str _, _ => rfl
  | .bool _, _ => rfl
  | .post _ _, _ => rfl
  | .none, _ => rfl
  | .ctl _, _ => rfl
  | .comment, _ => rfl
theorem modifyList_noCalls (lim : Limits) (store : Store) :
    ∀ (l : List Node), noCallsList store l = true → modifyList (expandCb lim store) l = .ok l
  | [], _ => rfl
  | x :: xs, h => by
    have ⟨h1, h2⟩ := Bool.and_eq_true_iff.1 h
    rw [modifyList, modify_noCalls lim store x h1, modifyList_noCalls lim store xs h2]; rfl
end

theorem modifyList_length (f : Node → X Node) : ∀ (l l' : List Node), modifyList f l = .ok l' → l'.length = l.length
  | [], l', h => by
    simp only [modifyList] at h
    cases h; rfl
  | x :: xs, l', h => by
    simp only [modifyList] at h
    cases hx : modify f x with
    | error e => rw [hx] at h; cases h
    | ok x' =>
      rw [hx] at h
      simp only [ok_bind] at h
      cases hxs : modifyList f xs with
      | error e => rw [hxs] at h; cases h
      | ok xs' =>
        rw [hxs] at h
        simp only [ok_bind] at h
        cases h
        simp [modifyList_length f xs xs' hxs]

theorem lookupArg_setArg (env : MEnv) (q p : String) (a : Node) :
    lookupArg (setArg env q a) p = if q == p then some a else lookupArg env p := by
  induction env with
  | nil => simp [setArg, lookupArg]
  | cons kv rest ih =>
    obtain ⟨k, w⟩ := kv
    by_cases hk : k = q
    · subst hk
      by_cases hp : k = p
      · subst hp; simp [setArg, lookupArg]
      · simp [setArg, lookupArg, hp]
    · by_cases hp : k = p
      · subst hp
        have hq : ¬ q = k := fun h => hk h.symm
        simp [setArg, lookupArg, hk, hq]
      · simp [setArg, lookupArg, hk, hp, ih]

/-- every parameter is bound by `extendMacroEnv` once the arities agree -/
theorem bound_extend (p : String) : ∀ (ps : List String) (as : List Node) (env : MEnv), as.length = ps.length →
    (p ∈ ps ∨ (lookupArg env p).isSome = true) → (lookupArg (extendMacroEnv ps as env) p).isSome = true
  | [], [], env, _, h => by
    simp only [extendMacroEnv]
    cases h with
    | inl h => cases h
    | inr h => exact h
  | [], _ :: _, _, hl, _ => by simp at hl
  | _ :: _, [], _, hl, _ => by simp at hl
  | q :: ps, a :: as, env, hl, h => by
    simp only [extendMacroEnv]
    apply bound_extend p ps as (setArg env q a) (by simpa using hl)
    rw [lookupArg_setArg]
    cases h with
    | inl h =>
      cases h with
      | head => right; simp
      | tail _ h => left; exact h
    | inr h =>
      right
      by_cases hq : (q == p) = true
      · simp [hq]
      · simp [hq, h]

end Grol.Macro
