import GrolProofs.PrintParseSteps
/-
C02, positive half: Pratt parsing inverts the printer's minimal-parenthesis rendering.
-/
set_option linter.unusedVariables false
set_option linter.unusedSimpArgs false
namespace Grol.RT
open Grol Grol.Wire Grol.Generated Grol.Parser Grol.Printer Grol.PrintTokens
variable {s : TokStream} {c ap : Bool}

-- generates the equations of `exprToks` once; otherwise each theorem below that unfolds it generates them again
attribute [local simp] exprToks

theorem precOf_eq : ∀ t : TokType, precOf t = (lookupPrec t).getD prioLOWEST :=
  TokType.forall_of_all (by decide +kernel)

def isOpener (t : TokType) : Prop := t = .LPAREN ∨ t = .LBRACKET

instance (t : TokType) : Decidable (isOpener t) := inferInstanceAs (Decidable (_ ∨ _))

/-- the token types that end an expression printed in context `q`, whatever the whitespace in front -/
def endTy (q : Nat) (t : TokType) : Bool :=
  t != .LAMBDA && t != .INCR && t != .DECR && t != .ELSE && decide (precOf t ≤ q)

/-- a binary operator is taken by the expression loop below its own level and ends its left operand -/
theorem binOp_facts : ∀ t : TokType, binOp t = true →
    2 ≤ precOf t ∧ precOf t ≤ 10 ∧ (t ≠ .SEMICOLON ∧ lookup infixRegs t = some .parseInfixExpression) ∧
    ¬ isOpener t ∧ endTy (precOf t) t = true :=
  TokType.forall_of_all (by decide +kernel)

theorem preOp_facts : ∀ t : TokType, preOp t = true →
    t ≠ .EOL ∧ lookup prefixRegs t = some .parsePrefixExpression :=
  TokType.forall_of_all (by decide +kernel)

theorem postfix_none : ∀ t : TokType, t ≠ .INCR → t ≠ .DECR → lookup postfixRegs t = none :=
  TokType.forall_of_all (by decide +kernel)

/-- tokens whose precedence drives the left spine: binary operators, `[` and `.` -/
def leftOp (t : TokType) : Bool := binOp t || t == .LBRACKET || t == .DOT

theorem leftOp_low : ∀ t : TokType, leftOp t = true → 1 < precOf t :=
  TokType.forall_of_all (by decide +kernel)
theorem leftOp_not_prefix : ∀ t : TokType, leftOp t = true → 11 ≤ precOf t → 11 < precOf t :=
  TokType.forall_of_all (by decide +kernel)

theorem builtinOp_facts : ∀ t : TokType, builtinOp t = true →
    t ≠ .EOL ∧ lookup prefixRegs t = some .parseBuiltin :=
  TokType.forall_of_all (by decide +kernel)

/-- the first token of an expression -/
def startTy (t : TokType) : Bool :=
  t == .IDENT || t == .INT || t == .FLOAT || t == .STRING || t == .TRUE || t == .FALSE || t == .LPAREN || t == .LBRACKET || preOp t
    || t == .BREAK || t == .CONTINUE || t == .IF || t == .FOR || t == .FUNC || builtinOp t || t == .DOTDOT || t == .MACRO || t == .LBRACE

theorem startTy_facts : ∀ t : TokType, startTy t = true →
    t ≠ .RPAREN ∧ t ≠ .RBRACKET ∧ t ≠ .COMMA ∧ t ≠ .EOF ∧ t ≠ .EOL ∧ t ≠ .RETURN ∧ t ≠ .SEMICOLON ∧ t ≠ .LAMBDA ∧ t ≠ .RBRACE :=
  TokType.forall_of_all (by decide +kernel)

/-- a first token that is not `-`, `+`, `^`, `++`, `--` binds no tighter than LOWEST, except `(` and `[` -/
theorem startTy_stop : ∀ t : TokType, startTy t = true → ambiguousOp t = false →
    t ≠ .INCR ∧ t ≠ .DECR ∧ (precOf t ≤ 1 ∨ t = .LPAREN ∨ t = .LBRACKET) :=
  TokType.forall_of_all (by decide +kernel)

/-- the token after an expression printed in context `q` ends it -/
def Stop (q : Nat) (x : Tok) : Prop :=
  x.type ≠ .LAMBDA ∧ x.type ≠ .INCR ∧ x.type ≠ .DECR ∧
  ((precOf x.type ≤ q ∧ x.type ≠ .ELSE) ∨ ((x.type = .LPAREN ∨ x.type = .LBRACKET) ∧ x.hadWs = true))

theorem Stop.mono {q q' : Nat} {x : Tok} (h : Stop q x) (hq : q ≤ q') : Stop q' x :=
  ⟨h.1, h.2.1, h.2.2.1, h.2.2.2.elim (fun h => Or.inl ⟨by have := h.1; omega, h.2⟩) Or.inr⟩

theorem Stop.notElse {q : Nat} {x : Tok} (h : Stop q x) : x.type ≠ .ELSE := by
  rcases h.2.2.2 with h | ⟨h, _⟩
  · exact h.2
  · rcases h with h | h <;> rw [h] <;> decide

theorem loop_stop_of_Stop {f P : Nat} {st : PState} {l : ONode} (h : Stop P st.peek) :
    parseExpressionLoop s (f + 1) P l st = .ok (l, st) := by
  rcases h.2.2.2 with h | ⟨h, hw⟩
  · exact loop_stop h.1
  · exact loop_stop_ws h hw

theorem ev_loop_stop {P j : Nat} {l : ONode} (h : Stop P (s.get (j + 1))) :
    Ev (fun f => parseExpressionLoop s f P l (stAt s j) = .ok (l, stAt s j)) :=
  ⟨1, fun f hf => by
    obtain ⟨g, rfl⟩ : ∃ g, f = g + 1 := ⟨f - 1, by omega⟩
    exact loop_stop_of_Stop (by simpa using h)⟩

theorem Stop.of_type {q : Nat} {x : Tok} {T : TokType} (h : x.type = T) (hT : endTy q T = true) : Stop q x := by
  simp only [endTy, Bool.and_eq_true, bne_iff_ne, ne_eq, decide_eq_true_eq] at hT
  rw [← h] at hT
  exact ⟨hT.1.1.1.1, hT.1.1.1.2, hT.1.1.2, Or.inl ⟨hT.2, hT.1.2⟩⟩


/-- parser level `P` against printer context `q`: every operator printed without parentheses in
context `q` is taken by the loop at level `P` -/
def Compat (P q : Nat) : Prop :=
  P ≤ 11 ∧ 1 ≤ q ∧ ∀ t, leftOp t = true → q ≤ precOf t → P < precOf t

theorem Compat.mono {P q q' : Nat} (h : Compat P q) (hq : q ≤ q') : Compat P q' :=
  ⟨h.1, by have := h.2.1; omega, fun t ht hp => h.2.2 t ht (by omega)⟩

theorem Compat.of_lt {P q : Nat} (h : P < q) (hP : P ≤ 11) : Compat P q :=
  ⟨hP, by omega, fun t _ hp => by omega⟩

theorem Compat_low {q : Nat} (hq : 1 ≤ q) : Compat 1 q :=
  ⟨by omega, hq, fun t ht _ => leftOp_low t ht⟩

theorem Compat_prefix : Compat 11 11 :=
  ⟨by omega, by omega, fun t ht hp => leftOp_not_prefix t ht hp⟩

theorem seg_type {i : Nat} {x : Tok} (h : key (s.get i) = key x) : (s.get i).type = x.type := by
  simpa using congrArg Tok.type h
theorem seg_num {i : Nat} {x : Tok} (h : key (s.get i) = key x) : (s.get i).num = x.num := by
  simpa using congrArg Tok.num h
theorem seg_tk {i : Nat} {t : Tk} {ws : Bool} (h : key (s.get i) = key (tk t ws)) : (s.get i).tk = t := by
  rw [key_tk h]; rfl
theorem seg_tkNum {i : Nat} {t : Tk} {n : NumClass} {ws : Bool} (h : key (s.get i) = key (tkNum t n ws)) : (s.get i).tk = t := by
  rw [key_tk h]; rfl

/-- the stream shows at `j` a token of a type that ends every expression -/
theorem stop_key {q j : Nat} {x : Tok} (h : key (s.get j) = key x) (hx : endTy 1 x.type = true) (hq : 1 ≤ q) : Stop q (s.get j) :=
  (Stop.of_type (seg_type h) hx).mono hq

/-- the rendering starts with a token that can start an expression; if that is `(` or `[`, its whitespace flag is `ws` -/
def Head (ws : Bool) (l : List Tok) : Prop := ∃ x rest, l = x :: rest ∧ startTy x.type = true ∧ (isOpener x.type → x.hadWs = ws)

theorem Head.append {ws : Bool} {l : List Tok} (h : Head ws l) (m : List Tok) : Head ws (l ++ m) := by
  obtain ⟨x, rest, rfl, h1, h2⟩ := h
  exact ⟨x, rest ++ m, rfl, h1, h2⟩

theorem Head.cons {ws : Bool} {x : Tok} (h1 : startTy x.type = true) (h2 : x.hadWs = ws) (m : List Tok) : Head ws (x :: m) :=
  ⟨x, m, rfl, h1, fun _ => h2⟩

theorem Head.cons' {ws : Bool} {x : Tok} (h1 : startTy x.type = true) (h2 : ¬ isOpener x.type) (m : List Tok) : Head ws (x :: m) :=
  ⟨x, m, rfl, h1, fun h => absurd h h2⟩

theorem head_lparen (ws : Bool) (m : List Tok) : Head ws (lparen ws :: m) :=
  Head.cons (show startTy TokType.LPAREN = true by decide) rfl m

theorem and_l {a b : Bool} (h : (a && b) = true) : a = true := (Bool.and_eq_true_iff.1 h).1
theorem and_r {a b : Bool} (h : (a && b) = true) : b = true := (Bool.and_eq_true_iff.1 h).2

theorem startTy_of_beq {t a : TokType} (h : (t == a) = true) (ha : startTy a = true) : startTy t = true :=
  eq_of_beq h ▸ ha

theorem of_or_beq {P : TokType → Prop} {t a b : TokType} (h : (t == a || t == b) = true) (ha : P a) (hb : P b) : P t :=
  (Bool.or_eq_true _ _ ▸ h).elim (eq_of_beq · ▸ ha) (eq_of_beq · ▸ hb)

theorem startTy_of_or {t a b : TokType} (h : (t == a || t == b) = true) (ha : startTy a = true) (hb : startTy b = true) :
    startTy t = true :=
  of_or_beq (P := (startTy · = true)) h ha hb

theorem startTy_preOp {t : TokType} (h : preOp t = true) : startTy t = true := by
  simp only [startTy, h, Bool.or_true, Bool.true_or]

theorem startTy_builtinOp {t : TokType} (h : builtinOp t = true) : startTy t = true := by
  simp only [startTy, h, Bool.or_true, Bool.true_or]

theorem Head.ite {ws : Bool} {d : Prop} [Decidable d] {a b : List Tok} (ha : d → Head ws a) (hb : ¬ d → Head ws b) :
    Head ws (if d then a else b) := by
  split
  · exact ha ‹_›
  · exact hb ‹_›

/-- in parentheses when `b` holds: `(` carries the whitespace flag -/
theorem Head.paren {ws b : Bool} {l : List Tok} (h : Head ws l) (m : List Tok) : Head ws (if b then lparen ws :: m else l) :=
  Head.ite (fun _ => head_lparen ws m) fun _ => h

/-- an optional `(` in front takes the whitespace flag from what follows it -/
theorem Head.optParen {ws b : Bool} {l : Bool → List Tok} (h : ∀ w, Head w (l w)) :
    Head ws ((if b then [lparen ws] else []) ++ l (!b && ws)) := by
  cases b
  · exact h ws
  · exact head_lparen ws _

theorem isParam_elim {x : ONode} (h : isParam x = true) : ∃ t, x = some (.ident t) ∧ (t.type = .IDENT ∨ t.type = .DOTDOT) := by
  unfold isParam at h
  split at h
  · exact ⟨_, rfl, by simpa using h⟩
  · cases h

mutual
theorem head_node : ∀ (t : Node), fragN c ap t = true → ∀ (q : Nat) (ws : Bool), Head ws (exprToks c ap q ws t)
  | .ident t, h, q, ws | .boolean t, h, q, ws | .control t, h, q, ws => Head.cons (x := tk t ws) (startTy_of_or h rfl rfl) rfl []
  | .strLit t, h, q, ws => Head.cons (x := tk t ws) (startTy_of_beq h rfl) rfl []
  | .intLit t, h, q, ws => Head.cons (x := tkNum t .int ws) (startTy_of_beq h rfl) rfl []
  | .floatLit t, h, q, ws => Head.cons (x := tkNum t .float ws) (startTy_of_or h rfl rfl) rfl []
  | .pre t r, h, q, ws => Head.paren (Head.cons (x := tk t ws) (startTy_preOp (and_l h)) rfl _) _
  | .post t p, h, q, ws => Head.paren (Head.cons (x := tk p ws) (startTy_of_or (and_r h) rfl rfl) rfl _) _
  | .infix t l none, h, q, ws => Bool.noConfusion (and_r h)
  | .infix t l (some r), h, q, ws => Head.paren ((head_opt l (and_r (and_l h)) (precOf t.type) ws).append _) _
  | .call t f args, h, q, ws => ((head_opt f (and_r (and_l h)) prioCALL ws).append _).append _
  | .array t es, h, q, ws => Head.cons (x := sym .LBRACKET [91] ws) rfl rfl _
  | .builtin t ps, h, q, ws => Head.cons (x := tk t ws) (startTy_builtinOp (and_l h)) rfl _
  | .func t nm ps b v false, h, q, ws => Head.cons (x := tk t ws) (startTy_of_beq (and_l (and_l (and_l h))) rfl) rfl _
  | .func t nm ps b v true, h, q, ws => by
    refine ((Head.optParen (l := fun w => if ps.length == 1 then listToks c ap q false ps
      else lparen w :: listToks c ap q false ps ++ [rparen]) fun w => Head.ite (fun h1 => ?_) fun _ => head_lparen _ _).append _).append _
    -- one parameter: an identifier or `..`
    match ps, h1, and_l (and_r (and_l h)) with
    | [x], _, hx =>
      have hx := and_l hx
      obtain ⟨p, rfl, -⟩ := isParam_elim hx
      exact Head.cons' (x := tk p (false && !c)) (startTy_of_or hx rfl rfl) (of_or_beq (P := (¬ isOpener ·)) hx (by decide) (by decide)) _
    | [], h1, _ => simp at h1
    | _ :: _ :: _, h1, _ => simp at h1
  | .forE t cnd b, h, q, ws => Head.cons (x := sym .FOR [102, 111, 114] ws) rfl rfl _
  | .ifE t cnd a b, h, q, ws => Head.cons (x := sym .IF [105, 102] ws) rfl rfl _
  | .index t l i, h, q, ws =>
    (((Head.optParen (l := fun w => if t.type == .DOT && isNumberLiteral l
        then lparen w :: exprToksO c ap (precOf t.type) false l ++ [rparen] else exprToksO c ap (precOf t.type) w l)
      fun w => Head.paren (head_opt l (and_l h) (precOf t.type) w) _).append _).append _).append _
  | .macroLit t ps b, h, q, ws => Head.cons (x := tk t ws) (startTy_of_beq (and_l (and_l h)) rfl) rfl _
  | .mapLit t kvs, h, q, ws => Head.cons' (x := sym .LBRACE [123] ws) rfl (by simp [sym, isOpener]) _
  | .comment _ _ _, h, _, _ | .ret _ _, h, _, _ => Bool.noConfusion h
theorem head_opt : ∀ (t : Option Node), fragO c ap t = true → ∀ (q : Nat) (ws : Bool), Head ws (exprToksO c ap q ws t)
  | none, h, _, _ => by simp [fragO] at h
  | some n, h, q, ws => head_node n h q ws
end

/-- the round-trip property of one expression tree: on its rendering in context `q`, `parseExpression P`
does what the expression loop at level `P` does from the state after it, with the tree as left operand -/
def GP (s : TokStream) (c ap : Bool) (t : Node) : Prop :=
  ∀ (ws : Bool) (q P i j : Nat) (res : ONode × PState),
    Compat P q → Seg s i (exprToks c ap q ws t) → j + 1 = i + (exprToks c ap q ws t).length → Stop q (s.get (j + 1)) →
    Ev (fun f => parseExpressionLoop s f P (some t) (stAt s j) = .ok res) →
    Ev (fun f => parseExpression s f P (stAt s i) = .ok res)

/-- where the loop at level `P` stops after the tree as well, the tree is the result -/
theorem GP.parse {t : Node} (h : GP s c ap t) {ws : Bool} {q P i j : Nat} (hc : Compat P q) (hseg : Seg s i (exprToks c ap q ws t))
    (hj : j + 1 = i + (exprToks c ap q ws t).length) (hq : Stop q (s.get (j + 1))) (hP : Stop P (s.get (j + 1))) :
    Ev (fun f => parseExpression s f P (stAt s i) = .ok (some t, stAt s j)) :=
  h ws q P i j _ hc hseg hj hq (ev_loop_stop hP)

/-- the token after an operand is not `=>`, `++`, `--` -/
def NotCont (x : Tok) : Prop := x.type ≠ .LAMBDA ∧ x.type ≠ .INCR ∧ x.type ≠ .DECR

theorem Stop.notCont {q : Nat} {x : Tok} (h : Stop q x) : NotCont x := ⟨h.1, h.2.1, h.2.2.1⟩

/-- the same at any level and in front of any such token (one-token expressions) -/
def GPA (s : TokStream) (t : Node) : Prop :=
  ∀ (c ap ws : Bool) (q P i j : Nat) (res : ONode × PState),
    Seg s i (exprToks c ap q ws t) → j + 1 = i + (exprToks c ap q ws t).length → NotCont (s.get (j + 1)) →
    Ev (fun f => parseExpressionLoop s f P (some t) (stAt s j) = .ok res) →
    Ev (fun f => parseExpression s f P (stAt s i) = .ok res)

theorem GPA.gp {t : Node} (h : GPA s t) : GP s c ap t := fun ws q P i j res _ hseg hj hstop => h c ap ws q P i j res hseg hj hstop.notCont

/-- an expression whose first token, of type `T` at `i`, selects the prefix function `fn`, which returns `nd` at `j` -/
theorem pE_prefix {P i j : Nat} {res : ONode × PState} {nd : Node} {fn : PrefixFn} {T : TokType}
    (hty : (s.get i).type = T) (hreg : T ≠ .EOL ∧ lookup prefixRegs T = some fn) (hfollow : (s.get (j + 1)).type ≠ .LAMBDA)
    (h : Ev (fun f => prefixDispatch s f fn (stAt s i) = .ok (some nd, stAt s j))) :
    Ev (fun f => parseExpressionLoop s f P (some nd) (stAt s j) = .ok res) →
    Ev (fun f => parseExpression s f P (stAt s i) = .ok res) := by
  refine Ev.step2 0 1 (fun F _ ha hb f hf => ?_) h
  rw [pE_step (by simp only [stAt_cur, hty]; exact hreg.1) (by simp only [stAt_cur, hty]; exact hreg.2) (ha f hf)
    (by simpa using hfollow)]
  exact hb f hf

/-- one turn of the expression loop: the operator of type `T` at `jl + 1` selects the infix function `fn`, which returns `nd` at `j` -/
theorem loop_infix {P jl j : Nat} {res : ONode × PState} {l : ONode} {nd : Node} {fn : InfixFn} {T : TokType}
    (hty : (s.get (jl + 1)).type = T) (hreg : T ≠ .SEMICOLON ∧ lookup infixRegs T = some fn) (hP : P < precOf T)
    (hws : isOpener T → (s.get (jl + 1)).hadWs = false)
    (h : Ev (fun f => infixDispatch s f fn l (stAt s (jl + 1)) = .ok (some nd, stAt s j))) :
    Ev (fun f => parseExpressionLoop s f P (some nd) (stAt s j) = .ok res) →
    Ev (fun f => parseExpressionLoop s f P l (stAt s jl) = .ok res) := by
  refine Ev.step2 0 1 (fun F _ ha hb f hf => ?_) h
  rw [loop_step (st := stAt s jl) (by simp only [stAt_peek, hty]; exact hreg.1) (by simp only [stAt_peek, hty]; exact hP)
    (by simp only [stAt_peek, hty]; exact hreg.2)
    (fun h => by rw [stAt_peek, hws (Or.inl (hty.symm.trans h.1))] at h; exact Bool.noConfusion h.2)
    (fun h => by rw [stAt_peek, hws (Or.inr (hty.symm.trans h.1))] at h; exact Bool.noConfusion h.2)
    (by rw [advance_stAt]; exact ha f hf)]
  exact hb f hf

/-- a node rendered in every context as the one token `x ws`, from which `fn` builds it -/
theorem gpa_of_token {nd : Node} {fn : PrefixFn} {x : Bool → Tok}
    (htoks : ∀ c ap q ws, exprToks c ap q ws nd = [x ws])
    (hreg : ∀ ws, (x ws).type ≠ .EOL ∧ lookup prefixRegs (x ws).type = some fn)
    (hparse : ∀ ws i f, key (s.get i) = key (x ws) → NotCont (s.get (i + 1)) →
      prefixDispatch s (f + 1) fn (stAt s i) = .ok (some nd, stAt s i)) : GPA s nd := by
  intro c ap ws q P i j res hseg hj hstop
  rw [htoks] at hseg hj
  simp only [Seg_cons, Seg_nil, and_true, List.length_cons, List.length_nil] at hseg hj
  obtain rfl : j = i := by omega
  exact pE_prefix (seg_type hseg) (hreg ws) hstop.1 (Ev.after 1 fun f => hparse ws j f hseg hstop)

theorem gpa_ident (t : Tk) (h : t.type = .IDENT ∨ t.type = .DOTDOT) : GPA s (.ident t) :=
  gpa_of_token (x := tk t) (fn := .parseIdentifier) (fun _ _ _ _ => rfl)
    (fun ws => by rcases h with h | h <;> simp only [tk, h] <;> decide)
    fun ws i f hk hn => by rw [pd_ident, parseIdentifier_ok (by simpa using postfix_none _ hn.2.1 hn.2.2), stAt_cur, seg_tk hk]

theorem gpa_strLit (t : Tk) (h : t.type = .STRING) : GPA s (.strLit t) :=
  gpa_of_token (x := tk t) (fn := .parseStringLiteral) (fun _ _ _ _ => rfl)
    (fun ws => by simp only [tk, h]; decide)
    fun ws i f hk _ => by rw [pd_str, parseStringLiteral_ok, stAt_cur, seg_tk hk]

theorem gpa_boolean (t : Tk) (h : t.type = .TRUE ∨ t.type = .FALSE) : GPA s (.boolean t) :=
  gpa_of_token (x := tk t) (fn := .parseBoolean) (fun _ _ _ _ => rfl)
    (fun ws => by rcases h with h | h <;> simp only [tk, h] <;> decide)
    fun ws i f hk _ => by rw [pd_bool, parseBoolean_ok, stAt_cur, seg_tk hk]

theorem gpa_intLit (t : Tk) (h : t.type = .INT) : GPA s (.intLit t) :=
  gpa_of_token (x := tkNum t .int) (fn := .parseIntegerLiteral) (fun _ _ _ _ => rfl)
    (fun ws => by simp only [tkNum, h]; decide)
    fun ws i f hk _ => by rw [pd_int, parseIntegerLiteral_int (by simpa [tkNum] using seg_num hk), stAt_cur, seg_tkNum hk]

theorem gpa_floatLit (t : Tk) (h : t.type = .INT ∨ t.type = .FLOAT) : GPA s (.floatLit t) := by
  rcases h with h | h
  · exact gpa_of_token (x := tkNum t .float) (fn := .parseIntegerLiteral) (fun _ _ _ _ => rfl)
      (fun ws => by simp only [tkNum, h]; decide)
      fun ws i f hk _ => by rw [pd_int, parseIntegerLiteral_float (by simpa [tkNum] using seg_num hk), stAt_cur, seg_tkNum hk]
  · exact gpa_of_token (x := tkNum t .float) (fn := .parseFloatLiteral) (fun _ _ _ _ => rfl)
      (fun ws => by simp only [tkNum, h]; decide)
      fun ws i f hk _ => by rw [pd_float, parseFloatLiteral_ok (by simpa [tkNum] using seg_num hk), stAt_cur, seg_tkNum hk]

theorem gpa_control (t : Tk) (h : t.type = .BREAK ∨ t.type = .CONTINUE) : GPA s (.control t) :=
  gpa_of_token (x := tk t) (fn := .parseControlExpression) (fun _ _ _ _ => rfl)
    (fun ws => by rcases h with h | h <;> simp only [tk, h] <;> decide)
    fun ws i f hk _ => by rw [pd_control, parseControlExpression_ok, stAt_cur, seg_tk hk]

theorem stop_rparen {q j : Nat} (h : key (s.get j) = key rparen) (hq : 1 ≤ q) : Stop q (s.get j) := stop_key h (by decide) hq

theorem stop_rbracket {q j : Nat} (h : key (s.get j) = key rbracket) (hq : 1 ≤ q) : Stop q (s.get j) := stop_key h (by decide) hq

/-- a parenthesised expression, at any level: the tokens `( body )` from `i`, the `)` at `j`; the body is parsed at
level LOWEST in front of the `)` -/
theorem grp_seg {t : Node} {body : List Tok} {w : Bool} {P i j : Nat} {res : ONode × PState}
    (hseg : Seg s i (lparen w :: (body ++ [rparen]))) (hj : j = i + body.length + 1) (hfollow : (s.get (j + 1)).type ≠ .LAMBDA)
    (hbody : ∀ j' res', j' + 1 = j → Seg s (i + 1) body → key (s.get (j' + 1)) = key rparen →
      Ev (fun f => parseExpressionLoop s f prioLOWEST (some t) (stAt s j') = .ok res') →
      Ev (fun f => parseExpression s f prioLOWEST (stAt s (i + 1)) = .ok res')) :
    Ev (fun f => parseExpressionLoop s f P (some t) (stAt s j) = .ok res) →
    Ev (fun f => parseExpression s f P (stAt s i) = .ok res) := by
  rw [Seg_cons] at hseg
  obtain ⟨j', rfl⟩ : ∃ j', j = j' + 1 := ⟨j - 1, by omega⟩
  have hcl := (Seg_last hseg.2).2
  rw [show i + 1 + body.length = j' + 1 by omega] at hcl
  have hin := hbody j' _ rfl (Seg_last hseg.2).1 hcl (ev_loop_stop (stop_rparen hcl (Nat.le_refl _)))
  refine pE_prefix (T := .LPAREN) (fn := .parseGroupedExpression) (seg_type hseg.1) (by decide) hfollow (Ev.step 0 2 (fun F _ ha f hf => ?_) hin)
  rw [pd_grp, parseGroupedExpression_ok (by rw [advance_stAt]; exact ha f hf) (seg_type hcl), advance_stAt]

theorem postfix_some : ∀ t : TokType, t = .INCR ∨ t = .DECR → lookup postfixRegs t = some .parsePostfixExpression := by
  intro t h; rcases h with rfl | rfl <;> decide

/-- `p++` without parentheses, at any level: tokens `p` at `i`, the operator at `i + 1` -/
theorem post_body {t p : Tk} (ht : t.type = .INCR ∨ t.type = .DECR) (hp : p.type = .IDENT ∨ p.type = .DOTDOT) (w : Bool) (P i : Nat) (res : ONode × PState)
    (hseg : Seg s i [tk p w, tk t false]) (hfollow : (s.get (i + 2)).type ≠ .LAMBDA) :
    Ev (fun f => parseExpressionLoop s f P (some (.post t p)) (stAt s (i + 1)) = .ok res) →
    Ev (fun f => parseExpression s f P (stAt s i) = .ok res) := by
  simp only [Seg_cons, Seg_nil, and_true] at hseg
  refine pE_prefix (fn := .parseIdentifier) (seg_type hseg.1) (by rcases hp with h | h <;> simp only [tk, h] <;> decide) hfollow
    (Ev.after 1 fun f => ?_)
  rw [pd_ident, parseIdentifier_post (by simp only [stAt_peek, seg_type hseg.2]; exact postfix_some _ ht), advance_stAt, stAt_peek, stAt_cur,
    seg_tk hseg.1, seg_tk hseg.2]

theorem gpa_post (t p : Tk) (ht : t.type = .INCR ∨ t.type = .DECR) (hp : p.type = .IDENT ∨ p.type = .DOTDOT) : GPA s (.post t p) := by
  intro c ap ws q P i j res hseg hj hstop
  simp only [exprToks] at hseg hj
  by_cases hn : (ap || decide (precOf t.type < q)) = true
  · rw [if_pos hn] at hseg hj
    simp only [List.length_cons, List.length_nil] at hj
    refine grp_seg (body := [tk p false, tk t false]) hseg (by simp only [List.length_cons, List.length_nil]; omega) hstop.1
      fun j' res' _ hb hcl => ?_
    obtain rfl : j' = i + 1 + 1 := by omega
    exact post_body ht hp false prioLOWEST (i + 1) res' hb (by rw [show i + 1 + 2 = i + 1 + 1 + 1 from rfl, seg_type hcl]; decide)
  · rw [if_neg hn] at hseg hj
    simp only [List.length_cons, List.length_nil] at hj
    obtain rfl : j = i + 1 := by omega
    exact post_body ht hp ws P i res hseg hstop.1

/-- a tree rendered as `B ws`, and as `( B false )` when `ap` is set or the context is above `p`: the round-trip
property follows from the bare rendering being parsed in every context up to `p` -/
theorem gp_paren {t : Node} {B : Bool → List Tok} {p : Nat} (hp : 1 ≤ p)
    (htoks : ∀ q ws, exprToks c ap q ws t = if ap || decide (p < q) then lparen ws :: (B false ++ [rparen]) else B ws)
    (hbody : ∀ (w : Bool) (q P i j : Nat) (res : ONode × PState), q ≤ p → Compat P q → Seg s i (B w) → j + 1 = i + (B w).length →
      Stop q (s.get (j + 1)) → Ev (fun f => parseExpressionLoop s f P (some t) (stAt s j) = .ok res) →
      Ev (fun f => parseExpression s f P (stAt s i) = .ok res)) : GP s c ap t := by
  intro ws q P i j res hc hseg hj hstop
  rw [htoks] at hseg hj
  by_cases hn : (ap || decide (p < q)) = true
  · rw [if_pos hn] at hseg hj
    simp only [List.length_cons, List.length_append, List.length_nil] at hj
    refine grp_seg hseg (by omega) hstop.1 fun j' res' _ hb hcl => ?_
    exact hbody false 1 prioLOWEST (i + 1) j' res' hp (Compat_low (Nat.le_refl _)) hb (by omega) (stop_rparen hcl (Nat.le_refl _))
  · rw [if_neg hn] at hseg hj
    simp only [Bool.or_eq_true, decide_eq_true_eq, not_or, Nat.not_lt] at hn
    exact hbody ws q P i j res hn.2 hc hseg hj hstop

/-- a prefix expression without its parentheses, at any level -/
theorem pre_body {t : Tk} {r : Node} (hr : GP s c ap r) (hop : preOp t.type = true) (w : Bool) (P i j : Nat)
    (res : ONode × PState) (hseg : Seg s i (tk t w :: exprToks c ap prioPREFIX false r))
    (hj : j + 1 = i + 1 + (exprToks c ap prioPREFIX false r).length) (hstop : Stop prioPREFIX (s.get (j + 1))) :
    Ev (fun f => parseExpressionLoop s f P (some (.pre t (some r))) (stAt s j) = .ok res) →
    Ev (fun f => parseExpression s f P (stAt s i) = .ok res) := by
  rw [Seg_cons] at hseg
  have h1 := hr.parse (q := prioPREFIX) Compat_prefix hseg.2 (by omega) hstop hstop
  refine pE_prefix (seg_type hseg.1) (preOp_facts _ hop) hstop.1 (Ev.step 0 2 (fun F _ ha f hf => ?_) h1)
  rw [pd_pre, parsePrefixExpression_ok (by rw [advance_stAt]; exact ha f hf), stAt_cur, seg_tk hseg.1]

theorem gp_pre {t : Tk} {r : Node} (hr : GP s c ap r) (hop : preOp t.type = true) : GP s c ap (.pre t (some r)) :=
  gp_paren (p := 10) (B := fun w => tk t w :: exprToks c ap prioPREFIX false r) (by decide) (fun _ _ => rfl)
    fun w q P i j res hq _ hseg hj hstop => pre_body hr hop w P i j res hseg (by simp only [List.length_cons] at hj; omega) (hstop.mono (Nat.le_succ_of_le hq))

theorem Head.length_pos {ws : Bool} {l : List Tok} (h : Head ws l) : 1 ≤ l.length := by
  obtain ⟨x, rest, rfl, _⟩ := h; simp

theorem Head.seg_start {ws : Bool} {l : List Tok} {i : Nat} (h : Head ws l) (hs : Seg s i l) : startTy (s.get i).type = true := by
  obtain ⟨x, rest, rfl, h1, _⟩ := h
  rw [seg_type hs.1]; exact h1

/-- a binary expression without its parentheses -/
theorem infix_body {t : Tk} {l r : Node} (hl : GP s c ap l) (hr : GP s c ap r) (hfl : fragN c ap l = true) (hfr : fragN c ap r = true)
    (hop : binOp t.type = true) (w w1 w2 : Bool) (q P i j : Nat) (res : ONode × PState)
    (hq : q ≤ precOf t.type) (hc : Compat P q)
    (hseg : Seg s i (exprToks c ap (precOf t.type) w l ++ tk t w1 :: exprToks c ap (precOf t.type + 1) w2 r))
    (hj : j + 1 = i + (exprToks c ap (precOf t.type) w l).length + 1 + (exprToks c ap (precOf t.type + 1) w2 r).length)
    (hstop : Stop q (s.get (j + 1))) :
    Ev (fun f => parseExpressionLoop s f P (some (.infix t (some l) (some r))) (stAt s j) = .ok res) →
    Ev (fun f => parseExpression s f P (stAt s i) = .ok res) := by
  obtain ⟨_, h10, hreg, hnop, hend⟩ := binOp_facts _ hop
  obtain ⟨jl, hjl, hsl, hk, hsr⟩ := Seg_mid hseg (head_node l hfl (precOf t.type) w).length_pos
  have hty : (s.get (jl + 1)).type = t.type := seg_type hk
  have hP : P < precOf t.type := hc.2.2 t.type (by simp [leftOp, hop]) hq
  refine fun h => hl w (precOf t.type) P i jl res (hc.mono hq) hsl hjl (Stop.of_type hty hend) ?_
  have h1 := hr.parse (Compat.of_lt (by omega) (by omega)) hsr (by omega) (hstop.mono (by omega)) (hstop.mono hq)
  have hstart := (head_node r hfr (precOf t.type + 1) w2).seg_start hsr
  refine loop_infix hty hreg hP (fun ho => (hnop ho).elim) (Ev.step 0 2 (fun F _ ha f hf => ?_) h1) h
  rw [id_infix, parseInfixExpression_ok (fun h => (startTy_facts _ hstart).2.1 h.2)
    (by simp only [stAt_cur, hty, advance_stAt]; exact ha f hf), stAt_cur, seg_tk hk]

theorem gp_infix {t : Tk} {l r : Node} (hl : GP s c ap l) (hr : GP s c ap r) (hfl : fragN c ap l = true) (hfr : fragN c ap r = true)
    (hop : binOp t.type = true) (hna : sameAssociativeOperator t r = false) : GP s c ap (.infix t (some l) (some r)) :=
  gp_paren (p := precOf t.type) (B := fun w => exprToks c ap (precOf t.type) w l ++ tk t (!c) :: exprToks c ap (precOf t.type + 1) (!c) r)
    (by have := (binOp_facts _ hop).1; omega)
    (fun q ws => by simp only [exprToks, exprToksO, hna, Bool.false_eq_true, if_false, List.cons_append, List.append_assoc])
    fun w q P i j res hq hc hseg hj hstop =>
      infix_body hl hr hfl hfr hop w (!c) (!c) q P i j res hq hc hseg (by simp only [List.length_cons, List.length_append] at hj; omega) hstop

def GPL (s : TokStream) (c ap : Bool) (xs : NList) : Prop := ∀ x ∈ xs, ∃ n, x = some n ∧ fragN c ap n = true ∧ GP s c ap n

theorem GPL.head {x : ONode} {xs : NList} (h : GPL s c ap (x :: xs)) : ∃ n, x = some n ∧ fragN c ap n = true ∧ GP s c ap n :=
  h x (List.mem_cons_self ..)
theorem GPL.tail {x : ONode} {xs : NList} (h : GPL s c ap (x :: xs)) : GPL s c ap xs :=
  fun y hy => h y (List.mem_cons_of_mem _ hy)

/-- a token type that closes a comma list: it ends every expression, is not a comma and starts no expression -/
def closerTy (t : TokType) : Bool := endTy 1 t && t != .COMMA && !startTy t

/-- what follows an element of a comma list, a comma or the closing token, ends every expression -/
theorem list_follow (c ap : Bool) (q : Nat) {endTok : Tok} (hend : endTy 1 endTok.type = true) (more : NList) :
    ∃ y rest, listToks c ap q true more ++ [endTok] = y :: rest ∧ endTy 1 y.type = true := by
  cases more with
  | nil => exact ⟨endTok, [], by simp [listToks], hend⟩
  | cons x xs => exact ⟨comma, _, by simp only [listToks, if_true, List.cons_append, List.nil_append, List.append_assoc]; rfl, rfl⟩

/-- an element of a comma list from `i`, in front of the rest of the list: it is parsed up to some `je`, where the rest begins -/
theorem list_elem {q : Nat} (hq : 1 ≤ q) {endTok : Tok} (hend : endTy 1 endTok.type = true) {n : Node} (hfn : fragN c ap n = true)
    (hgn : GP s c ap n) (w : Bool) (more : NList) {i : Nat}
    (hseg : Seg s i (exprToks c ap q w n ++ (listToks c ap q true more ++ [endTok]))) :
    ∃ je, je + 1 = i + (exprToks c ap q w n).length ∧ Seg s (je + 1) (listToks c ap q true more ++ [endTok]) ∧
      Ev (fun f => parseExpression s f prioLOWEST (stAt s i) = .ok (some n, stAt s je)) := by
  obtain ⟨y, rest', hy, hyc⟩ := list_follow c ap q hend more
  rw [hy] at hseg ⊢
  obtain ⟨je, hje, hse, hfol, hsr⟩ := Seg_mid hseg (head_node n hfn q w).length_pos
  have hstop := Stop.of_type (q := 1) (seg_type hfol) hyc
  exact ⟨je, hje, ⟨hfol, hsr⟩, hgn.parse (Compat_low hq) hse hje (hstop.mono hq) hstop⟩

theorem list_loop (c ap : Bool) (q : Nat) (hq : 1 ≤ q) (endTok : Tok) (hend : closerTy endTok.type = true) :
    ∀ (rest acc : NList) (k j : Nat), GPL s c ap rest → Seg s (k + 1) (listToks c ap q true rest ++ [endTok]) →
      j = k + (listToks c ap q true rest).length →
      Ev (fun f => parseExpressionListLoop s f acc (stAt s k) = .ok (acc ++ rest, stAt s j))
  | [], acc, k, j, _, hseg, hj => by
    simp only [closerTy, Bool.and_eq_true, bne_iff_ne] at hend
    simp only [listToks, List.nil_append, Seg_cons, Seg_nil, and_true, List.length_nil, Nat.add_zero] at hseg hj
    subst hj
    refine Ev.after 1 fun f => ?_
    rw [parseExpressionListLoop_stop (by simp only [stAt_peek, seg_type hseg]; exact hend.1.2), List.append_nil]
  | x :: more, acc, k, j, hg, hseg, hj => by
    obtain ⟨n, rfl, hfn, hgn⟩ := hg.head
    simp only [listToks, if_true, exprToksO, Bool.true_and, List.cons_append, List.nil_append, List.append_assoc, Seg_cons,
      List.length_cons, List.length_append] at hseg hj
    obtain ⟨je, hje, hnext, h1⟩ := list_elem hq (by simp only [closerTy, Bool.and_eq_true] at hend; exact hend.1.1) hfn hgn (!c) more hseg.2
    have h2 := list_loop c ap q hq endTok hend more (acc ++ [some n]) je j hg.tail hnext (by omega)
    refine Ev.step2 0 1 (fun F _ ha hb f hf => ?_) h1 h2
    rw [parseExpressionListLoop_step (by simp only [stAt_peek, seg_type hseg.1]; rfl) (by simp only [advance_stAt]; exact ha f hf),
      hb f hf, List.append_assoc]
    rfl

/-- `parseExpressionList` from the opening token at `k` to the closing token at `j` -/
theorem list_parse (c ap : Bool) (q : Nat) (hq : 1 ≤ q) (endTok : Tok) (hend : closerTy endTok.type = true)
    (xs : NList) (k j : Nat) (hg : GPL s c ap xs) (hseg : Seg s (k + 1) (listToks c ap q false xs ++ [endTok]))
    (hj : j = k + 1 + (listToks c ap q false xs).length) :
    Ev (fun f => parseExpressionList s f endTok.type (stAt s k) = .ok (some xs, stAt s j)) := by
  cases xs with
  | nil =>
    simp only [listToks, List.nil_append, Seg_cons, Seg_nil, and_true, List.length_nil, Nat.add_zero] at hseg hj
    subst hj
    refine Ev.after 1 fun f => ?_
    rw [parseExpressionList_empty (by simp only [stAt_peek]; exact seg_type hseg), advance_stAt]
  | cons x more =>
    obtain ⟨n, rfl, hfn, hgn⟩ := hg.head
    simp only [listToks, Bool.false_eq_true, if_false, exprToksO, Bool.false_and, List.nil_append, List.append_assoc,
      List.length_append] at hseg hj
    have hend' := hend
    simp only [closerTy, Bool.and_eq_true, Bool.not_eq_true'] at hend'
    have hstart := (head_node n hfn q false).seg_start ((Seg_append ..).1 hseg).1
    obtain ⟨je, hje, hnext, h1⟩ := list_elem hq hend'.1.1 hfn hgn false more hseg
    obtain ⟨j', rfl⟩ : ∃ j', j = j' + 1 := ⟨j - 1, by omega⟩
    have h2 := list_loop c ap q hq endTok hend more [some n] je j' hg.tail hnext (by omega)
    have hclose := seg_type (Seg_last hnext).2
    rw [show je + 1 + (listToks c ap q true more).length = j' + 1 by omega] at hclose
    refine Ev.step2 0 1 (fun F _ ha hb f hf => ?_) h1 h2
    rw [parseExpressionList_ok (x := some n) (fun h => by rw [stAt_peek] at h; rw [h, hend'.2] at hstart; cases hstart)
      (by simp only [advance_stAt]; exact ha f hf) (hb f hf) hclose, advance_stAt]
    rfl

theorem gp_call {fn : Node} {args : NList} (hf : GP s c ap fn) (hff : fragN c ap fn = true) (ha : GPL s c ap args) :
    GP s c ap (.call ⟨.LPAREN, [40]⟩ (some fn) args) := by
  intro ws q P i j res hc hseg hj hstop
  simp only [exprToks, exprToksO, List.append_assoc, List.cons_append, List.length_append, List.length_cons, List.length_nil] at hseg hj
  obtain ⟨jl, hjl, hsl, hlp, hsa⟩ := Seg_mid hseg (head_node fn hff prioCALL ws).length_pos
  have hP : P < 12 := by have := hc.1; omega
  refine fun h => hf ws prioCALL P i jl res (Compat.of_lt hP hc.1) hsl hjl (Stop.of_type (T := .LPAREN) (seg_type hlp) (by decide)) ?_
  have h1 := list_parse c ap prioLOWEST (Nat.le_refl _) rparen (by decide) args (jl + 1) j ha hsa (by omega)
  refine loop_infix (T := .LPAREN) (fn := .parseCallExpression) (seg_type hlp) (by decide) hP (fun _ => key_ws hlp (Or.inl rfl))
    (Ev.step 0 2 (fun F _ ha' f hf' => ?_) h1) h
  rw [id_call, parseCallExpression_ok (ha' f hf'), stAt_cur, key_tk hlp]
  rfl

theorem gp_array {es : NList} (ha : GPL s c ap es) : GP s c ap (.array ⟨.LBRACKET, [91]⟩ es) := by
  intro ws q P i j res hc hseg hj hstop
  simp only [exprToks, List.cons_append, List.length_append, List.length_cons, List.length_nil] at hseg hj
  rw [Seg_cons] at hseg
  have h1 := list_parse c ap q hc.2.1 rbracket (by decide) es i j ha hseg.2 (by omega)
  refine pE_prefix (T := .LBRACKET) (fn := .parseArrayLiteral) (seg_type hseg.1) (by decide) hstop.1
    (Ev.step 0 2 (fun F _ ha' f hf' => ?_) h1)
  rw [pd_arr, parseArrayLiteral_ok (ha' f hf'), stAt_cur, key_tk hseg.1]
  rfl

theorem gp_builtin {t : Tk} {ps : NList} (ht : builtinOp t.type = true) (ha : GPL s c ap ps) : GP s c ap (.builtin t ps) := by
  intro ws q P i j res hc hseg hj hstop
  simp only [exprToks, List.cons_append, List.length_append, List.length_cons, List.length_nil] at hseg hj
  rw [Seg_cons, Seg_cons] at hseg
  have h1 := list_parse c ap q hc.2.1 rparen (by decide) ps (i + 1) j ha hseg.2.2 (by omega)
  refine pE_prefix (seg_type hseg.1) (builtinOp_facts _ ht) hstop.1 (Ev.step 0 2 (fun F _ ha' f hf' => ?_) h1)
  rw [pd_builtin, parseBuiltin_ok (seg_type hseg.2.1) (by simp only [advance_stAt]; exact ha' f hf'), stAt_cur, seg_tk hseg.1]

/-- the index of `a[…]`: its tokens, parsed at level LOWEST in front of the `]` -/
def IPB (s : TokStream) (idx : Node) (toks : List Tok) : Prop :=
  ∀ (i ji : Nat), Seg s i toks → ji + 1 = i + toks.length → (s.get (ji + 1)).type = .RBRACKET →
    Ev (fun f => parseExpression s f prioLOWEST (stAt s i) = .ok (some idx, stAt s ji))

theorem ipb_of_gp {idx : Node} (hi : GP s c ap idx) : IPB s idx (exprToks c ap prioLOWEST false idx) := fun i ji hseg hj hr =>
  have hst : Stop prioLOWEST (s.get (ji + 1)) := Stop.of_type hr (by decide)
  hi.parse (Compat_low (Nat.le_refl _)) hseg hj hst hst

/-- the open-ended `n:` of `a[n:]` -/
theorem ipb_open {tc : Tk} {lc : Node} (hl : GP s c ap lc) (hfl : fragN c ap lc = true) (htc : tc.type = .COLON) :
    IPB s (.infix tc (some lc) none) (exprToks c ap prioLOWEST false (.infix tc (some lc) none)) := by
  intro i ji hseg hj hr
  have hp : precOf tc.type = 4 := by rw [htc]; decide
  simp only [exprToks, exprToksO, hp, List.length_append, List.length_cons, List.length_nil] at hseg hj
  obtain ⟨jc, hjc, hsl, hcol, _⟩ := Seg_mid hseg (head_node lc hfl 4 false).length_pos
  obtain rfl : ji = jc + 1 := by omega
  have hty : (s.get (jc + 1)).type = .COLON := (seg_type hcol).trans htc
  refine hl false 4 prioLOWEST i jc _ (Compat_low (by omega)) hsl hjc (Stop.of_type hty (by decide)) ?_
  refine loop_infix (fn := .parseInfixExpression) hty (by decide) (by decide) (by simp [isOpener]) (Ev.after 2 fun f => ?_)
    (ev_loop_stop (Stop.of_type hr (by decide)))
  rw [id_infix, parseInfixExpression_open hty hr, stAt_cur, seg_tk hcol]

/-- `l[idx]` without outer parentheses -/
theorem index_br_body {t : Tk} {l idx : Node} (ht : t.type = .LBRACKET) (hl : GP s c ap l)
    (hi : IPB s idx (exprToks c ap prioLOWEST false idx)) (hfl : fragN c ap l = true)
    (w : Bool) (q P i j : Nat) (res : ONode × PState) (hq : q ≤ 13) (hc : Compat P q)
    (hseg : Seg s i (exprToks c ap 13 w l ++ tk t false :: (exprToks c ap prioLOWEST false idx ++ [rbracket])))
    (hj : j = i + (exprToks c ap 13 w l).length + 1 + (exprToks c ap prioLOWEST false idx).length)
    (hfollow : (s.get (j + 1)).type ≠ .LAMBDA) :
    Ev (fun f => parseExpressionLoop s f P (some (.index t (some l) (some idx))) (stAt s j) = .ok res) →
    Ev (fun f => parseExpression s f P (stAt s i) = .ok res) := by
  obtain ⟨jl, hjl, hsl, hlb, hsi⟩ := Seg_mid hseg (head_node l hfl 13 w).length_pos
  have hty : (s.get (jl + 1)).type = .LBRACKET := (seg_type hlb).trans ht
  have hP : P < 13 := hc.2.2 .LBRACKET (by decide) hq
  refine fun h => hl w 13 P i jl res (hc.mono hq) hsl hjl (Stop.of_type hty (by decide)) ?_
  obtain ⟨ji, rfl⟩ : ∃ ji, j = ji + 1 := ⟨j - 1, by omega⟩
  have hcl := (Seg_last hsi).2
  rw [show jl + 2 + (exprToks c ap prioLOWEST false idx).length = ji + 1 by omega] at hcl
  have h1 := hi (jl + 2) ji (Seg_last hsi).1 (by omega) (seg_type hcl)
  refine loop_infix (fn := .parseIndexExpression) hty (by decide) hP (fun _ => key_ws hlb (Or.inr ht))
    (Ev.step 0 2 (fun F _ ha f hf => ?_) h1) h
  rw [id_index, parseIndexExpression_bracket hty (by simp only [advance_stAt]; exact ha f hf) (seg_type hcl), stAt_cur, seg_tk hlb,
    advance_stAt]

theorem gp_index_br {t : Tk} {l idx : Node} (ht : t.type = .LBRACKET) (hl : GP s c ap l)
    (hi : IPB s idx (exprToks c ap prioLOWEST false idx)) (hfl : fragN c ap l = true) :
    GP s c ap (.index t (some l) (some idx)) := by
  have h1 : (t.type == TokType.DOT) = false := by rw [ht]; decide
  have h2 : (t.type == TokType.LBRACKET) = true := by rw [ht]; decide
  have h3 : precOf t.type = 13 := by rw [ht]; decide
  refine gp_paren (p := 13) (B := fun w => exprToks c ap 13 w l ++ tk t false :: (exprToks c ap prioLOWEST false idx ++ [rbracket]))
    (by decide) (fun q ws => ?_) fun w q P i j res hq hc hseg hj hstop =>
      index_br_body ht hl hi hfl w q P i j res hq hc hseg
        (by simp only [List.length_cons, List.length_append, List.length_nil] at hj; omega) hstop.1
  simp only [exprToks, exprToksO, h1, h2, h3, Bool.false_and, Bool.false_eq_true, if_false, if_true]
  cases ap || decide (13 < q) <;> simp

/-- the left operand of a `.`: its tokens `toks` are consumed by the loop at any level `P ≤ 11` -/
def LP (s : TokStream) (l : Node) (toks : List Tok) : Prop :=
  ∀ (P i jl : Nat) (res : ONode × PState), P ≤ 11 → Seg s i toks → jl + 1 = i + toks.length → (s.get (jl + 1)).type = .DOT →
    Ev (fun f => parseExpressionLoop s f P (some l) (stAt s jl) = .ok res) →
    Ev (fun f => parseExpression s f P (stAt s i) = .ok res)

/-- the operand after a `.`: parsed at level DOTINDEX -/
def IP (s : TokStream) (idx : Node) (toks : List Tok) : Prop :=
  ∀ (i ji : Nat), Seg s i toks → ji + 1 = i + toks.length → Stop prioDOTINDEX (s.get (ji + 1)) →
    Ev (fun f => parseExpression s f prioDOTINDEX (stAt s i) = .ok (some idx, stAt s ji))

theorem lp_plain {l : Node} (hl : GP s c ap l) (w : Bool) : LP s l (exprToks c ap 14 w l) := by
  intro P i jl res hP hseg hj hdot
  exact hl w 14 P i jl res (Compat.of_lt (by omega) hP) hseg hj (Stop.of_type hdot (by decide))

theorem lp_paren {l : Node} (hl : GP s c ap l) (w : Bool) : LP s l (lparen w :: exprToks c ap 14 false l ++ [rparen]) := by
  intro P i jl res hP hseg hj hdot
  simp only [List.cons_append, List.length_cons, List.length_append, List.length_nil] at hj
  refine grp_seg hseg (by omega) (by rw [hdot]; decide) fun j' res' _ hb hcl => ?_
  exact hl false 14 prioLOWEST (i + 1) j' res' (Compat_low (by omega)) hb (by omega) (stop_rparen hcl (by omega))

theorem ip_paren {idx : Node} (hi : GP s c ap idx) : IP s idx (lparen false :: exprToks c ap prioLOWEST false idx ++ [rparen]) := by
  intro i ji hseg hj hstop
  simp only [List.cons_append, List.length_cons, List.length_append, List.length_nil] at hj
  refine grp_seg hseg (by omega) hstop.1 (fun j' res' _ hb hcl => ?_) (ev_loop_stop hstop)
  exact hi false prioLOWEST prioLOWEST (i + 1) j' res' (Compat_low (Nat.le_refl _)) hb (by omega) (stop_rparen hcl (Nat.le_refl _))

theorem ip_atom {idx : Node} (hi : GPA s idx) (c ap : Bool) : IP s idx (exprToks c ap prioLOWEST false idx) := by
  intro i ji hseg hj hstop
  exact hi c ap false prioLOWEST prioDOTINDEX i ji _ hseg hj hstop.notCont (ev_loop_stop hstop)

/-- `l.idx` without outer parentheses, for any rendering of the two operands -/
theorem dot_body {t : Tk} {l idx : Node} {LT IT : List Tok} (ht : t.type = .DOT) (hl : LP s l LT) (hi : IP s idx IT)
    (hLT : 1 ≤ LT.length) (P i j : Nat) (res : ONode × PState) (hP : P ≤ 11)
    (hseg : Seg s i (LT ++ tk t false :: IT)) (hj : j + 1 = i + LT.length + 1 + IT.length) (hstop : Stop 14 (s.get (j + 1))) :
    Ev (fun f => parseExpressionLoop s f P (some (.index t (some l) (some idx))) (stAt s j) = .ok res) →
    Ev (fun f => parseExpression s f P (stAt s i) = .ok res) := by
  obtain ⟨jl, hjl, hsl, hk, hsi⟩ := Seg_mid hseg hLT
  have hty : (s.get (jl + 1)).type = .DOT := (seg_type hk).trans ht
  refine fun h => hl P i jl res hP hsl hjl hty ?_
  refine loop_infix (fn := .parseIndexExpression) hty (by decide) (show P < 14 by omega) (by simp [isOpener])
    (Ev.step 0 2 (fun F _ ha f hf => ?_) (hi (jl + 2) j hsi (by omega) hstop)) h
  rw [id_index, parseIndexExpression_dot hty (by simp only [advance_stAt]; exact ha f hf), stAt_cur, seg_tk hk]

def dotLeft (c ap w : Bool) (l : Node) : List Tok :=
  if isNumberLiteral (some l) then lparen w :: exprToks c ap 14 false l ++ [rparen] else exprToks c ap 14 w l

def dotIdx (c ap : Bool) (idx : Node) : List Tok :=
  if (isNumberLiteral (some idx) || !isSingleToken (some idx)) then lparen false :: exprToks c ap prioLOWEST false idx ++ [rparen]
  else exprToks c ap prioLOWEST false idx

theorem lp_dot {l : Node} (hl : GP s c ap l) (w : Bool) : LP s l (dotLeft c ap w l) := by
  unfold dotLeft; split
  · exact lp_paren hl w
  · exact lp_plain hl w

theorem dotLeft_pos {l : Node} (hfl : fragN c ap l = true) (w : Bool) : 1 ≤ (dotLeft c ap w l).length := by
  unfold dotLeft; split
  · simp
  · exact (head_node l hfl 14 w).length_pos

theorem ip_dot {idx : Node} (hi : GP s c ap idx) (hfi : fragN c ap idx = true) : IP s idx (dotIdx c ap idx) := by
  unfold dotIdx; split
  · exact ip_paren hi
  · rename_i hcond
    simp only [Bool.or_eq_true, Bool.not_eq_true', not_or, Bool.not_eq_false] at hcond
    cases idx with
    | ident t => simp only [fragN, Bool.or_eq_true, beq_iff_eq] at hfi; exact ip_atom (gpa_ident t hfi) c ap
    | strLit t => simp only [fragN, beq_iff_eq] at hfi; exact ip_atom (gpa_strLit t hfi) c ap
    | boolean t => simp only [fragN, Bool.or_eq_true, beq_iff_eq] at hfi; exact ip_atom (gpa_boolean t hfi) c ap
    | post t p => simp only [fragN, Bool.and_eq_true, Bool.or_eq_true, beq_iff_eq] at hfi; exact ip_atom (gpa_post t p hfi.1 hfi.2) c ap
    | control t => simp [isSingleToken] at hcond
    | _ => simp [isSingleToken] at hcond

theorem gp_index_dot {t : Tk} {l idx : Node} (ht : t.type = .DOT) (hl : GP s c ap l) (hi : GP s c ap idx) (hfl : fragN c ap l = true)
    (hfi : fragN c ap idx = true) : GP s c ap (.index t (some l) (some idx)) := by
  have h1 : (t.type == TokType.DOT) = true := by rw [ht]; decide
  have h2 : (t.type == TokType.LBRACKET) = false := by rw [ht]; decide
  have h3 : precOf t.type = 14 := by rw [ht]; decide
  refine gp_paren (p := 14) (B := fun w => dotLeft c ap w l ++ tk t false :: dotIdx c ap idx) (by decide) (fun q ws => ?_)
    fun w q P i j res hq hc hseg hj hstop =>
      dot_body ht (lp_dot hl w) (ip_dot hi hfi) (dotLeft_pos hfl w) P i j res hc.1 hseg
        (by simp only [List.length_cons, List.length_append] at hj; omega) (hstop.mono hq)
  simp only [exprToks, exprToksO, h1, h2, h3, Bool.true_and, Bool.false_eq_true, if_false, List.append_nil, dotLeft, dotIdx]
  cases ap || decide (14 < q) <;> simp

end Grol.RT
