import Grol.Eval.RegRewrite
/-
C05, the register rewrite: `modifyR` (the traversal of ast.Modify with the ModifyRegister callback)
is exactly its specification — it gives up iff `refuses`, and otherwise returns `substAll`, the body
in which every identifier node of the name became the register and nothing else changed.

The proofs are inductions over the tree with the list of children as second motive (`RNode.rec` / `Node.rec`).
-/
namespace Grol.RegRewrite
open Grol.E

theorem isReg_substAll (name : String) (idx : Nat) (b : RNode) :
    isReg name idx (substAll name idx b) = isVar name idx b := by
  cases b <;> simp only [substAll, isReg, isVar]
  case ident n =>
    by_cases h : (n == name) = true
    · simp [h]
    · simp [h]

/-- the callee is still `eval` after the rewrite unless `eval` is the variable itself -/
theorem isEvalIdent_substAll (name : String) (idx : Nat) (f : RNode) :
    isEvalIdent (substAll name idx f) = (isEvalIdent f && name != "eval") := by
  cases f <;> simp only [substAll, isEvalIdent, Bool.false_and]
  case ident n =>
    by_cases h : n = name
    · subst h; simp
    · by_cases he : n = "eval"
      · subst he; simp [h, Ne.symm h]
      · simp [h, he]

@[simp] theorem obind_some {α β : Type} (a : α) (f : α → Option β) : (some a >>= f) = f a := rfl
@[simp] theorem obind_none {α β : Type} (f : α → Option β) : ((Option.none : Option α) >>= f) = Option.none := rfl
@[simp] theorem opure {α : Type} (a : α) : (pure a : Option α) = some a := rfl

theorem obind_ite {α β : Type} (c : Bool) (a : α) (f : α → Option β) :
    ((if c = true then Option.none else some a) >>= f) = if c = true then Option.none else f a := by
  cases c <;> rfl

/-! ### `modifyR` = its specification

With the induction hypotheses for the children and `cb` unfolded, both sides are `none` under the same conditions
(tested children first on the left, the node's own refusal first on the right) and the same tree otherwise. -/

theorem modifyR_spec (name : String) (idx : Nat) :
    ∀ b : RNode, modifyR name idx b =
      if refuses name idx b then Option.none else some (substAll name idx b) := by
  intro b
  induction b using RNode.rec (motive_2 := fun l => modifyRList name idx l =
      if refusesList name idx l then Option.none else some (substAllList name idx l)) with
  | builtin t ps ih =>
    simp only [modifyR, refuses, substAll, ih, obind_ite, cb]
    match ps with
    | [] | [p] | p :: q :: rest => simp only [substAllList, refusesList, isReg_substAll]; grind
  | call f as ihf ihas =>
    simp only [modifyR, refuses, substAll, ihf, ihas, obind_ite, cb, isEvalIdent_substAll]; grind
  | _ =>
    simp only [modifyR, modifyRList, refuses, refusesList, substAll, substAllList, *, obind_ite, opure, cb, isReg_substAll]
    grind

theorem modifyRList_spec (name : String) (idx : Nat) :
    ∀ l : List RNode, modifyRList name idx l =
      if refusesList name idx l then Option.none else some (substAllList name idx l)
  | [] => rfl
  | x :: xs => by
    simp only [modifyRList, refusesList, substAllList, modifyR_spec, modifyRList_spec name idx xs, obind_ite, opure]
    grind

theorem modifyR_eq_some {name : String} {idx : Nat} {b b' : RNode} (h : modifyR name idx b = some b') :
    b' = substAll name idx b := by
  rw [modifyR_spec] at h
  split at h
  · cases h
  · exact (Option.some.inj h).symm

/-- a parsed body comes back from `erase`, and holds no register -/
theorem embed_shape (b : Node) : erase (embed b) = b ∧ ∀ name idx, countReg name idx (embed b) = 0 := by
  induction b using Node.rec (motive_2 := fun l =>
      eraseList (embedList l) = l ∧ ∀ name idx, countRegList name idx (embedList l) = 0) with
  | _ => simp only [embed, embedList, erase, eraseList, countReg, countRegList, *, and_self, implies_true]

theorem erase_embed (b : Node) : erase (embed b) = b := (embed_shape b).1

theorem countReg_embed (name : String) (idx : Nat) (b : Node) : countReg name idx (embed b) = 0 := (embed_shape b).2 name idx

theorem eraseList_embedList : ∀ l : List Node, eraseList (embedList l) = l
  | [] => rfl
  | x :: xs => by simp only [embedList, eraseList, erase_embed, eraseList_embedList xs]

theorem countRegList_embedList (name : String) (idx : Nat) : ∀ l : List Node, countRegList name idx (embedList l) = 0
  | [] => rfl
  | x :: xs => by simp only [embedList, countRegList, countReg_embed, countRegList_embedList name idx xs]

/-- replacing the registers by the identifiers they stand for undoes the rewrite; no identifier node of that name
is left; every identifier node of that name became the register (and the registers already there stay) -/
theorem substAll_shape (name : String) (idx : Nat) (b : RNode) :
    erase (substAll name idx b) = erase b ∧ countIdent name (substAll name idx b) = 0 ∧
      countReg name idx (substAll name idx b) = countIdent name b + countReg name idx b := by
  induction b using RNode.rec (motive_2 := fun l => eraseList (substAllList name idx l) = eraseList l ∧
      countIdentList name (substAllList name idx l) = 0 ∧
      countRegList name idx (substAllList name idx l) = countIdentList name l + countRegList name idx l) with
  | ident n =>
    simp only [substAll, countIdent]
    split
    · next h => simp [erase, countIdent, countReg, eq_of_beq h]
    · simp [countIdent, countReg, *]
  | _ =>
    simp only [substAll, substAllList, erase, eraseList, countIdent, countIdentList, countReg, countRegList, *,
      Nat.add_zero, and_self, true_and] <;> omega

theorem eraseList_substAllList (name : String) (idx : Nat) : ∀ l : List RNode, eraseList (substAllList name idx l) = eraseList l
  | [] => rfl
  | x :: xs => by simp only [substAllList, eraseList, (substAll_shape name idx x).1, eraseList_substAllList name idx xs]

theorem countIdentList_substAllList (name : String) (idx : Nat) : ∀ l : List RNode, countIdentList name (substAllList name idx l) = 0
  | [] => rfl
  | x :: xs => by
    simp only [substAllList, countIdentList, (substAll_shape name idx x).2.1, countIdentList_substAllList name idx xs]

theorem countRegList_substAllList (name : String) (idx : Nat) :
    ∀ l : List RNode, countRegList name idx (substAllList name idx l) = countIdentList name l + countRegList name idx l
  | [] => rfl
  | x :: xs => by
    simp only [substAllList, countIdentList, countRegList, (substAll_shape name idx x).2.2, countRegList_substAllList name idx xs]
    omega

end Grol.RegRewrite
