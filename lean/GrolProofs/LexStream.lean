import GrolProofs.ParseSafe
import GrolProofs.ParseEnd
import GrolProofs.Props.C16
/-
Bridge lexer model → parser model: the token stream the parser model consumes (`Grol.TokStream`,
built by the parse harness from the REAL lexer) is here built from the lexer MODEL, and the
parser's hypothesis `Parser.StreamWF` is proved for it, for every input and both modes.

The stream has the shape the harness produces (`harness/cmd/harness/parse.go lexAll`): every
`NextToken()` result up to and including the first end marker, then the end marker returned by
the following call (which every later call returns again: `C16.sticky`).
-/
namespace Grol.LexStream
open Grol.Lexer Grol.Generated

/-- the model's token type as the generated enumeration (same `iota` value) -/
def genType (t : Grol.Token.TType) : TokType := (TokType.ofNat? t.toNat).getD .ILLEGAL

theorem _root_.Grol.Token.TType.all_get (t : Grol.Token.TType) : Grol.Token.TType.all[t.toNat]? = some t := by
  cases t <;> rfl

theorem _root_.Grol.Token.TType.forall_of_all {P : Grol.Token.TType → Prop} [DecidablePred P]
    (h : Grol.Token.TType.all.all (fun t => decide (P t)) = true) (t : Grol.Token.TType) : P t :=
  of_decide_eq_true (List.all_eq_true.mp h t (List.mem_of_getElem? t.all_get))

theorem genType_linecomment (t : Grol.Token.TType) : genType t = .LINECOMMENT → t = .LINECOMMENT :=
  Grol.Token.TType.forall_of_all (P := fun t => genType t = .LINECOMMENT → t = .LINECOMMENT) (by decide +kernel) t

theorem genType_EOF : genType .EOF = .EOF := by decide
theorem genType_EOL : genType .EOL = .EOL := by decide

theorem genType_eolEof (m : Bool) :
    genType (Grol.Token.eolEof m).type = .EOF ∨ genType (Grol.Token.eolEof m).type = .EOL := by
  cases m
  · exact Or.inl genType_EOF
  · exact Or.inr genType_EOL

/-- everything the parser can observe about one call; `nc` classifies number literals
(`strconv.ParseInt/ParseFloat`, external to the lexer) -/
def toTok (nc : Grol.Token.Tok → NumClass) (before : State) (t : Grol.Token.Tok) (after : State) : Grol.Tok :=
  { type := genType t.type, lit := t.lit, posBefore := before.pos, posAfter := after.pos,
    hadWs := after.hadWhitespace, hadNl := after.hadNewline, lastNl := after.lastNewLine, num := nc t }

/-- the `i`-th `NextToken()` call from `s0` -/
def entry (nc : Grol.Token.Tok → NumClass) (s0 : State) (i : Nat) : Grol.Tok :=
  toTok nc (iter i s0) (next (iter i s0)).1 (next (iter i s0)).2

/-- index of the first call that returns the end marker (searching at most `fuel` calls) -/
def markerIdx : Nat → State → Nat
  | 0, _ => 0
  | f + 1, s => if (next s).1.src = .eoleof then 0 else markerIdx f (next s).2 + 1

def tokStream (nc : Grol.Token.Tok → NumClass) (input : Array UInt8) (lineMode : Bool) : TokStream :=
  let s0 := State.new input lineMode
  let k := markerIdx (input.size + 1) s0
  { toks := (List.range (k + 1)).map (entry nc s0), eof := entry nc s0 (k + 1), inputLen := input.size }

/-! what the parser reads of the `i`-th call (stated so that no proof has to unfold `entry`) -/

theorem entry_type (nc : Grol.Token.Tok → NumClass) (s0 : State) (i : Nat) :
    (entry nc s0 i).type = genType (next (iter i s0)).1.type := by simp only [entry, toTok]
theorem entry_hadNl (nc : Grol.Token.Tok → NumClass) (s0 : State) (i : Nat) :
    (entry nc s0 i).hadNl = (next (iter i s0)).2.hadNewline := by unfold entry toTok; rfl

/-- `LastNewLine() ≤ min Pos() len(input)` after every call -/
theorem entry_lastNl_le (nc : Grol.Token.Tok → NumClass) (input : Array UInt8) (lineMode : Bool) (j : Nat) :
    (entry nc (State.new input lineMode) j).lastNl ≤ min (entry nc (State.new input lineMode) j).posAfter input.size :=
  C16.lastNewLine_le input lineMode j

theorem markerIdx_spec : ∀ (m : Nat) (s : State), s.pos ≤ s.input.size → s.input.size - s.pos ≤ m →
    isMarker (next (iter (markerIdx (m + 1) s) s)).1 := by
  intro m
  induction m with
  | zero =>
    intro s h1 h2
    have hm : isMarker (next s).1 := by
      apply Classical.byContradiction
      intro hm
      have p := C16.progress s hm
      have t := C16.tiling s
      omega
    have hm' : (next s).1.src = .eoleof := hm
    unfold markerIdx
    rw [if_pos hm']
    exact hm
  | succ m ih =>
    intro s h1 h2
    unfold markerIdx
    by_cases hm : (next s).1.src = .eoleof
    · rw [if_pos hm]; exact hm
    · rw [if_neg hm]
      have p := C16.progress s hm
      have t := C16.tiling s
      have r := ih (next s).2 (by rw [t.2.2.2.2.1]; exact p.2) (by rw [t.2.2.2.2.1]; omega)
      generalize markerIdx (m + 1) (next s).2 = j at r ⊢
      exact r

theorem get_le (nc : Grol.Token.Tok → NumClass) (input : Array UInt8) (lineMode : Bool) (i : Nat)
    (h : i ≤ markerIdx (input.size + 1) (State.new input lineMode)) :
    (tokStream nc input lineMode).get i = entry nc (State.new input lineMode) i := by
  have hr : (List.range (markerIdx (input.size + 1) (State.new input lineMode) + 1))[i]? = some i :=
    List.getElem?_range (by omega)
  unfold TokStream.get tokStream
  simp only [List.getElem?_map, hr]
  rfl

theorem get_gt (nc : Grol.Token.Tok → NumClass) (input : Array UInt8) (lineMode : Bool) (i : Nat)
    (h : markerIdx (input.size + 1) (State.new input lineMode) < i) :
    (tokStream nc input lineMode).get i
      = entry nc (State.new input lineMode) (markerIdx (input.size + 1) (State.new input lineMode) + 1) := by
  unfold TokStream.get tokStream
  simp only []
  rw [List.getElem?_eq_none (by simp; omega)]
  rfl

/-- the call after the first end marker returns the end marker of the mode again -/
theorem entry_repeat (nc : Grol.Token.Tok → NumClass) (input : Array UInt8) (lineMode : Bool) :
    (entry nc (State.new input lineMode) (markerIdx (input.size + 1) (State.new input lineMode) + 1)).type
      = genType (Grol.Token.eolEof lineMode).type := by
  have hk := markerIdx_spec input.size (State.new input lineMode) (Nat.zero_le _) (by simp [State.new])
  have st := C16.sticky _ hk 1
  rw [entry_type, iter_succ', show (next _).2 = iter 1 _ from rfl, st.1, (marker_eq _ hk).1, (iter_same _ _).2]
  rfl

/-- after a line comment comes a token that saw a newline, or the end marker -/
theorem entry_after_linecomment (nc : Grol.Token.Tok → NumClass) (s0 : State) (j : Nat)
    (h : (entry nc s0 j).type = .LINECOMMENT) :
    (entry nc s0 (j + 1)).hadNl = true ∨ (entry nc s0 (j + 1)).type = .EOF ∨ (entry nc s0 (j + 1)).type = .EOL := by
  rw [entry_type] at h
  rw [entry_hadNl, entry_type, iter_succ']
  rcases C16.after_linecomment (iter j s0) (genType_linecomment _ h) with h | h
  · exact Or.inl h
  · rw [(marker_eq _ h).1]; exact Or.inr (genType_eolEof _)

/-- **bridge**: the token stream of the lexer model satisfies the parser's `StreamWF`, for every
input, both modes (and any classification of number literals) -/
theorem lexer_streamWF (nc : Grol.Token.Tok → NumClass) (input : Array UInt8) (lineMode : Bool) :
    Parser.StreamWF (tokStream nc input lineMode) := by
  intro i
  have hlen : (tokStream nc input lineMode).inputLen = input.size := rfl
  unfold Parser.TokWF
  rw [hlen]
  by_cases hi : i ≤ markerIdx (input.size + 1) (State.new input lineMode)
  · rw [get_le nc input lineMode i hi]
    refine ⟨entry_lastNl_le nc input lineMode i, fun hty => ?_⟩
    have al := entry_after_linecomment nc _ i hty
    by_cases hi' : i + 1 ≤ markerIdx (input.size + 1) (State.new input lineMode)
    · rwa [get_le nc input lineMode (i + 1) hi']
    · rwa [get_gt nc input lineMode (i + 1) (by omega),
        show markerIdx (input.size + 1) (State.new input lineMode) = i by omega]
  · rw [get_gt nc input lineMode i (by omega)]
    refine ⟨entry_lastNl_le nc input lineMode _, fun hty => ?_⟩
    rw [entry_repeat] at hty
    cases lineMode <;> exact absurd hty (by decide)

/-! ### the literal fact behind C03 ("exactly one newline at the end") -/

/-- the types of the tokens no printed line ends with: end markers, illegal bytes, strings, block comments -/
def notLast : List Grol.Token.TType := [.EOL, .EOF, .ILLEGAL, .STRING, .BLOCKCOMMENT]

theorem notLast_lastKind : ∀ ty ∈ notLast, Parser.lastKind (genType ty) = false := by decide +kernel

theorem src_of_last : ∀ s, ∀ ty ∈ srcTypes s, ty ∉ notLast →
    s = .char1 ∨ s = .char2 ∨ s = .lookup ∨ (s = .intern ∧ (ty = .INT ∨ ty = .FLOAT ∨ ty = .LINECOMMENT)) := by
  intro s; cases s <;> decide +kernel

/-- one call: a token of a kind that a node can print last has a non-empty literal that does not end
in a newline -/
theorem next_litOK (s : State) (h : Parser.lastKind (genType (next s).1.type) = true) :
    (next s).1.lit ≠ [] ∧ (next s).1.lit.getLast? ≠ some 10 := by
  refine C16.literal_ends_line s (src_of_last _ _ (C16.next_wf s).type_mem fun hm => ?_)
  rw [notLast_lastKind _ hm] at h
  cases h

theorem litOK_iff (t : Tk) : Printer.litOK t = true ↔ t.lit ≠ [] ∧ t.lit.getLast? ≠ some 10 := by
  simp [Printer.litOK]

theorem entry_litOK (nc : Grol.Token.Tok → NumClass) (s0 : State) (j : Nat)
    (h : Parser.lastKind (entry nc s0 j).type = true) : Printer.litOK (entry nc s0 j).tk = true := by
  rw [entry_type] at h
  have e : (entry nc s0 j).tk.lit = (next (iter j s0)).1.lit := by simp only [entry, toTok, Tok.tk]
  rw [litOK_iff, e]
  exact next_litOK (iter j s0) h

/-- **the lexer fact of C03**, for every input and both modes: every token of the model's stream
whose kind can end a printed line has a non-empty literal that does not end in a newline -/
theorem lexer_litFact (nc : Grol.Token.Tok → NumClass) (input : Array UInt8) (lineMode : Bool) :
    Parser.LitFact (tokStream nc input lineMode) := by
  intro i h
  by_cases hi : i ≤ markerIdx (input.size + 1) (State.new input lineMode)
  · rw [get_le nc input lineMode i hi] at h ⊢
    exact entry_litOK nc _ _ h
  · rw [get_gt nc input lineMode i (by omega)] at h ⊢
    exact entry_litOK nc _ _ h

end Grol.LexStream

namespace Grol.LexStream
open Grol.Lexer Grol.Generated

/-- non-vacuity: `// c⏎x` in file mode: LINECOMMENT, IDENT (with `hadNl`), EOF, then the repeated EOF -/
example : ((tokStream (fun _ => .na) #[47, 47, 32, 99, 10, 120] false).toks.map fun t => (t.type, t.hadNl, t.lastNl, t.posAfter))
    = [(.LINECOMMENT, false, 0, 4), (.IDENT, true, 5, 6), (.EOF, false, 5, 6)]
    ∧ (tokStream (fun _ => .na) #[47, 47, 32, 99, 10, 120] false).eof.type = .EOF := by
  decide +kernel

end Grol.LexStream
