import GrolProofs.RenCalc
/-
Two-run simulations, the operators on values (lean/Grol/Eval/Ops.lean).  They are treated once, for
any two-run calculus `Calc` (`RenCalc.lean`) in which a value is dereferenced alike (`Calc.Deref`); the C10
calculus `SimAt` is an instance here, the C04 calculus `SimQ` in `RenQBase.lean`.
-/
namespace Grol.R
open Grol.E

/-! ### how the renaming passes through the pure parts -/

theorem renL_int64Range (σ : Sh) (l r : Int64) : renL σ (int64Range l r) = int64Range l r := by
  unfold int64Range
  rw [renL_eq]
  simp only [List.map_map]
  rfl

@[simp] theorem getFloat_ren (σ : Sh) (o : Obj) : getFloat (ren σ o) = getFloat o := by cases o <;> rfl
@[simp] theorem int64Value_ren (σ : Sh) (o : Obj) : int64Value (ren σ o) = int64Value o := by cases o <;> rfl

theorem evalStringInfix_other (op : String) (l : List UInt8) (right : Obj)
    (h1 : ∀ r, right ≠ .str r) (h2 : ∀ n, right ≠ .int n) :
    evalStringInfix op l right = pure (err "unknown operator") := by
  unfold evalStringInfix
  split
  · next r => exact absurd rfl (h1 r)
  · next n => exact absurd rfl (h2 n)
  · rfl

theorem renL_append (σ : Sh) (a b : List Obj) : renL σ (a ++ b) = renL σ a ++ renL σ b := by
  simp [renL_eq]

theorem renL_repeat (σ : Sh) (l : List Obj) : ∀ n, renL σ (repeatList l n) = repeatList (renL σ l) n
  | 0 => rfl
  | n + 1 => by unfold repeatList; rw [renL_append, renL_repeat σ l n]

theorem renL_isEmpty (σ : Sh) (l : List Obj) : (renL σ l).isEmpty = l.isEmpty := by
  cases l <;> rfl

/-- the `&&` of `evalInfixExpression` on already evaluated operands -/
theorem and_ren (σ : Sh) (left right : Obj) :
    boolObj (match ren σ left, ren σ right with | .bool true, .bool true => true | _, _ => false) =
    ren σ (boolObj (match left, right with | .bool true, .bool true => true | _, _ => false)) := by
  cases left with
  | bool b =>
    cases b with
    | false => rfl
    | true =>
      cases right with
      | bool c => cases c <;> rfl
      | _ => rfl
  | _ => rfl

theorem ren_eq_bool {σ : Sh} {o : Obj} {b : Bool} : ren σ o = .bool b ↔ o = .bool b := by
  cases o <;> simp [ren]

theorem or_ren (σ : Sh) (left right : Obj) :
    boolObj (match ren σ left, ren σ right with | .bool true, _ => true | _, .bool true => true | _, _ => false) =
    ren σ (boolObj (match left, right with | .bool true, _ => true | _, .bool true => true | _, _ => false)) := by
  -- each `match` only asks whether an operand is `.bool true`, and `ren` keeps that
  have hl := @ren_eq_bool σ left true
  have hr := @ren_eq_bool σ right true
  generalize ren σ left = l' at hl ⊢
  generalize ren σ right = r' at hr ⊢
  show Obj.bool _ = Obj.bool _
  congr 1
  split <;> split <;> simp_all

@[simp] theorem objLen_ren (σ : Sh) (o : Obj) : objLen (ren σ o) = objLen o := by
  cases o <;> simp [ren, objLen]

theorem renP_drop (σ : Sh) (l : List (Obj × Obj)) (n : Nat) : renP σ (l.drop n) = (renP σ l).drop n := by
  simp [renP_eq, List.map_drop]
theorem renP_take (σ : Sh) (l : List (Obj × Obj)) (n : Nat) : renP σ (l.take n) = (renP σ l).take n := by
  simp [renP_eq, List.map_take]
theorem renL_drop (σ : Sh) (l : List Obj) (n : Nat) : renL σ (l.drop n) = (renL σ l).drop n := by
  simp [renL_eq, List.map_drop]
theorem renL_take (σ : Sh) (l : List Obj) (n : Nat) : renL σ (l.take n) = (renL σ l).take n := by
  simp [renL_eq, List.map_take]

theorem getD_ren (σ : Sh) (els : List Obj) (i : Nat) : (renL σ els).getD i .null = ren σ (els.getD i .null) := by
  rw [List.getD_eq_getElem?_getD, List.getD_eq_getElem?_getD, renL_eq]
  simp only [List.getElem?_map]
  cases els[i]? <;> rfl

theorem arrayIndex_ren (σ : Sh) (els : List Obj) (idx : Int64) :
    arrayIndex (renL σ els) idx = ren σ (arrayIndex els idx) := by
  unfold arrayIndex
  simp only [renL_length, getD_ren, apply_ite (ren σ), ren]

/-- the body of `evalIndexExpressionIdx` with the index already classified -/
def idxBody (left index : Obj) (idx? : Option Int64) : M Obj :=
  match left, idx? with
  | .str s, some idx =>
    let num : Int := s.length
    let i : Int := if idx < 0 then num + idx.toInt else idx.toInt
    if i < 0 || i ≥ num then pure .null else pure (.int (Int64.ofNat (s.getD i.toNat 0).toNat))
  | .array els, some idx => pure (arrayIndex els idx)
  | .map _ kvs, _ => do
    match ← Grol.E.liftR (mapGet kvs index) with
    | some v => pure v
    | none => pure .null
  | .null, _ => pure .null
  | _, _ => pure (err "index operator not supported")

def idxOf : Obj → Option Int64
  | .null => some 0
  | o => int64Value o

theorem indexIdx_eq (left index : Obj) : indexIdx left index = idxBody left index (idxOf index) := rfl

theorem idxOf_ren (σ : Sh) (o : Obj) : idxOf (ren σ o) = idxOf o := by cases o <;> rfl

theorem evalPrefixOp_ren (σ : Sh) (op : String) (r : Obj) :
    evalPrefixOp op (ren σ r) = ren σ (evalPrefixOp op r) := by
  unfold evalPrefixOp
  split
  · rfl
  · cases r <;> rfl
  · cases r <;> rfl
  · rw [int64Value_ren]; cases int64Value r <;> rfl
  · rw [int64Value_ren]; cases int64Value r <;> rfl
  · rfl
  · rfl

theorem incrValue_ren (σ : Sh) (v : Obj) (a : Int64) :
    incrValue (ren σ v) a = (incrValue v a).map (ren σ) := by
  cases v <;> rfl


namespace Calc
variable {P : Qp} (C : Calc P) {s t : St}

/-- a result without references or functions -/
theorem atom (hR : C.R s t) (o : Obj) (h : ren P.σ o = o := by rfl) (hc : clean P o := by exact True.intro) :
    C.Sim (pure o : M Obj) (pure o) s t (QOq P) := C.val hR ⟨h.symm, hc⟩

theorem mustBeOk_seq (hR : C.R s t) (n : Int) {f : Unit → M α} {g : Unit → M β} {Q : α → β → Prop}
    (tg : Tr (g ())) (h : ∀ s' t', C.R s' t' → C.Sim (f ()) (g ()) s' t' Q) :
    C.Sim (mustBeOk n >>= f) (mustBeOk n >>= g) s t Q := by
  refine C.seq (Q := fun _ _ => True) ?_ (fun _ _ s' t' hR' _ => h s' t' hR') trStep.mustBeOk fun _ => tg
  unfold mustBeOk
  exact C.cond (fun _ => C.halt hR) (fun _ => C.val hR trivial)

theorem evalIntegerInfix (hR : C.R s t) (op : String) (l r : Int64) :
    C.Sim (evalIntegerInfix op l r) (evalIntegerInfix op l r) s t (QOq P) := by
  unfold Grol.E.evalIntegerInfix
  split
  iterate 3 exact C.atom hR _
  iterate 2 exact C.cond (fun _ => C.atom hR _) (fun _ => C.atom hR _)
  iterate 2 exact C.cond (fun _ => C.atom hR _) (fun _ => C.cond (fun _ => C.atom hR _) (fun _ => C.atom hR _))
  iterate 3 exact C.atom hR _
  · refine C.cond (fun _ => C.atom hR _) (fun _ => ?_)
    refine C.mustBeOk_seq hR _ (tr_pure _) (fun s' t' hR' => C.val hR' ⟨?_, clean_newArray.2 (cleanL_iff.1 (cleanL_int64Range _ _))⟩)
    simp only [newArray, ren, renL_int64Range]
  · exact C.atom hR _

theorem evalFloatInfix (hR : C.R s t) (op : String) (l r : Obj) :
    C.Sim (evalFloatInfix op (ren P.σ l) (ren P.σ r)) (evalFloatInfix op l r) s t (QOq P) := by
  unfold Grol.E.evalFloatInfix
  rw [getFloat_ren, getFloat_ren]
  split
  · split
    iterate 4 exact C.atom hR _
    · exact C.halt hR
    · exact C.atom hR _
  · exact C.atom hR _

theorem evalStringInfix (hR : C.R s t) (op : String) (l : List UInt8) (r : Obj) :
    C.Sim (evalStringInfix op l (ren P.σ r)) (evalStringInfix op l r) s t (QOq P) := by
  have same : ∀ r', ren P.σ r' = r' → C.Sim (Grol.E.evalStringInfix op l r') (Grol.E.evalStringInfix op l r') s t (QOq P) := by
    intro r' _
    unfold Grol.E.evalStringInfix
    split
    · exact C.mustBeOk_seq hR _ (tr_pure _) (fun s' t' hR' => C.atom hR' _)
    · refine C.cond (fun _ => C.atom hR _) (fun _ => ?_)
      exact C.mustBeOk_seq hR _ (tr_ite (tr_pure _) (tr_pure _)) (fun s' t' hR' => C.cond (fun _ => C.atom hR' _) (fun _ => C.atom hR' _))
    · exact C.atom hR _
  cases r with
  | str x => exact same (.str x) rfl
  | int x => exact same (.int x) rfl
  | _ =>
    all_goals
      rw [evalStringInfix_other op l _ (by intro r h; cases h) (by intro n h; cases h),
        evalStringInfix_other op l _ (by intro r h; simp [ren] at h) (by intro n h; simp [ren] at h)]
      exact C.atom hR _

theorem evalArrayInfix (hd : C.Deref) (hR : C.R s t) (op : String) (l : List Obj) (right : Obj)
    (hcl : cleanL P l) (hcr : clean P right) :
    C.Sim (evalArrayInfix op (renL P.σ l) (ren P.σ right)) (evalArrayInfix op l right) s t (QOq P) := by
  unfold Grol.E.evalArrayInfix
  split
  · rw [int64Value_ren]
    split
    · exact C.atom hR _
    · refine C.cond (fun _ => C.atom hR _) (fun _ => ?_)
      rw [renL_length, renL_isEmpty]
      refine C.mustBeOk_seq hR _ (tr_ite (tr_pure _) (tr_pure _)) (fun s' t' hR' => ?_)
      refine C.cond (fun _ => C.atom hR' _) (fun _ => C.val hR' ⟨?_, cleanL_repeat hcl _⟩)
      simp only [newArray, ren, renL_repeat]
  · cases right with
    | array r =>
      simp only [ren, renL_length]
      refine C.mustBeOk_seq hR _ (tr_pure _) (fun s' t' hR' => C.val hR' ⟨?_, cleanL_append hcl hcr⟩)
      simp only [newArray, ren, renL_append]
    | _ =>
      all_goals
        refine C.seq (hd _ hR hcr) ?_ trStep.valueOf fun _ => tr_pure _
        rintro x v s' t' hR' ⟨rfl, _, hcv⟩
        refine C.val hR' ⟨?_, cleanL_append hcl ⟨hcv, trivial⟩⟩
        simp only [newArray, ren, renL_append, renL]
  · exact C.atom hR _

/-- `cmp` on the dereferenced operands -/
theorem cmpM (hd : C.Deref) (hR : C.R s t) (a b : Obj) (hca : clean P a) (hcb : clean P b) :
    C.Sim (cmpM (ren P.σ a) (ren P.σ b)) (cmpM a b) s t (fun x y => x = y) := by
  unfold Grol.E.cmpM
  refine C.seq (hd a hR hca) ?_ trStep.valueOf fun _ => tr_bind trStep.valueOf fun _ => trStep.liftR _
  rintro _ x s1 t1 hR1 ⟨rfl, _, _⟩
  refine C.seq (hd b hR1 hcb) ?_ trStep.valueOf fun _ => trStep.liftR _
  rintro _ y s2 t2 hR2 ⟨rfl, _, _⟩
  rw [cmp_ren]
  exact C.lift hR2 (RelR.same _)

theorem equalsM (hd : C.Deref) (hR : C.R s t) (a b : Obj) (hca : clean P a) (hcb : clean P b) :
    C.Sim (equalsM (ren P.σ a) (ren P.σ b)) (equalsM a b) s t (fun x y => x = y) := by
  unfold Grol.E.equalsM
  rw [ren_typeNum, ren_typeNum]
  try dsimp only
  refine C.cond (fun _ => C.val hR rfl) (fun _ => ?_)
  have tcmp (x y : Obj) : Tr (liftR (cmp x y) >>= fun c => pure (c == 0) : M Bool) := tr_bind (trStep.liftR _) fun _ => tr_pure _
  refine C.seq (hd a hR hca) ?_ trStep.valueOf fun _ => tr_bind trStep.valueOf fun _ => tcmp _ _
  rintro _ x s1 t1 hR1 ⟨rfl, _, _⟩
  refine C.seq (hd b hR1 hcb) ?_ trStep.valueOf fun _ => tcmp _ _
  rintro _ y s2 t2 hR2 ⟨rfl, _, _⟩
  rw [cmp_ren]
  refine C.seq (Q := fun c c' => c = c') (C.lift hR2 (RelR.same _)) ?_ (trStep.liftR _) fun _ => tr_pure _
  rintro c _ s3 t3 hR3 rfl
  exact C.val hR3 rfl

theorem boolOf {x y : M α} {g : α → Bool} (h : C.Sim x y s t (fun a b => a = b)) (ty : Tr y) :
    C.Sim (x >>= fun a => pure (boolObj (g a))) (y >>= fun a => pure (boolObj (g a))) s t (QOq P) := by
  refine C.seq h ?_ ty fun _ => tr_pure _
  rintro a _ s' t' hR' rfl
  exact C.atom hR' _

theorem evalInfixOp (hd : C.Deref) (hR : C.R s t) (op : String) (left right : Obj) (hcl : clean P left) (hcr : clean P right) :
    C.Sim (evalInfixOp op (ren P.σ left) (ren P.σ right)) (evalInfixOp op left right) s t (QOq P) := by
  have eq := C.equalsM hd hR left right hcl hcr
  have cm := C.cmpM hd hR left right hcl hcr
  have fl : ∀ l r, C.Sim (Grol.E.evalFloatInfix op (ren P.σ l) (ren P.σ r)) (Grol.E.evalFloatInfix op l r) s t (QOq P) :=
    C.evalFloatInfix hR op
  unfold Grol.E.evalInfixOp
  split
  · exact C.boolOf (g := fun b => b) eq trStep.equalsM
  · exact C.boolOf (g := fun b => !b) eq trStep.equalsM
  · exact C.boolOf (g := fun c => c == 1) cm trStep.cmpM
  · exact C.boolOf (g := fun c => c == -1) cm trStep.cmpM
  · exact C.boolOf (g := fun c => decide (c ≥ 0)) cm trStep.cmpM
  · exact C.boolOf (g := fun c => decide (c ≤ 0)) cm trStep.cmpM
  · exact C.val hR ⟨and_ren P.σ left right, trivial⟩
  · exact C.val hR ⟨or_ren P.σ left right, trivial⟩
  · -- the operand types decide; a float on either side wins over everything but int × int
    cases left with
    | int l =>
      cases right with
      | int r => exact C.evalIntegerInfix hR op l r
      | float r => exact fl _ _
      | _ => all_goals exact C.atom hR _
    | float l => cases right <;> exact fl _ _
    | str l =>
      cases right with
      | float r => exact fl _ _
      | _ => all_goals exact C.evalStringInfix hR op l _
    | array l =>
      cases right with
      | float r => exact fl _ _
      | _ => all_goals exact C.evalArrayInfix hd hR op l _ hcl hcr
    | map lb l =>
      cases right with
      | float r => exact fl _ _
      | map rb r =>
        refine C.cond (fun _ => ?_) (fun _ => C.atom hR _)
        refine C.read (runM_get s) (runM_get t) ?_
        rw [C.cfg hR, mapAppend_ren]
        refine C.seq (Q := fun a b => a = (b.1, renP P.σ b.2) ∧ cleanP P b.2)
          (C.lift hR (RelR.of_map (fun b hb => ⟨rfl, mapAppend_clean hcl hcr hb⟩))) ?_ (trStep.liftR _) fun _ => tr_pure _
        rintro _ ⟨big, kvs⟩ s' t' hR' ⟨rfl, hc⟩
        exact C.val hR' ⟨rfl, hc⟩
      | _ => all_goals exact C.atom hR _
    | _ =>
      all_goals
        cases right with
        | float r => exact fl _ _
        | _ => all_goals exact C.atom hR _

theorem objFirst (hR : C.R s t) (o : Obj) (hco : clean P o) :
    C.Sim (objFirst (ren P.σ o)) (objFirst o) s t (QOq P) := by
  cases o with
  | array els =>
    cases els with
    | nil => exact C.atom hR _
    | cons x rest => exact C.val hR ⟨rfl, hco.1⟩
  | map b kvs =>
    cases kvs with
    | nil => exact C.atom hR _
    | cons kv rest => obtain ⟨k, v⟩ := kv; exact C.val hR ⟨rfl, clean_makeFirst hco.1 hco.2.1⟩
  | str x =>
    cases x with
    | nil => exact C.atom hR _
    | cons c rest =>
      simp only [ren]
      unfold Grol.E.objFirst
      exact C.cond (fun _ => C.atom hR _) (fun _ => C.cond (fun _ => C.halt hR) (fun _ => C.halt hR))
  | func f =>
    refine C.val hR ⟨?_, ?_⟩
    · simp only [ren, renFn, newArray]
      congr 1
      rw [renL_eq]
      simp only [List.map_map]
      rfl
    · rw [clean_newArray]
      intro x hx
      simp only [List.mem_map] at hx
      obtain ⟨p, _, rfl⟩ := hx
      trivial
  | _ => all_goals exact C.atom hR _

theorem objRest (hR : C.R s t) (o : Obj) (hco : clean P o) :
    C.Sim (objRest (ren P.σ o)) (objRest o) s t (QOq P) := by
  cases o with
  | array els =>
    simp only [ren]
    unfold Grol.E.objRest
    dsimp only
    rw [renL_length]
    refine C.cond (fun _ => C.atom hR _) (fun _ => C.val hR ⟨?_, cleanL_drop hco 1⟩)
    simp only [newArray, ren, renL_drop]
  | map b kvs =>
    simp only [ren]
    unfold Grol.E.objRest
    dsimp only
    rw [renP_length]
    refine C.cond (fun _ => C.atom hR _) (fun _ => ?_)
    refine C.read (runM_get s) (runM_get t) ?_
    rw [C.cfg hR]
    refine C.val hR ⟨?_, cleanP_drop hco 1⟩
    simp only [ren, renP_drop]
  | str x =>
    simp only [ren]
    unfold Grol.E.objRest
    dsimp only
    exact C.cond (fun _ => C.atom hR _) (fun _ => C.cond (fun _ => C.atom hR _) (fun _ => C.halt hR))
  | func f =>
    simp only [ren]
    unfold Grol.E.objRest
    dsimp only
    exact C.halt hR
  | _ => all_goals exact C.atom hR _

theorem indexIdx (hR : C.R s t) (left index : Obj) (hcl : clean P left) :
    C.Sim (indexIdx (ren P.σ left) (ren P.σ index)) (indexIdx left index) s t (QOq P) := by
  rw [indexIdx_eq, indexIdx_eq, idxOf_ren]
  generalize idxOf index = idx?
  unfold idxBody
  cases left with
  | str x =>
    simp only [ren]
    cases idx? with
    | none => exact C.atom hR _
    | some idx => dsimp only; exact C.cond (fun _ => C.atom hR _) (fun _ => C.atom hR _)
  | array els =>
    simp only [ren]
    cases idx? with
    | none => exact C.atom hR _
    | some idx => exact C.val hR ⟨arrayIndex_ren P.σ els idx, clean_arrayIndex hcl idx⟩
  | map b kvs =>
    simp only [ren]
    have : C.Sim (do
            let __do_lift ← Grol.E.liftR (mapGet (renP P.σ kvs) (ren P.σ index))
            match __do_lift with
              | some v => pure v
              | none => pure Obj.null)
          (do
            let __do_lift ← Grol.E.liftR (mapGet kvs index)
            match __do_lift with
              | some v => pure v
              | none => pure Obj.null) s t (QOq P) := by
      rw [mapGet_ren]
      refine C.seq (Q := fun a b => a = b.map (ren P.σ) ∧ ∀ v, b = some v → clean P v)
        (C.lift hR (RelR.of_map (fun b hb => ⟨rfl, fun v hv => mapGet_clean hcl (by rw [hb, hv])⟩))) ?_ (trStep.liftR _)
        fun r => by cases r <;> exact tr_pure _
      rintro _ r s' t' hR' ⟨rfl, hc⟩
      cases r with
      | none => exact C.atom hR' _
      | some v => exact C.val hR' ⟨rfl, hc v rfl⟩
    cases idx? <;> exact this
  | _ => all_goals (cases idx? <;> exact C.atom hR _)

end Calc

/-! ### the C10 calculus: no binding is dirty -/

theorem SimAt.set_bind {σ : Sh} {f : Unit → M γ} {g : Unit → M δ} {s t s1 t1 : St} {Q' : γ → δ → Prop}
    (h : SimAt σ (f ()) (g ()) s1 t1 Q') : SimAt σ (set s1 >>= f) (set t1 >>= g) s t Q' := by
  unfold SimAt at h ⊢
  rw [runM_bind, runM_bind, runM_set, runM_set]
  exact h

def simAtCalc (σ : Sh) : Calc (Qp.plain σ) where
  R := StR σ
  Sim := SimAt σ
  cfg := StR.cfg
  extNames := StR.extNames
  cur := StR.cur
  depth := StR.depth
  steps := StR.steps
  withDepth := fun hR _ => { hR with depth := rfl }
  withSteps := fun hR _ => { hR with steps := rfl }
  val := SimAt.pure
  halt := SimAt.stop
  seq := fun hx hf _ _ => SimAt.bind hx hf
  cond := SimAt.ite
  lift := SimAt.liftR
  read := SimAt.bind_read
  put := fun _ h => SimAt.set_bind h

theorem simAt_deref (σ : Sh) : (simAtCalc σ).Deref :=
  fun o hR _ => (sim_valueOf hR o).mono (fun _ b h => ⟨h.1, h.2, clean_plain σ b⟩)

variable {σ : Sh} {s t : St}

theorem sim_equalsM (hR : StR σ s t) (a b : Obj) :
    SimAt σ (equalsM (ren σ a) (ren σ b)) (equalsM a b) s t (fun x y => x = y) :=
  (simAtCalc σ).equalsM (simAt_deref σ) hR a b (clean_plain σ a) (clean_plain σ b)

theorem sim_evalInfixOp (hR : StR σ s t) (op : String) (left right : Obj) :
    SimAt σ (evalInfixOp op (ren σ left) (ren σ right)) (evalInfixOp op left right) s t (QO σ) :=
  ((simAtCalc σ).evalInfixOp (simAt_deref σ) hR op left right (clean_plain σ left) (clean_plain σ right)).mono (fun _ _ h => h.1)

theorem sim_objFirst (hR : StR σ s t) (o : Obj) : SimAt σ (objFirst (ren σ o)) (objFirst o) s t (QO σ) :=
  ((simAtCalc σ).objFirst hR o (clean_plain σ o)).mono (fun _ _ h => h.1)

theorem sim_objRest (hR : StR σ s t) (o : Obj) : SimAt σ (objRest (ren σ o)) (objRest o) s t (QO σ) :=
  ((simAtCalc σ).objRest hR o (clean_plain σ o)).mono (fun _ _ h => h.1)

theorem sim_indexIdx (hR : StR σ s t) (left index : Obj) :
    SimAt σ (indexIdx (ren σ left) (ren σ index)) (indexIdx left index) s t (QO σ) :=
  ((simAtCalc σ).indexIdx hR left index (clean_plain σ left)).mono (fun _ _ h => h.1)

end Grol.R
