import GrolProofs.ParseTerm
import GrolProofs.PrintNewline
/-
C03 (3): the trees the parser builds satisfy `Printer.endOKL` (the token literals printed last are non-empty and
do not end in a newline) whenever the tokens of the kinds that can be printed last have such literals in the
stream (`LitFact`, a lexer fact).  Every token stored on a right-most spine is `cur` or `peek` of a state
satisfying the stream invariant `Inv`, and its kind is fixed by the dispatch tables.
That `Inv` holds again after each function is `invClosed`; the walk proves `endOKO` of the result.
-/
namespace Grol.Parser
open Grol.Generated Grol.Printer

/-- a fact about the lexer: a theorem for the lexer model (`LexStream.lexer_litFact`); `litFactB` evaluates it on a
concrete stream -/
def LitFact (s : TokStream) : Prop := ∀ i, lastKind (s.get i).type = true → litOK (s.get i).tk = true

variable {s : TokStream}

theorem curLit (H : LitFact s) {st : PState} (hi : Inv s st) (h : lastKind st.cur.type = true) : litOK st.cur.tk = true := by
  have := H (st.idx - 2) (by rw [← hi.cur]; exact h)
  rw [← hi.cur] at this; exact this
theorem peekLit (H : LitFact s) {st : PState} (hi : Inv s st) (h : lastKind st.peek.type = true) : litOK st.peek.tk = true := by
  have := H (st.idx - 1) (by rw [← hi.peek]; exact h)
  rw [← hi.peek] at this; exact this

theorem endOKL_snoc (a : NList) (x : ONode) : endOKL (a ++ [x]) = (endOKL a && endOKO x) := by
  induction a with
  | nil => simp [endOKL]
  | cons y ys ih => simp [endOKL, ih, Bool.and_assoc]

def EndO (r : ONode) (_ : PState) : Prop := endOKO r = true
def EndS (r : Stmts) (_ : PState) : Prop := endOKS r = true
def PostN (s : TokStream) : ONode → PState → Prop := fun r st' => Inv s st' ∧ EndO r st'
def PostNS (s : TokStream) : Stmts → PState → Prop := fun r st' => Inv s st' ∧ EndS r st'

theorem lastKind_of_leaf {t : TokType} {fn : PrefixFn} (h : lookup prefixRegs t = some fn)
    (hfn : fn ∈ [.parseIdentifier, .parseIntegerLiteral, .parseFloatLiteral, .parseBoolean, .parseControlExpression]) :
    lastKind t = true :=
  lookup_forall (P := fun t fn => fn ∈ [.parseIdentifier, .parseIntegerLiteral, .parseFloatLiteral, .parseBoolean,
    .parseControlExpression] → lastKind t = true) (by decide) h hfn

theorem lastKind_of_postfix {t : TokType} {fn : PostfixFn} (h : lookup postfixRegs t = some fn) : lastKind t = true :=
  lookup_forall (P := fun t _ => lastKind t = true) (by decide) h

theorem invClosed : ParserClosed s (fun m st => Inv s st → wp m (fun _ => Inv s) st) :=
  .ofInvariant (fun _ => inv_adv) (fun _ => inv_setCont) (fun e _ => inv_pushErr e)

theorem expectPeek_inv (t : TokType) (st : PState) (hi : Inv s st) : wp (expectPeek s t) (fun _ => Inv s) st :=
  invClosed.keeps_expectPeek t st hi

theorem curEnd (H : LitFact s) {st : PState} (hi : Inv s st) (hk : lastKind st.cur.type = true) {r : ONode}
    (hr : endOKO r = litOK st.cur.tk) : EndO r st :=
  hr.trans (curLit H hi hk)

theorem parseIdentifier_end (H : LitFact s) (st : PState) (hi : Inv s st) (hk : lastKind st.cur.type = true) :
    wp (parseIdentifier s) EndO st := by
  unfold parseIdentifier parsePostfixExpression
  refine wp.getSt ?_
  split
  · next hl => exact wp.next (wp.getSt (wp.pure (peekLit H hi (lastKind_of_postfix hl))))
  · exact wp.pure (curEnd H hi hk rfl)

theorem parseFloatLiteral_end (H : LitFact s) (st : PState) (hi : Inv s st) (hk : lastKind st.cur.type = true) :
    wp (parseFloatLiteral s) EndO st := by
  unfold parseFloatLiteral
  exact wp.getSt <| wp.ite (fun _ => wp.pure (curEnd H hi hk rfl)) fun _ => wp.errorLine (wp.pushErr (wp.pure rfl))

theorem parseIntegerLiteral_end (H : LitFact s) (st : PState) (hi : Inv s st) (hk : lastKind st.cur.type = true) :
    wp (parseIntegerLiteral s) EndO st := by
  unfold parseIntegerLiteral
  exact wp.getSt <| wp.ite (fun _ => wp.pure (curEnd H hi hk rfl)) fun _ => parseFloatLiteral_end H st hi hk

theorem parseBoolean_end (H : LitFact s) (st : PState) (hi : Inv s st) (hk : lastKind st.cur.type = true) :
    wp parseBoolean EndO st :=
  wp.getSt (wp.pure (curEnd H hi hk rfl))
theorem parseControlExpression_end (H : LitFact s) (st : PState) (hi : Inv s st) (hk : lastKind st.cur.type = true) :
    wp parseControlExpression EndO st :=
  wp.getSt (wp.pure (curEnd H hi hk rfl))

theorem litOK_of_endWith (t : Tk) (h : bytesEndWith t.lit [42, 47] = true) : litOK t = true := by
  unfold bytesEndWith at h
  unfold litOK
  have hr : ∃ x, t.lit.reverse = 47 :: 42 :: x := by
    cases hrev : t.lit.reverse with
    | nil => rw [hrev] at h; simp at h
    | cons a as =>
      cases as with
      | nil => rw [hrev] at h; simp [List.isPrefixOf] at h
      | cons b bs =>
        rw [hrev] at h
        simp [List.isPrefixOf] at h
        exact ⟨bs, by rw [h.1, h.2]⟩
  obtain ⟨x, hx⟩ := hr
  have h1 : t.lit ≠ [] := by intro e; rw [e] at hx; simp at hx
  have h2 : t.lit.getLast? = some 47 := by
    have := congrArg List.head? hx
    simpa [List.head?_reverse] using this
  simp [h1, h2]

theorem parseComment_end (H : LitFact s) (st : PState) (hi : Inv s st)
    (hk : st.cur.type = .LINECOMMENT ∨ st.cur.type = .BLOCKCOMMENT) : wp parseComment EndO st := by
  unfold parseComment
  refine wp.getSt ?_
  dsimp only
  refine wp.ite (fun _ => wp.ite (fun _ => wp.setCont (wp.pure rfl)) fun hc => wp.pure ?_) fun hb =>
    wp.ite (fun _ => trivial) fun _ => wp.pure ?_
  · -- a closed block comment ends in `*/`
    have hc2 : bytesEndWith st.cur.lit [42, 47] = true := by
      cases h : bytesEndWith st.cur.lit [42, 47] with
      | true => rfl
      | false => simp [h] at hc
    exact litOK_of_endWith st.cur.tk hc2
  · exact curEnd H hi (by rw [hk.resolve_right hb]; decide) rfl

theorem wp.after {m : PM α} {f : α → PM β} {Q : β → PState → Prop} {st : PState} (h : ∀ a st', wp (f a) Q st') :
    wp (m >>= f) Q st :=
  wp.call (wp_trivial m st) fun a st' _ => h a st'

theorem mapPairError_end (st : PState) : wp (mapPairError s) EndO st := by
  unfold mapPairError
  refine wp.getSt ?_
  dsimp only
  split
  · exact wp.setCont (wp.pure rfl)
  · exact wp.after fun _ _ => wp.pure rfl

end Grol.Parser

namespace Grol.Parser
open Grol.Generated Grol.Printer
variable {s : TokStream}

/-- only the functions whose last token comes from a callee or from the stream; a node that ends in a closing
delimiter ends well whatever the callees return, and those functions need no hypothesis -/
structure AllEnd (s : TokStream) (n : Nat) : Prop where
  pE : ∀ P st, Inv s st → wp (parseExpression s n P) (PostN s) st
  pLoop : ∀ P left st, Inv s st → endOKO left = true → wp (parseExpressionLoop s n P left) (PostN s) st
  pPre : ∀ fn st, Inv s st → lookup prefixRegs st.cur.type = some fn → wp (prefixDispatch s n fn) (PostN s) st
  pInf : ∀ fn left st, Inv s st → lookup infixRegs st.cur.type = some fn → wp (infixDispatch s n fn left) (PostN s) st
  pStmt : ∀ st, Inv s st → wp (parseStatement s n) (PostN s) st
  pRet : ∀ st, Inv s st → st.cur.type = .RETURN → wp (parseReturnStatement s n) (PostN s) st
  pPfx : ∀ st, Inv s st → wp (parsePrefixExpression s n) (PostN s) st
  pInfix : ∀ left st, Inv s st → lookup infixRegs st.cur.type = some .parseInfixExpression → wp (parseInfixExpression s n left) (PostN s) st
  pIf : ∀ st, Inv s st → wp (parseIfExpression s n) (PostN s) st
  pBlk : ∀ st, Inv s st → wp (parseBlockStatement s n) (PostNS s) st
  pBlkLoop : ∀ acc st, Inv s st → endOKL acc = true → wp (parseBlockLoop s n acc) (PostNS s) st
  pGrp : ∀ st, Inv s st → wp (parseGroupedExpression s n) (PostN s) st
  pIdx : ∀ left st, Inv s st → wp (parseIndexExpression s n left) (PostN s) st

/-- the tail `{ block }` shared by `for`, `func` and `macro`, stated on the desugared `do` block -/
theorem block_tail_closes {n : Nat} {st' : PState} (f : Stmts → ONode) (hf : ∀ b, endOKO (f b) = true) :
    wp (expectPeek s .LBRACE >>= fun ok => if (!ok) = true then Pure.pure none else
      parseBlockStatement s n >>= fun body => Parser.getSt >>= fun st =>
      if st.cont = true then Pure.pure none else Pure.pure (f body)) EndO st' :=
  wp.after fun _ _ => wp.ite (fun _ => wp.pure rfl) fun _ => wp.after fun body _ => wp.getSt <|
    wp.ite (fun _ => wp.pure rfl) fun _ => wp.pure (hf body)

theorem parseLambdaMulti_end (left : ONode) (more : NList) (st : PState) : ∀ n, wp (parseLambdaMulti s n left more) EndO st
  | 0 => trivial
  | n + 1 => by
    unfold parseLambdaMulti
    refine wp.getSt ?_
    dsimp only
    split
    · trivial
    · exact wp.errorLine (wp.pushErr (wp.pure rfl))
    · exact wp.ite
        (fun _ => wp.next <| wp.after fun _ _ => wp.getSt <| wp.ite (fun _ => wp.pure rfl) fun _ => wp.pure rfl)
        fun _ => wp.next <| wp.after fun _ _ => wp.pure rfl

theorem parseForExpression_end (st : PState) : ∀ n, wp (parseForExpression s n) EndO st
  | 0 => trivial
  | n + 1 => by
    unfold parseForExpression
    exact wp.getSt <| wp.next <| wp.after fun _ _ => block_tail_closes _ fun _ => rfl

theorem parseFunctionLiteral_end (st : PState) : ∀ n, wp (parseFunctionLiteral s n) EndO st
  | 0 => trivial
  | n + 1 => by
    unfold parseFunctionLiteral
    exact wp.getSt <| wp.after fun _ _ => wp.after fun _ _ => wp.ite (fun _ => wp.pure rfl) fun _ =>
      wp.after fun (_, _) _ => block_tail_closes _ fun _ => rfl

theorem parseMacroLiteral_end (st : PState) : ∀ n, wp (parseMacroLiteral s n) EndO st
  | 0 => trivial
  | n + 1 => by
    unfold parseMacroLiteral
    exact wp.getSt <| wp.after fun _ _ => wp.ite (fun _ => wp.pure rfl) fun _ =>
      wp.after fun (_, _) _ => block_tail_closes _ fun _ => rfl

theorem parseArrayLiteral_end (st : PState) : ∀ n, wp (parseArrayLiteral s n) EndO st
  | 0 => trivial
  | n + 1 => by
    unfold parseArrayLiteral
    exact wp.getSt <| wp.after fun _ _ => wp.pure rfl

theorem parseCallExpression_end (f : ONode) (st : PState) : ∀ n, wp (parseCallExpression s n f) EndO st
  | 0 => trivial
  | n + 1 => by
    unfold parseCallExpression
    exact wp.getSt <| wp.after fun _ _ => wp.pure rfl

theorem parseBuiltin_end (st : PState) : ∀ n, wp (parseBuiltin s n) EndO st
  | 0 => trivial
  | n + 1 => by
    unfold parseBuiltin
    exact wp.getSt <| wp.after fun _ _ => wp.ite (fun _ => wp.pure rfl) fun _ => wp.after fun _ _ => wp.pure rfl

theorem parseMapLoop_end (tok : Tk) : ∀ n (kvs : NList) (st : PState), wp (parseMapLoop s n tok kvs) EndO st
  | 0, _, _ => trivial
  | n + 1, kvs, st => by
    unfold parseMapLoop
    refine wp.getSt <| wp.ite (fun _ => wp.next <| wp.getSt <| wp.ite (fun _ => wp.pure rfl) fun _ => wp.after fun kv st1 => ?_)
      fun _ => wp.after fun _ _ => wp.ite (fun _ => wp.pure rfl) fun _ => wp.pure rfl
    split
    · exact wp.ite
        (fun _ => wp.getSt <| wp.ite
          (fun _ => wp.after fun _ _ => wp.ite (fun _ => wp.pure rfl) fun _ => parseMapLoop_end tok n _ _)
          fun _ => parseMapLoop_end tok n _ _)
        fun _ => mapPairError_end st1
    · exact mapPairError_end st1

theorem parseMapLiteral_end (st : PState) : ∀ n, wp (parseMapLiteral s n) EndO st
  | 0 => trivial
  | n + 1 => by
    unfold parseMapLiteral
    exact wp.getSt (parseMapLoop_end _ n _ _)

section steps
variable (H : LitFact s) {n : Nat} (ih : AllEnd s n) {st : PState} (hi : Inv s st)
include ih hi

theorem estep_pE (P : Nat) : wp (parseExpression s (n + 1) P) EndO st := by
  unfold parseExpression
  refine wp.getSt ?_
  split
  · exact wp.setCont (wp.pure rfl)
  split
  · exact wp.ite (fun _ => wp.ite (fun _ => wp.setCont (wp.pure rfl)) fun _ => wp.after fun _ _ => wp.pure rfl) fun _ => wp.pure rfl
  · next fn hl =>
    exact (ih.pPre fn st hi hl).call fun r1 st1 h1 => wp.getSt <|
      wp.ite (fun _ => wp.next (parseLambdaMulti_end _ _ _ n)) fun _ => wp_conseq (ih.pLoop P r1 st1 h1.1 h1.2) fun _ _ h => h.2

theorem estep_pLoop (P : Nat) (left : ONode) (hl : endOKO left = true) : wp (parseExpressionLoop s (n + 1) P left) EndO st := by
  unfold parseExpressionLoop
  refine wp.getSt (wp.ite (fun _ => ?_) fun _ => wp.pure hl)
  dsimp only
  split
  · exact wp.pure hl
  · next fn hi' =>
    exact wp.ite (fun _ => wp.pure hl) fun _ => wp.ite (fun _ => wp.pure hl) fun _ => wp.next <|
      (ih.pInf fn left (advance s st) (inv_adv hi) hi').call fun r1 st1 h1 => wp_conseq (ih.pLoop P r1 st1 h1.1 h1.2) fun _ _ h => h.2

include H in
theorem estep_pPre (fn : PrefixFn) (hl : lookup prefixRegs st.cur.type = some fn) : wp (prefixDispatch s (n + 1) fn) EndO st := by
  have snd {m : PM ONode} (h : wp m (PostN s) st) : wp m EndO st := wp_conseq h fun _ _ h => h.2
  unfold prefixDispatch
  cases fn with
  | parseIdentifier => exact parseIdentifier_end H st hi (lastKind_of_leaf hl (by decide))
  | parseIntegerLiteral => exact parseIntegerLiteral_end H st hi (lastKind_of_leaf hl (by decide))
  | parseFloatLiteral => exact parseFloatLiteral_end H st hi (lastKind_of_leaf hl (by decide))
  | parsePrefixExpression => exact snd (ih.pPfx st hi)
  | parseBoolean => exact parseBoolean_end H st hi (lastKind_of_leaf hl (by decide))
  | parseGroupedExpression => exact snd (ih.pGrp st hi)
  | parseIfExpression => exact snd (ih.pIf st hi)
  | parseForExpression => exact parseForExpression_end st n
  | parseControlExpression => exact parseControlExpression_end H st hi (lastKind_of_leaf hl (by decide))
  | parseFunctionLiteral => exact parseFunctionLiteral_end st n
  | parseStringLiteral => exact wp.getSt (wp.pure rfl)
  | parseBuiltin => exact parseBuiltin_end st n
  | parseArrayLiteral => exact parseArrayLiteral_end st n
  | parseMapLiteral => exact parseMapLiteral_end st n
  | parseComment => exact parseComment_end H st hi (parseComment_regs _ hl)
  | parseMacroLiteral => exact parseMacroLiteral_end st n

theorem estep_pInf (fn : InfixFn) (left : ONode) (hl : lookup infixRegs st.cur.type = some fn) :
    wp (infixDispatch s (n + 1) fn left) EndO st := by
  unfold infixDispatch
  cases fn with
  | parseInfixExpression => exact wp_conseq (ih.pInfix left st hi hl) fun _ _ h => h.2
  | parseCallExpression => exact parseCallExpression_end left st n
  | parseIndexExpression => exact wp_conseq (ih.pIdx left st hi) fun _ _ h => h.2
  | parseLambdaExpression => exact parseLambdaMulti_end left [] st n

theorem estep_pStmt : wp (parseStatement s (n + 1)) EndO st := by
  unfold parseStatement
  exact wp.getSt <| wp.ite (fun hc => wp_conseq (ih.pRet st hi hc) fun _ _ h => h.2) fun _ =>
    (ih.pE _ st hi).call fun r st1 h1 => wp.getSt <| wp.ite (fun _ => wp.next (wp.pure h1.2)) fun _ => wp.pure h1.2

include H in
theorem estep_pRet (hc : st.cur.type = .RETURN) : wp (parseReturnStatement s (n + 1)) EndO st := by
  have hlit : litOK st.cur.tk = true := curLit H hi (by rw [hc]; decide)
  unfold parseReturnStatement
  refine wp.getSt <| wp.ite (fun _ => wp.pure hlit) fun _ => wp.next <| (ih.pE _ _ (inv_adv hi)).call fun v st1 h1 => wp.getSt ?_
  -- without a value the keyword is printed last
  have : endOKO (some (Node.ret st.cur.tk v)) = true := by
    cases v with
    | none => exact hlit
    | some x => exact h1.2
  exact wp.ite (fun _ => wp.next (wp.pure this)) fun _ => wp.pure this

theorem estep_pBlk : wp (parseBlockStatement s (n + 1)) EndS st := by
  unfold parseBlockStatement
  exact wp.next (wp_conseq (ih.pBlkLoop [] _ (inv_adv hi) rfl) fun _ _ h => h.2)

theorem estep_pBlkLoop (acc : NList) (ha : endOKL acc = true) : wp (parseBlockLoop s (n + 1) acc) EndS st := by
  unfold parseBlockLoop
  exact wp.getSt <| wp.ite
    (fun _ => wp.ite (fun _ => wp.setCont (wp.pure rfl)) fun _ => (ih.pStmt st hi).call fun stmt st1 h1 => wp.next <|
      wp_conseq (ih.pBlkLoop _ _ (inv_adv h1.1) (by rw [endOKL_snoc, ha, h1.2]; rfl)) fun _ _ h => h.2)
    fun _ => wp.pure ha

theorem estep_pPfx : wp (parsePrefixExpression s (n + 1)) EndO st := by
  unfold parsePrefixExpression
  exact wp.getSt <| wp.next <| (ih.pE _ _ (inv_adv hi)).call fun r st1 h1 => wp.pure h1.2

include H in
theorem estep_pInfix (left : ONode) (hl : lookup infixRegs st.cur.type = some .parseInfixExpression) :
    wp (parseInfixExpression s (n + 1) left) EndO st := by
  have hlit : litOK st.cur.tk = true := curLit H hi (by unfold lastKind; simp [hl])
  unfold parseInfixExpression
  refine wp.getSt <| wp.ite (fun _ => wp.pure hlit) fun _ => wp.next <| (ih.pE _ _ (inv_adv hi)).call fun r st1 h1 => wp.pure ?_
  cases r with
  | none => exact hlit   -- the right operand is missing: the operator is printed last
  | some x => exact h1.2

theorem estep_pIdx (left : ONode) : wp (parseIndexExpression s (n + 1) left) EndO st := by
  unfold parseIndexExpression
  exact wp.getSt <| wp.next <| (ih.pE _ _ (inv_adv hi)).call fun idx st1 h1 => wp.ite (fun _ => wp.pure h1.2) fun _ =>
    wp.after fun _ _ => wp.ite (fun _ => wp.pure rfl) fun _ => wp.pure h1.2

theorem estep_pGrp : wp (parseGroupedExpression s (n + 1)) EndO st := by
  unfold parseGroupedExpression
  refine wp.next <| (ih.pE _ _ (inv_adv hi)).call fun exp st1 h1 => wp.getSt <|
    wp.ite (fun _ => wp.next (parseLambdaMulti_end _ _ _ n)) fun _ => wp.ite (fun _ => wp.next <| wp.after fun el _ => ?_) fun _ =>
    wp.after fun _ _ => wp.ite (fun _ => wp.pure rfl) fun _ => wp.pure h1.2
  split
  · exact wp.pure rfl
  · exact wp.after fun _ _ => wp.ite (fun _ => wp.pure rfl) fun _ => parseLambdaMulti_end _ _ _ n

theorem estep_pIf : wp (parseIfExpression s (n + 1)) EndO st := by
  unfold parseIfExpression
  refine wp.getSt <| wp.next <| (ih.pE _ _ (inv_adv hi)).call fun c st1 h1 => wp.expect (fun _ _ => rfl) fun _ =>
    (ih.pBlk _ (inv_adv h1.1)).call fun cons st3 h3 => wp.getSt <| wp.ite (fun _ => wp.pure rfl) fun _ =>
    wp.ite (fun _ => wp.next <| wp.getSt <| wp.ite (fun _ => wp.next ?_) fun _ => wp.expect (fun _ _ => rfl) fun _ => ?_) fun _ => wp.pure rfl
  · -- `else if`: the nested `if` is printed last
    exact (ih.pIf _ (inv_adv (inv_adv h3.1))).call fun alt _ h4 => wp.pure (by simpa [EndO, endOKO, endOK, endOKS, endOKL] using h4.2)
  · exact (ih.pBlk _ (inv_adv (inv_adv h3.1))).call fun alt _ h5 => wp.getSt <| wp.ite (fun _ => wp.pure rfl) fun _ => wp.pure h5.2

end steps

theorem allEnd_zero : AllEnd s 0 := by
  constructor <;> intros <;> exact trivial

theorem allEnd_succ (H : LitFact s) {n : Nat} (ih : AllEnd s n) : AllEnd s (n + 1) :=
  have K := (invClosed (s := s)).all (n + 1)
  { pE := fun P st hi => wp.and (K.parseExpression P st hi) (estep_pE ih hi P)
    pLoop := fun P l st hi hl => wp.and (K.parseExpressionLoop P l st hi) (estep_pLoop ih hi P l hl)
    pPre := fun fn st hi hl => wp.and (invClosed.keeps_prefixDispatch _ fn st hi) (estep_pPre H ih hi fn hl)
    pInf := fun fn l st hi hl => wp.and (K.infixDispatch fn l st hi) (estep_pInf ih hi fn l hl)
    pStmt := fun st hi => wp.and (K.parseStatement st hi) (estep_pStmt ih hi)
    pRet := fun st hi hc => wp.and (K.parseReturnStatement st hi) (estep_pRet H ih hi hc)
    pPfx := fun st hi => wp.and (K.parsePrefixExpression st hi) (estep_pPfx ih hi)
    pInfix := fun l st hi hl => wp.and (K.parseInfixExpression l st hi) (estep_pInfix H ih hi l hl)
    pIf := fun st hi => wp.and (K.parseIfExpression st hi) (estep_pIf ih hi)
    pBlk := fun st hi => wp.and (K.parseBlockStatement st hi) (estep_pBlk ih hi)
    pBlkLoop := fun a st hi ha => wp.and (K.parseBlockLoop a st hi) (estep_pBlkLoop ih hi a ha)
    pGrp := fun st hi => wp.and (K.parseGroupedExpression st hi) (estep_pGrp ih hi)
    pIdx := fun l st hi => wp.and (K.parseIndexExpression l st hi) (estep_pIdx ih hi l) }

theorem allEnd (H : LitFact s) : ∀ n, AllEnd s n
  | 0 => allEnd_zero
  | n + 1 => allEnd_succ H (allEnd H n)

theorem parseProgramLoop_end (H : LitFact s) : ∀ (fuel : Nat) (acc : NList) (st : PState), Inv s st → endOKL acc = true →
    wp (parseProgramLoop s fuel acc) (fun r _ => endOKL r = true) st
  | 0, _, _, _, _ => trivial
  | n + 1, acc, st, hi, ha => by
    unfold parseProgramLoop
    refine wp.getSt <| wp.ite (fun _ => ((allEnd H n).pStmt st hi).call fun stmt st1 h1 => ?_) fun _ => wp.pure ha
    cases stmt with
    | none => exact wp.pure ha
    | some x => exact wp.next (parseProgramLoop_end H n _ _ (inv_adv h1.1) (by rw [endOKL_snoc, ha, h1.2]; rfl))

/-- every tree the parser returns (error-free or not) satisfies `endOKL`, given the lexer fact `LitFact` -/
theorem parseProgram_endOK (s : TokStream) (H : LitFact s) (fuel : Nat) (r : ParseResult) (h : parseProgram s fuel = .ok r) :
    endOKL r.program = true := by
  have hs := parseProgramLoop_end H fuel [] (init s) (inv_init s) rfl
  unfold parseProgram at h
  unfold wp at hs
  cases hp : parseProgramLoop s fuel [] (init s) with
  | goPanic p => rw [hp] at h; cases h
  | outOfFuel => rw [hp] at h; cases h
  | ok res =>
    obtain ⟨prog, st⟩ := res
    rw [hp] at h hs
    simp only [Res.ok.injEq] at h
    subst h
    exact hs

end Grol.Parser

namespace Grol.Parser
open Grol.Generated Grol.Printer

theorem litFact_of_b {s : TokStream} (h : litFactB s = true) : LitFact s := by
  intro i hk
  unfold litFactB at h
  rw [List.all_eq_true] at h
  have key : ∀ j, j ≤ s.toks.length → lastKind (s.get j).type = true → litOK (s.get j).tk = true := by
    intro j hj hkj
    have := h j (List.mem_range.mpr (by omega))
    unfold tokLitB at this
    simpa [hkj] using this
  by_cases hi : i ≤ s.toks.length
  · exact key i hi hk
  · have e : s.get i = s.get s.toks.length := by rw [get_of_le s (by omega), get_of_le s (Nat.le_refl _)]
    rw [e] at hk ⊢
    exact key _ (Nat.le_refl _) hk

end Grol.Parser
