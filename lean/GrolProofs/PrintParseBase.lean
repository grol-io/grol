import Grol.PrintTokens
import GrolProofs.ParseWP
/-
C02, positive half: infrastructure of the round-trip proof.
  * `stAt s i`: the parser state is a function of the stream and the index of the current token;
  * `Seg s i toks`: the stream shows the (keys of the) tokens `toks` from position `i`;
  * `Ev p`: `p fuel` for every sufficiently large fuel;
  * one step lemma per parse function: its result on the success path in terms of the results of its calls.
-/
namespace Grol.RT
open Grol Grol.Wire Grol.Generated Grol.Parser Grol.Printer Grol.PrintTokens

def Ev (p : Nat → Prop) : Prop := ∃ F, ∀ f, F ≤ f → p f

theorem Ev.mono {p p' : Nat → Prop} (h : ∀ f, p f → p' f) : Ev p → Ev p' := fun ⟨F, hF⟩ => ⟨F, fun f hf => h f (hF f hf)⟩

theorem Ev.and {p p' : Nat → Prop} : Ev p → Ev p' → Ev (fun f => p f ∧ p' f) := fun ⟨F, hF⟩ ⟨F', hF'⟩ =>
  ⟨max F F', fun f hf => ⟨hF f (by omega), hF' f (by omega)⟩⟩

theorem Ev.const {P : Prop} (h : P) : Ev (fun _ => P) := ⟨0, fun _ _ => h⟩

theorem Ev.after {p : Nat → Prop} (k : Nat) (h : ∀ f, p (f + k)) : Ev p :=
  ⟨k, fun f hf => by rw [show f = f - k + k by omega]; exact h _⟩

/-- from `p` for all large fuel to `p'` for all large fuel, `k` units of fuel being spent in between
(the bound may be assumed to be at least `k0`) -/
theorem Ev.step {p p' : Nat → Prop} (k0 k : Nat) (h : ∀ F, k0 ≤ F → (∀ f, F ≤ f → p f) → ∀ f, F ≤ f → p' (f + k)) : Ev p → Ev p' := by
  rintro ⟨F, hF⟩
  refine ⟨max F k0 + k, fun f hf => ?_⟩
  obtain ⟨g, rfl⟩ : ∃ g, f = g + k := ⟨f - k, by omega⟩
  exact h (max F k0) (by omega) (fun f hf => hF f (by omega)) g (by omega)

theorem Ev.step2 {p1 p2 p' : Nat → Prop} (k0 k : Nat)
    (h : ∀ F, k0 ≤ F → (∀ f, F ≤ f → p1 f) → (∀ f, F ≤ f → p2 f) → ∀ f, F ≤ f → p' (f + k)) : Ev p1 → Ev p2 → Ev p' := by
  rintro ⟨F1, hF1⟩ ⟨F2, hF2⟩
  refine ⟨max (max F1 F2) k0 + k, fun f hf => ?_⟩
  obtain ⟨g, rfl⟩ : ∃ g, f = g + k := ⟨f - k, by omega⟩
  exact h (max (max F1 F2) k0) (by omega) (fun f hf => hF1 f (by omega)) (fun f hf => hF2 f (by omega)) g (by omega)

def stAt (s : TokStream) (i : Nat) : PState :=
  { idx := i + 2, prev := if i = 0 then none else some (s.get (i - 1)), cur := s.get i, peek := s.get (i + 1),
    prevNewline := (s.get i).hadNl, nextNewline := (s.get (i + 1)).hadNl, cont := false,
    prevPos := (s.get i).posAfter, errors := [] }

theorem init_eq (s : TokStream) : Parser.init s = stAt s 0 := rfl

@[simp] theorem advance_stAt (s : TokStream) (i : Nat) : advance s (stAt s i) = stAt s (i + 1) := by
  simp [advance, stAt]

@[simp] theorem stAt_cur (s : TokStream) (i : Nat) : (stAt s i).cur = s.get i := rfl
@[simp] theorem stAt_peek (s : TokStream) (i : Nat) : (stAt s i).peek = s.get (i + 1) := rfl
@[simp] theorem stAt_cont (s : TokStream) (i : Nat) : (stAt s i).cont = false := rfl
@[simp] theorem stAt_errors (s : TokStream) (i : Nat) : (stAt s i).errors = [] := rfl

theorem bind_apply (m : PM α) (k : α → PM β) (st : PState) :
    (m >>= k) st = match m st with
      | .ok (a, st') => k a st'
      | .goPanic p => .goPanic p
      | .outOfFuel => .outOfFuel := rfl

theorem bind_ok {m : PM α} {k : α → PM β} {st st' : PState} {a : α} (h : m st = .ok (a, st')) : (m >>= k) st = k a st' := by
  rw [bind_apply, h]

@[simp] theorem pure_apply (a : α) (st : PState) : (pure a : PM α) st = .ok (a, st) := rfl
@[simp] theorem getSt_apply (st : PState) : getSt st = .ok (st, st) := rfl
@[simp] theorem nextToken_apply (s : TokStream) (st : PState) : nextToken s st = .ok ((), advance s st) := rfl

theorem expectPeek_ok {s : TokStream} {st : PState} {t : TokType} (h : st.peek.type = t) :
    expectPeek s t st = .ok (true, advance s st) := by
  unfold expectPeek
  simp [bind_apply, h]

@[simp] theorem key_type (t : Tok) : (key t).type = t.type := rfl
@[simp] theorem key_lit (t : Tok) : (key t).lit = t.lit := rfl
@[simp] theorem key_num (t : Tok) : (key t).num = t.num := rfl

theorem key_tk {a b : Tok} (h : key a = key b) : a.tk = b.tk := by
  have h1 := congrArg Tok.type h
  have h2 := congrArg Tok.lit h
  simp only [key_type, key_lit] at h1 h2
  simp [Tok.tk, h1, h2]

theorem key_ws {a b : Tok} (h : key a = key b) (ho : b.type = .LPAREN ∨ b.type = .LBRACKET) : a.hadWs = b.hadWs := by
  have h1 := congrArg Tok.type h
  have h3 := congrArg Tok.hadWs h
  simp only [key_type] at h1
  simp only [key] at h3
  rcases ho with ho | ho <;> simp [h1, ho] at h3 <;> exact h3

def Seg (s : TokStream) : Nat → List Tok → Prop
  | _, [] => True
  | i, x :: r => key (s.get i) = key x ∧ Seg s (i + 1) r

@[simp] theorem Seg_nil (s : TokStream) (i : Nat) : Seg s i [] ↔ True := Iff.rfl
@[simp] theorem Seg_cons (s : TokStream) (i : Nat) (x : Tok) (r : List Tok) :
    Seg s i (x :: r) ↔ key (s.get i) = key x ∧ Seg s (i + 1) r := Iff.rfl

theorem Seg_append (s : TokStream) : ∀ (a b : List Tok) (i : Nat), Seg s i (a ++ b) ↔ Seg s i a ∧ Seg s (i + a.length) b
  | [], b, i => by simp
  | x :: a, b, i => by
    simp only [List.cons_append, Seg_cons, List.length_cons, Seg_append s a b (i + 1), and_assoc]
    have : i + 1 + a.length = i + (a.length + 1) := by omega
    rw [this]

theorem Seg_last {s : TokStream} {a : List Tok} {x : Tok} {i : Nat} (h : Seg s i (a ++ [x])) :
    Seg s i a ∧ key (s.get (i + a.length)) = key x := by
  rw [Seg_append, Seg_cons] at h
  exact ⟨h.1, h.2.1⟩

theorem Seg_mid {s : TokStream} {a b : List Tok} {x : Tok} {i : Nat} (h : Seg s i (a ++ x :: b)) (ha : 1 ≤ a.length) :
    ∃ j, j + 1 = i + a.length ∧ Seg s i a ∧ key (s.get (j + 1)) = key x ∧ Seg s (j + 2) b := by
  rw [Seg_append, Seg_cons] at h
  refine ⟨i + a.length - 1, by omega, h.1, ?_⟩
  rw [show i + a.length - 1 + 1 = i + a.length by omega, show i + a.length - 1 + 2 = i + a.length + 1 by omega]
  exact h.2

end Grol.RT
