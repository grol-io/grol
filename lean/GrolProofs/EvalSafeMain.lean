import GrolProofs.InvMain
/-
C07 as the instance of the development over a policy (InvBase.lean … InvMain.lean, namespace `Grol.G`)
at `polE`, the policy that protects nothing and admits every program.  The invariant, `Post` and the
result predicates of EvalInv.lean / EvalSafeEnv.lean are `G.Inv polE`, `G.Post polE`, … (`inv_iff`,
`post_iff`, `okObj_polE`, …); `spec_all` and the statements about single operations are those of
`Grol.G` at `polE`, rewritten with these equations (`toE`).
-/
namespace Grol.E

/-- nothing is protected: stored references need not carry their name, `del` is admitted -/
def polE : G.Policy := ⟨fun _ => false, false, true, nofun, nofun, nofun⟩

theorem polE_prot (n : String) : polE.prot n = false := rfl
theorem polE_del : polE.del = true := rfl

mutual
theorem okNode_polE : ∀ n, G.okNode polE n = true
  | .pre _ r | .ret r => by simp only [G.okNode, okNode_polE r]
  | .inf _ l r | .forE l r | .idx _ l r => by simp only [G.okNode, okNode_polE l, okNode_polE r, Bool.and_self]
  | .ifE c a b => by simp only [G.okNode, okNode_polE c, okNode_polE a, okNode_polE b, Bool.and_self]
  | .stmts l | .arr l => by simp only [G.okNode, okNodes_polE l]
  | .builtin _ ps => by simp only [G.okNode, okNodes_polE ps, polE_del, Bool.true_or, Bool.and_self]
  | .fn name _ _ _ _ body => by cases name <;> simp [G.okNode, okNode_polE body, G.constName, polE_prot]
  | .call f args => by simp only [G.okNode, okNode_polE f, okNodes_polE args, Bool.and_self]
  | .mapLit ks vs => by simp only [G.okNode, okNodes_polE ks, okNodes_polE vs, Bool.and_self]
  | .ident _ | .int _ | .float _ | .str _ | .bool _ | .post _ _ | .none | .ctl _ | .comment | .macroLit _ _ => by
    simp only [G.okNode]
theorem okNodes_polE : ∀ l, G.okNodes polE l = true
  | [] => rfl
  | x :: xs => by simp only [G.okNodes, okNode_polE x, okNodes_polE xs, Bool.and_self]
end

theorem okFn_polE (f : FuncVal) : G.okFn polE f = true := by
  cases h : f.name <;> simp [G.okFn, okNode_polE, G.constName, h, polE_prot]

mutual
theorem okObj_polE (n : Nat) : ∀ o, okObj n o = G.okObj polE n o
  | .array els => by simp only [okObj, G.okObj, okList_polE n els]
  | .map _ kvs => by simp only [okObj, G.okObj, okPairs_polE n kvs]
  | .func f => by simp only [okObj, G.okObj, okFn_polE, Bool.and_true]
  | .ret v _ => by simp only [okObj, G.okObj, okObj_polE n v]
  | .ref _ _ | .null | .bool _ | .int _ | .float _ | .str _ | .ext _ | .error _ | .quote _ => by
    simp only [okObj, G.okObj]
theorem okList_polE (n : Nat) : ∀ l, okList n l = G.okList polE n l
  | [] => rfl
  | x :: xs => by simp only [okList, G.okList, okObj_polE n x, okList_polE n xs]
theorem okPairs_polE (n : Nat) : ∀ l, okPairs n l = G.okPairs polE n l
  | [] => rfl
  | (k, v) :: xs => by simp only [okPairs, G.okPairs, okObj_polE n k, okObj_polE n v, okPairs_polE n xs]
end

theorem storeOk_iff {frames : Array Frame} {i d : Nat} {store : List (String × Obj)} :
    StoreOk frames i d store ↔ G.StoreOk polE frames i d store := by
  unfold StoreOk G.StoreOk
  simp only [okObj_polE]
  exact ⟨fun h k v hm => ⟨(h k v hm).1, fun e nm hv => ⟨(h k v hm).2 e nm hv, nofun⟩⟩,
    fun h k v hm => ⟨(h k v hm).1, fun e nm hv => ((h k v hm).2 e nm hv).1⟩⟩

theorem frameOk_iff {frames : Array Frame} {i : Nat} {f : Frame} :
    FrameOk frames i f ↔ G.FrameOk polE frames i f :=
  ⟨fun h => ⟨h.outer, fun fn hf => ⟨h.func fn hf, okFn_polE fn⟩, storeOk_iff.1 h.store⟩,
    fun h => ⟨h.outer, fun fn hf => (h.func fn hf).1, storeOk_iff.2 h.store⟩⟩

theorem inv_iff {st : St} : Inv st ↔ G.Inv polE st :=
  ⟨fun h => ⟨h.cur, h.root, fun i f hf => frameOk_iff.1 (h.frames i f hf), by simpa only [okObj_polE] using h.cache⟩,
    fun h => ⟨h.cur, h.root, fun i f hf => frameOk_iff.2 (h.frames i f hf), by simpa only [okObj_polE] using h.cache⟩⟩

theorem rel_iff {st st' : St} : G.Rel polE st st' ↔ st.frames.size ≤ st'.frames.size :=
  ⟨fun h => h.1, fun h => ⟨h, fun _ _ _ hp => nomatch hp⟩⟩

theorem post_iff {x : M α} {st : St} {Q : α → St → Prop} : Post x st Q ↔ G.Post polE x st Q := by
  unfold Post G.Post
  generalize runM x st = p
  obtain ⟨e | a, s⟩ := p
  · cases e <;> simp only [inv_iff, rel_iff]
  · simp only [inv_iff, rel_iff]

theorem okO_polE : OkO = G.OkO polE := by funext v s; simp only [OkO, G.OkO, okObj_polE]
theorem okOpt_polE : OkOpt = G.OkOpt polE := by funext v s; simp only [OkOpt, G.OkOpt, okObj_polE]

theorem Inv.update {st st' : St} (hI : Inv st) (hf : st'.frames = st.frames) (hc : st'.cur < st.frames.size)
    (hr : st'.root = st.root) (hcache : ∀ c, c ∈ st'.cache → okObj st.frames.size c.result = true) : Inv st' := by
  constructor
  · rw [hf]; exact hc
  · rw [hf, hr]; exact hI.root
  · rw [hf]; exact hI.frames
  · rw [hf]; exact hcache

theorem Post.bind {x : M α} {f : α → M β} {st : St} {Q : α → St → Prop} {R : β → St → Prop}
    (hx : Post x st Q)
    (hf : ∀ a st', Inv st' → st.frames.size ≤ st'.frames.size → Q a st' → Post (f a) st' R) :
    Post (x >>= f) st R :=
  post_iff.2 ((post_iff.1 hx).bind fun a st' hI hle hq => post_iff.1 (hf a st' (inv_iff.2 hI) hle hq))

theorem post_pure_bind {a : α} {f : α → M β} {st : St} {R : β → St → Prop} (h : Post (f a) st R) :
    Post (pure a >>= f) st R := h

theorem Post.get {st : St} {Q : St → St → Prop} (hI : Inv st) (h : Q st st) : Post (get : M St) st Q :=
  post_iff.2 (.get (inv_iff.1 hI) h)

abbrev OkEx : Except Obj (List Obj) → St → Prop := fun r s =>
  (∀ v, r = .ok v → okList s.frames.size v = true) ∧ (∀ e, r = .error e → okObj s.frames.size e = true)

structure Spec (fuel : Nat) : Prop where
  eval : ∀ node st, Inv st → Post (eval fuel node) st OkO
  evalI : ∀ node st, Inv st → Post (evalI fuel node) st OkO
  evalStatements : ∀ l res st, Inv st → okObj st.frames.size res = true → Post (evalStatements fuel l res) st OkO
  evalExpressions : ∀ l acc st, Inv st → okList st.frames.size acc = true → Post (evalExpressions fuel l acc) st OkEx
  evalAssignment : ∀ right op left st, Inv st → okObj st.frames.size right = true →
    Post (evalAssignment fuel right op left) st OkO
  evalIf : ∀ c cons alt st, Inv st → Post (evalIf fuel c cons alt) st OkO
  evalFor : ∀ c body st, Inv st → Post (evalFor fuel c body) st OkO
  evalForLoop : ∀ c body last st, Inv st → okObj st.frames.size last = true → Post (evalForLoop fuel c body last) st OkO
  evalForSpecialForms : ∀ c body st, Inv st → Post (evalForSpecialForms fuel c body) st OkOpt
  evalForInteger : ∀ body i endV name last st, Inv st → okObj st.frames.size last = true →
    Post (evalForInteger fuel body i endV name last) st OkO
  evalForList : ∀ body list name last st, Inv st → okObj st.frames.size list = true →
    okObj st.frames.size last = true → Post (evalForList fuel body list name last) st OkO
  evalBuiltin : ∀ t ps st, Inv st → Post (evalBuiltin fuel t ps) st OkO
  evalPrint : ∀ t ps first buf st, Inv st → Post (evalPrint fuel t ps first buf) st OkO
  evalDelete : ∀ node st, Inv st → Post (evalDelete fuel node) st OkO
  evalIndexExpression : ∀ left tok i st, Inv st → okObj st.frames.size left = true →
    Post (evalIndexExpression fuel left tok i) st OkO
  evalIndexRange : ∀ left li ri st, Inv st → okObj st.frames.size left = true →
    Post (evalIndexRange fuel left li ri) st OkO
  evalMapLiteral : ∀ ks vs big acc st, Inv st → okPairs st.frames.size acc = true →
    Post (evalMapLiteral fuel ks vs big acc) st OkO
  applyExtension : ∀ name args st, Inv st → Post (applyExtension fuel name args) st OkO
  applyFunction : ∀ fn args st, Inv st → okObj st.frames.size fn = true → okList st.frames.size args = true →
    Post (applyFunction fuel fn args) st OkO

theorem okEx_polE : OkEx = G.OkEx polE := by
  funext r s; simp only [OkEx, G.OkEx, okObj_polE, okList_polE]

/-- `toE h`: the statement `h` of the development at `polE`, in the terms of EvalInv.lean -/
local macro "toE " h:term : tactic =>
  `(tactic| simpa only [inv_iff, post_iff, okO_polE, okOpt_polE, okEx_polE, okObj_polE, okList_polE, okPairs_polE,
      okNode_polE, okNodes_polE, polE_del, forall_const] using $h)

theorem spec_all (fuel : Nat) : Spec fuel where
  eval := by toE (G.spec_all (P := polE) fuel).eval
  evalI := by toE (G.spec_all (P := polE) fuel).evalI
  evalStatements := by toE (G.spec_all (P := polE) fuel).evalStatements
  evalExpressions := by toE (G.spec_all (P := polE) fuel).evalExpressions
  evalAssignment := by toE (G.spec_all (P := polE) fuel).evalAssignment
  evalIf := by toE (G.spec_all (P := polE) fuel).evalIf
  evalFor := by toE (G.spec_all (P := polE) fuel).evalFor
  evalForLoop := by toE (G.spec_all (P := polE) fuel).evalForLoop
  evalForSpecialForms := by toE (G.spec_all (P := polE) fuel).evalForSpecialForms
  evalForInteger := by toE (G.spec_all (P := polE) fuel).evalForInteger
  evalForList := by toE (G.spec_all (P := polE) fuel).evalForList
  evalBuiltin := by toE (G.spec_all (P := polE) fuel).evalBuiltin
  evalPrint := by toE (G.spec_all (P := polE) fuel).evalPrint
  evalDelete := by toE (G.spec_all (P := polE) fuel).evalDelete
  evalIndexExpression := by toE (G.spec_all (P := polE) fuel).evalIndexExpression
  evalIndexRange := by toE (G.spec_all (P := polE) fuel).evalIndexRange
  evalMapLiteral := by toE (G.spec_all (P := polE) fuel).evalMapLiteral
  applyExtension := by toE (G.spec_all (P := polE) fuel).applyExtension
  applyFunction := by toE (G.spec_all (P := polE) fuel).applyFunction

theorem post_valueOf {st : St} (hI : Inv st) {o : Obj} (ho : okObj st.frames.size o = true) :
    Post (valueOf o) st (fun v s => s = st ∧ okObj st.frames.size v = true ∧ notRef v = true) := by
  rw [inv_iff] at hI; rw [okObj_polE] at ho; toE G.post_valueOf hI ho

theorem post_envGet {st : St} (hI : Inv st) {e : Nat} (he : e < st.frames.size) (name : String) :
    Post (envGet e name) st OkOpt := by
  rw [inv_iff] at hI; toE G.post_envGet_ok hI he name

/-- `makeRef` is called for a name that frame `orig` does not hold -/
theorem post_makeRef {st : St} (hI : Inv st) {orig : Nat} (ho : orig < st.frames.size) (name : String)
    (hn : lookupStore (K.storeOf st orig) name = none) :
    Post (makeRef orig name) st (fun r s => OkOpt r s ∧ s.frames.size = st.frames.size ∧ s.cur = st.cur) := by
  rw [inv_iff] at hI; toE (G.post_makeRef hI ho name hn).mono fun _ _ _ _ h => ⟨h.1, h.2.1, h.2.2.1⟩

theorem post_createOrSet {st : St} (hI : Inv st) {e : Nat} (he : e < st.frames.size) (name : String) {val : Obj}
    (hval : okObj st.frames.size val = true) (create : Bool) : Post (createOrSet e name val create) st OkO := by
  rw [inv_iff] at hI; rw [okObj_polE] at hval; toE G.post_createOrSet hI he name hval create

theorem post_envDelete {st : St} (hI : Inv st) {e : Nat} (he : e < st.frames.size) (name : String) :
    Post (envDelete e name) st OkO := by
  rw [inv_iff] at hI; toE G.post_envDelete hI polE_del he name

theorem post_extendFunctionEnv {st : St} (hI : Inv st) {f : FuncVal} (hf : f.env < st.frames.size)
    {args : List Obj} (hargs : okList st.frames.size args = true) :
    Post (extendFunctionEnv f args) st (fun r s =>
      (∀ nenv, r = .ok nenv → nenv < s.frames.size) ∧ (∀ e, r = .error e → okObj s.frames.size e = true)) := by
  rw [inv_iff] at hI; rw [okList_polE] at hargs; toE G.post_extendFunctionEnv hI hf (okFn_polE f) hargs

end Grol.E
