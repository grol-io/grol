import GrolProofs.RegSimEnv
/-
C05, simulation for statements: the statement-level simulation `C05.simulation_stmt_partial`.

Invariant `Inv n v`: the current frame binds `n` directly to `.int v` (`Bound`) and every stored reference
carries the key it is stored under (`RefNames`; RegSimEnv.lean shows every environment function keeps both as long
as the names it is given differ from `n`).  `Rel n v L L'` relates the two trees that are evaluated: `L'` the
original body, `L` the body with the reads of `n` replaced by the literal `v`; its constructors are the supported
statement forms.  `Sim n v fuel` is the simulation for every function of the evaluator's mutual block that these
forms reach (`evalI`, `eval`, `evalStatements`, `evalIf`, `evalAssignment`, `evalBuiltin`, `evalPrint`), proved by
induction on the fuel, one step lemma per function.

Covered (`NoCallStmt`): statement lists, `if`/`else`, `m = e` / `m := e`, `m[i] = e`, `m.f = e`, `m++`/`m--`,
`++m`/`--m` for variables `m ≠ n`, `print`/`println`, `return` (with or without value), `break`/`continue`,
comments, and all of the arithmetic fragment with ANY identifier (also one resolved through a reference to an
enclosing scope).  Not covered — and so still only part of `C05.SimStatement`: calls (necessarily: open finding
`loop-variable-invisible-to-callee`), `for` loops inside the body (the nested loop re-enters `useRegister` for its
own variable; at the level of this model both sides would run the register-free loop, the missing part is the step
lemmas for `evalFor*`), array and map literals, index reads `a[i]` / `m.f`, `len`/`first`/`rest`/`catch`/`del`.
The error-wording caveat stays: `n[i] = e`, `n.f = e` are excluded (both sides fail, with different messages).
`RefNames st` is a hypothesis: it holds in the initial state (`refNames_initState`) and is kept by all call-free
code (RegSimEnv.lean); that calls keep it too is not proved here.
-/
namespace Grol.RegRewrite
open Grol.E

def Inv (n : String) (v : Int64) (st : St) : Prop := Bound n v st ∧ RefNames st

instance (n : String) (v : Int64) : Stable (Inv n v) :=
  ⟨fun st st' h hi => ⟨hi.1.of_same h, fun e f hf => hi.2 e f (by rw [← h.1]; exact hf)⟩⟩

def PresI (I : St → Prop) (x : M α) : Prop := ∀ st, I st → I (run x st).2

theorem PresI.of_tri {n : String} {v : Int64} {x : M α} {Q : α → Prop} (h : TriA n x Q) : PresI (Inv n v) x :=
  fun st hi => ⟨(h st hi.2).2.1.direct hi.1, (h st hi.2).1⟩

theorem EqOn.of_presI {I : St → Prop} {x : M α} (hx : PresI I x) : EqOn I x x := fun st hs => ⟨rfl, hx st hs⟩

theorem EqOn.of_tri {n : String} {v : Int64} {x : M α} {Q : α → Prop} (h : TriA n x Q) : EqOn (Inv n v) x x :=
  EqOn.of_presI (PresI.of_tri h)

mutual
inductive Rel (n : String) (v : Int64) : Node → Node → Prop
  | var : Rel n v (.int v) (.ident n)
  | ident (m : String) (hm : m ≠ n) : Rel n v (.ident m) (.ident m)
  | int (w : Int64) : Rel n v (.int w) (.int w)
  | float (b : UInt64) : Rel n v (.float b) (.float b)
  | str (s : Grol.Wire.Bytes) : Rel n v (.str s) (.str s)
  | bool (b : Bool) : Rel n v (.bool b) (.bool b)
  | ctl (k : String) : Rel n v (.ctl k) (.ctl k)
  | comment : Rel n v .comment .comment
  | none : Rel n v .none .none
  | pre (op : String) (hop : (op == "INCR" || op == "DECR") = false) {r r' : Node} : Rel n v r r' → Rel n v (.pre op r) (.pre op r')
  | incr (op : String) (hop : (op == "INCR" || op == "DECR") = true) (m : String) (hm : m ≠ n) :
      Rel n v (.pre op (.ident m)) (.pre op (.ident m))
  | post (op m : String) (hm : m ≠ n) : Rel n v (.post op m) (.post op m)
  | inf (op : String) (hop : (op == "ASSIGN" || op == "DEFINE") = false) {l l' r r' : Node} :
      Rel n v l l' → Rel n v r r' → Rel n v (.inf op l r) (.inf op l' r')
  | assign (op : String) (hop : (op == "ASSIGN" || op == "DEFINE") = true) (m : String) (hm : m ≠ n) {r r' : Node} :
      Rel n v r r' → Rel n v (.inf op (.ident m) r) (.inf op (.ident m) r')
  | assignIdx (op : String) (hop : (op == "ASSIGN" || op == "DEFINE") = true) (m : String) (hm : m ≠ n) {i i' r r' : Node} :
      Rel n v i i' → Rel n v r r' →
      Rel n v (.inf op (.idx "LBRACKET" (.ident m) i) r) (.inf op (.idx "LBRACKET" (.ident m) i') r')
  | assignDot (op : String) (hop : (op == "ASSIGN" || op == "DEFINE") = true) (m : String) (hm : m ≠ n) (fld : Node) {r r' : Node} :
      Rel n v r r' → Rel n v (.inf op (.idx "DOT" (.ident m) fld) r) (.inf op (.idx "DOT" (.ident m) fld) r')
  | stmts {l l' : List Node} : RelL n v l l' → Rel n v (.stmts l) (.stmts l')
  | ifE {c c' a a' b b' : Node} : Rel n v c c' → Rel n v a a' → Rel n v b b' → Rel n v (.ifE c a b) (.ifE c' a' b')
  | ret {x x' : Node} : Rel n v x x' → Rel n v (.ret x) (.ret x')
  | print (t : String) (ht : t = "PRINT" ∨ t = "PRINTLN") {ps ps' : List Node} :
      RelL n v ps ps' → Rel n v (.builtin t ps) (.builtin t ps')
inductive RelL (n : String) (v : Int64) : List Node → List Node → Prop
  | nil : RelL n v [] []
  | cons {x x' : Node} {xs xs' : List Node} : Rel n v x x' → RelL n v xs xs' → RelL n v (x :: xs) (x' :: xs')
end

theorem Rel.none_iff {n : String} {v : Int64} {L L' : Node} (h : Rel n v L L') : L = .none ↔ L' = .none := by
  cases h <;> simp

theorem Rel.comment_iff {n : String} {v : Int64} {L L' : Node} (h : Rel n v L L') : L = .comment ↔ L' = .comment := by
  cases h <;> simp

theorem Rel.tokType_paren {n : String} {v : Int64} {L L' : Node} (h : Rel n v L L') :
    (L.tokType == "LPAREN") = (L'.tokType == "LPAREN") := by
  cases h <;> first | rfl | decide

theorem RelL.length {n : String} {v : Int64} : ∀ {l l' : List Node}, RelL n v l l' → l.length = l'.length
  | _, _, .nil => rfl
  | _, _, .cons _ h => by simp [RelL.length h]

structure Sim (n : String) (v : Int64) (fuel : Nat) : Prop where
  evalI : ∀ L L', Rel n v L L' → EqOn (Inv n v) (E.evalI fuel L) (E.evalI fuel L')
  eval : ∀ L L', Rel n v L L' → EqOn (Inv n v) (E.eval fuel L) (E.eval fuel L')
  stmts : ∀ l l' r, RelL n v l l' → EqOn (Inv n v) (evalStatements fuel l r) (evalStatements fuel l' r)
  evalIf : ∀ c c' a a' b b', Rel n v c c' → Rel n v a a' → Rel n v b b' →
    EqOn (Inv n v) (E.evalIf fuel c a b) (E.evalIf fuel c' a' b')
  assignIdx : ∀ right op m i i', m ≠ n → Rel n v i i' →
    EqOn (Inv n v) (evalAssignment fuel right op (.idx "LBRACKET" (.ident m) i))
      (evalAssignment fuel right op (.idx "LBRACKET" (.ident m) i'))
  builtin : ∀ t ps ps', (t = "PRINT" ∨ t = "PRINTLN") → RelL n v ps ps' →
    EqOn (Inv n v) (evalBuiltin fuel t ps) (evalBuiltin fuel t ps')
  print : ∀ t ps ps' first buf, RelL n v ps ps' →
    EqOn (Inv n v) (evalPrint fuel t ps first buf) (evalPrint fuel t ps' first buf)

variable {n : String} {v : Int64}

theorem sim_zero : Sim n v 0 := by
  refine ⟨?_, ?_, ?_, ?_, ?_, ?_, ?_⟩ <;> intros
  · rw [E.evalI, E.evalI]; exact EqOn.of_readOnly (ReadOnly.stop _)
  · rw [E.eval, E.eval]; exact EqOn.of_readOnly (ReadOnly.stop _)
  · rw [evalStatements, evalStatements]; exact EqOn.of_readOnly (ReadOnly.stop _)
  · rw [E.evalIf, E.evalIf]; exact EqOn.of_readOnly (ReadOnly.stop _)
  · rw [evalAssignment, evalAssignment]; exact EqOn.of_readOnly (ReadOnly.stop _)
  · rw [evalBuiltin, evalBuiltin]; exact EqOn.of_readOnly (ReadOnly.stop _)
  · rw [evalPrint, evalPrint]; exact EqOn.of_readOnly (ReadOnly.stop _)

/-- reading the variable: the literal on the register side -/
theorem eqOn_var : EqOn (Inv n v) (pure (.int v)) (evalIdentifier n) := by
  intro st hs
  rw [run_evalIdentifier_direct hs.1]
  exact ⟨rfl, hs⟩

theorem step_stmts_cons {fuel : Nat} (ih : Sim n v fuel) {x x' : Node} {xs xs' : List Node} (r : Obj)
    (hx : Rel n v x x') (hxs : RelL n v xs xs') :
    EqOn (Inv n v) (evalStatements (fuel+1) (x :: xs) r) (evalStatements (fuel+1) (x' :: xs') r) := by
  unfold evalStatements
  split <;> split
  · exact ih.stmts _ _ _ hxs
  · next hc => exact absurd (hx.comment_iff.mp rfl) (by intro h; exact hc h)
  · next hc _ => exact absurd (hx.comment_iff.mpr rfl) (by intro h; exact hc h)
  · apply EqOn.bind (ih.evalI _ _ hx); intro r
    split
    · exact EqOn.of_readOnly (ReadOnly.pure _)
    · exact EqOn.of_readOnly (ReadOnly.pure _)
    · exact ih.stmts _ _ _ hxs

theorem step_stmts {fuel : Nat} (ih : Sim n v fuel) (l l' : List Node) (r : Obj) (h : RelL n v l l') :
    EqOn (Inv n v) (evalStatements (fuel+1) l r) (evalStatements (fuel+1) l' r) := by
  cases h with
  | nil => rw [evalStatements]; exact EqOn.of_readOnly (ReadOnly.pure _)
  | cons hx hxs => exact step_stmts_cons ih r hx hxs

theorem step_evalIf {fuel : Nat} (ih : Sim n v fuel) {c c' a a' b b' : Node}
    (hc : Rel n v c c') (ha : Rel n v a a') (hb : Rel n v b b') :
    EqOn (Inv n v) (E.evalIf (fuel+1) c a b) (E.evalIf (fuel+1) c' a' b') := by
  unfold E.evalIf
  apply EqOn.bind (ih.evalI _ _ hc); intro r
  apply EqOn.bind (EqOn.of_readOnly (readOnly_valueOf r)); intro cond
  split
  · exact ih.evalI _ _ ha
  · split <;> split
    · exact EqOn.of_readOnly (ReadOnly.pure _)
    · next hn => exact absurd (hb.none_iff.mp rfl) (by intro h; exact hn h)
    · next hn _ => exact absurd (hb.none_iff.mpr rfl) (by intro h; exact hn h)
    · exact ih.evalI _ _ hb
  · exact EqOn.of_readOnly (ReadOnly.pure _)

theorem step_assignIdx {fuel : Nat} (ih : Sim n v fuel) (right : Obj) (op m : String) {i i' : Node}
    (hm : m ≠ n) (hi : Rel n v i i') :
    EqOn (Inv n v) (evalAssignment (fuel+1) right op (.idx "LBRACKET" (.ident m) i))
      (evalAssignment (fuel+1) right op (.idx "LBRACKET" (.ident m) i')) := by
  rw [evalAssignment_index, evalAssignment_index]
  split
  · exact EqOn.of_readOnly (ReadOnly.pure _)
  · exact EqOn.bind (ih.eval _ _ hi) (fun index => EqOn.of_tri (TriA.evalIndexAssignment hm index right))

/-- assignment to another variable / to a field of another variable: the same call on both sides -/
theorem pres_assign_ident (fuel : Nat) (right : Obj) (op m : String) (hm : m ≠ n) :
    EqOn (Inv n v) (evalAssignment fuel right op (.ident m)) (evalAssignment fuel right op (.ident m)) := by
  cases fuel with
  | zero => rw [evalAssignment]; exact EqOn.of_readOnly (ReadOnly.stop _)
  | succ fuel =>
    rw [evalAssignment_ident]
    refine EqOn.of_tri (Q := fun _ => True) (TriA.ite (TriA.pure trivial) ?_)
    exact TriA.bind TriA.curEnv fun e _ => TriA.createOrSet hm e _ _

theorem pres_assign_dot (fuel : Nat) (right : Obj) (op m : String) (hm : m ≠ n) (fld : Node) :
    EqOn (Inv n v) (evalAssignment fuel right op (.idx "DOT" (.ident m) fld))
      (evalAssignment fuel right op (.idx "DOT" (.ident m) fld)) := by
  cases fuel with
  | zero => rw [evalAssignment]; exact EqOn.of_readOnly (ReadOnly.stop _)
  | succ fuel =>
    rw [evalAssignment_dot]
    apply EqOn.of_tri (Q := fun _ => True)
    split
    · exact TriA.pure trivial
    · exact TriA.evalIndexAssignment hm _ _

theorem step_builtin {fuel : Nat} (ih : Sim n v fuel) (t : String) {ps ps' : List Node}
    (ht : t = "PRINT" ∨ t = "PRINTLN") (h : RelL n v ps ps') :
    EqOn (Inv n v) (evalBuiltin (fuel+1) t ps) (evalBuiltin (fuel+1) t ps') := by
  unfold evalBuiltin
  rw [h.length]
  rcases ht with rfl | rfl <;>
  · simp (config := { zeta := true, zetaHave := true, decide := true }) only [builtinArity, ↓reduceIte]
    split
    · exact EqOn.of_readOnly (ReadOnly.pure _)
    · exact ih.print _ _ _ _ _ h

theorem step_print {fuel : Nat} (ih : Sim n v fuel) (t : String) {ps ps' : List Node} (first : Bool)
    (buf : Grol.Wire.Bytes) (h : RelL n v ps ps') :
    EqOn (Inv n v) (evalPrint (fuel+1) t ps first buf) (evalPrint (fuel+1) t ps' first buf) := by
  cases h with
  | nil =>
    unfold evalPrint
    simp (config := { zeta := true, zetaHave := true }) only
    apply EqOn.of_tri (n := n) (Q := fun _ => True)
    split
    · split
      · exact TriA.pure trivial
      · exact TriA.stop_bind _ _
    · exact TriA.bind (TriA.writeOut _) fun _ _ => TriA.pure trivial
  | cons hx hxs =>
    unfold evalPrint
    simp (config := { zeta := true, zetaHave := true }) only
    apply EqOn.bind (ih.evalI _ _ hx); intro r
    split
    · exact EqOn.of_readOnly (ReadOnly.pure _)
    · apply EqOn.bind (EqOn.of_readOnly (readOnly_valueOf r)); intro r2
      split
      · exact EqOn.bind (EqOn.of_readOnly (ReadOnly.pure _)) (fun piece => ih.print _ _ _ _ _ hxs)
      · exact EqOn.bind (EqOn.of_readOnly (ReadOnly.liftR _)) (fun piece => ih.print _ _ _ _ _ hxs)

theorem Rel.hazOk {L L' : Node} (h : Rel n v L L') (fuel : Nat) : HazOk (Inv n v) fuel L L' := by
  cases h <;> first
    | exact Or.inl rfl
    | exact Or.inr (fun st _ els => eval_int_not_array fuel v st els)

theorem step_evalI {fuel : Nat} (ih : Sim n v fuel) {L L' : Node} (h : Rel n v L L') :
    EqOn (Inv n v) (E.evalI (fuel+1) L) (E.evalI (fuel+1) L') := by
  cases h with
  | var => rw [E.evalI, E.evalI]; exact EqOn.ticked eqOn_var
  | ident m hm => rw [E.evalI]; exact EqOn.ticked (EqOn.of_tri (TriA.evalIdentifier hm))
  | int w => rw [E.evalI]; exact EqOn.ticked (EqOn.of_readOnly (ReadOnly.pure _))
  | float w => rw [E.evalI]; exact EqOn.ticked (EqOn.of_readOnly (ReadOnly.pure _))
  | str w => rw [E.evalI]; exact EqOn.ticked (EqOn.of_readOnly (ReadOnly.pure _))
  | bool w => rw [E.evalI]; exact EqOn.ticked (EqOn.of_readOnly (ReadOnly.pure _))
  | ctl k => rw [E.evalI]; exact EqOn.ticked (EqOn.of_readOnly (ReadOnly.pure _))
  | comment => rw [E.evalI]; exact EqOn.ticked (EqOn.of_readOnly (ReadOnly.pure _))
  | none => rw [E.evalI]; exact EqOn.ticked (EqOn.of_readOnly (ReadOnly.pure _))
  | pre op hop hr => exact evalI_pre_eqOn hop (ih.eval _ _ hr)
  | incr op hop m hm =>
    rw [E.evalI]; simp only [hop, ↓reduceIte]
    exact EqOn.ticked (EqOn.of_tri (TriA.evalPrefixIncrDecr hm op))
  | post op m hm => rw [E.evalI]; exact EqOn.ticked (EqOn.of_tri (TriA.evalPostfix hm op))
  | inf op hop hl hr => exact evalI_inf_eqOn hop hr.tokType_paren (ih.eval _ _ hl) (ih.eval _ _ hr) (hl.hazOk fuel)
  | assign op hop m hm hr =>
    rw [E.evalI, E.evalI]; simp only [hop, ↓reduceIte]
    exact EqOn.ticked (EqOn.bind (ih.eval _ _ hr) (fun right => pres_assign_ident fuel right op m hm))
  | assignIdx op hop m hm hi hr =>
    rw [E.evalI, E.evalI]; simp only [hop, ↓reduceIte]
    exact EqOn.ticked (EqOn.bind (ih.eval _ _ hr) (fun right => ih.assignIdx right op m _ _ hm hi))
  | assignDot op hop m hm fld hr =>
    rw [E.evalI, E.evalI]; simp only [hop, ↓reduceIte]
    exact EqOn.ticked (EqOn.bind (ih.eval _ _ hr) (fun right => pres_assign_dot fuel right op m hm fld))
  | stmts hl => rw [E.evalI, E.evalI]; exact EqOn.ticked (ih.stmts _ _ _ hl)
  | ifE hc ha hb => rw [E.evalI, E.evalI]; exact EqOn.ticked (ih.evalIf _ _ _ _ _ _ hc ha hb)
  | @ret x x' hx =>
    by_cases h0 : x = .none
    · have h1 : x' = .none := hx.none_iff.mp h0
      subst h0; subst h1
      rw [E.evalI]; exact EqOn.ticked (EqOn.of_readOnly (ReadOnly.pure _))
    · have h1 : x' ≠ .none := fun h => h0 (hx.none_iff.mpr h)
      rw [E.evalI, E.evalI]
      · exact EqOn.ticked (EqOn.bind (ih.evalI _ _ hx) (fun r => EqOn.of_readOnly (ReadOnly.pure _)))
      all_goals (first | exact h0 | exact h1)
  | print t ht hps => rw [E.evalI, E.evalI]; exact EqOn.ticked (ih.builtin t _ _ ht hps)

theorem sim_all : ∀ fuel, Sim n v fuel
  | 0 => sim_zero
  | fuel + 1 =>
    have ih := sim_all fuel
    { evalI := fun _ _ h => step_evalI ih h
      eval := fun _ _ h => eval_succ_eqOn (ih.evalI _ _ h)
      stmts := fun l l' r h => step_stmts ih l l' r h
      evalIf := fun _ _ _ _ _ _ hc ha hb => step_evalIf ih hc ha hb
      assignIdx := fun right op m _ _ hm hi => step_assignIdx ih right op m hm hi
      builtin := fun t _ _ ht h => step_builtin ih t ht h
      print := fun t _ _ first buf h => step_print ih t first buf h }

mutual
/-- call-free statements of the supported forms (the body before the rewrite; it may hold registers of enclosing
rewrites).  Not included: calls, function and macro literals, `for` loops, array and map literals, index reads,
the builtins other than `print`/`println`; and — refused by the rewrite anyway — any write to `n`. -/
inductive NoCallStmt (n : String) : RNode → Prop
  | ident (m : String) : NoCallStmt n (.ident m)
  | reg (m : String) (i : Nat) : NoCallStmt n (.reg m i)
  | int (w : Int64) : NoCallStmt n (.int w)
  | float (b : UInt64) : NoCallStmt n (.float b)
  | str (s : Grol.Wire.Bytes) : NoCallStmt n (.str s)
  | bool (b : Bool) : NoCallStmt n (.bool b)
  | ctl (k : String) : NoCallStmt n (.ctl k)
  | comment : NoCallStmt n .comment
  | none : NoCallStmt n .none
  | pre (op : String) (hop : (op == "INCR" || op == "DECR") = false) {r : RNode} : NoCallStmt n r → NoCallStmt n (.pre op r)
  | incr (op : String) (hop : (op == "INCR" || op == "DECR") = true) (m : String) (hm : m ≠ n) : NoCallStmt n (.pre op (.ident m))
  | post (op m : String) (hm : m ≠ n) : NoCallStmt n (.post op m)
  | inf (op : String) (hop : (op == "ASSIGN" || op == "DEFINE") = false) {l r : RNode} :
      NoCallStmt n l → NoCallStmt n r → NoCallStmt n (.inf op l r)
  | assign (op : String) (hop : (op == "ASSIGN" || op == "DEFINE") = true) (m : String) (hm : m ≠ n) {r : RNode} :
      NoCallStmt n r → NoCallStmt n (.inf op (.ident m) r)
  | assignIdx (op : String) (hop : (op == "ASSIGN" || op == "DEFINE") = true) (m : String) (hm : m ≠ n) {i r : RNode} :
      NoCallStmt n i → NoCallStmt n r → NoCallStmt n (.inf op (.idx "LBRACKET" (.ident m) i) r)
  | assignDot (op : String) (hop : (op == "ASSIGN" || op == "DEFINE") = true) (m : String) (hm : m ≠ n)
      (f : String) (hf : f ≠ n) {r : RNode} :
      NoCallStmt n r → NoCallStmt n (.inf op (.idx "DOT" (.ident m) (.ident f)) r)
  | stmts {l : List RNode} : NoCallStmtL n l → NoCallStmt n (.stmts l)
  | ifE {c a b : RNode} : NoCallStmt n c → NoCallStmt n a → NoCallStmt n b → NoCallStmt n (.ifE c a b)
  | ret {x : RNode} : NoCallStmt n x → NoCallStmt n (.ret x)
  | print (t : String) (ht : t = "PRINT" ∨ t = "PRINTLN") {ps : List RNode} : NoCallStmtL n ps → NoCallStmt n (.builtin t ps)
inductive NoCallStmtL (n : String) : List RNode → Prop
  | nil : NoCallStmtL n []
  | cons {x : RNode} {xs : List RNode} : NoCallStmt n x → NoCallStmtL n xs → NoCallStmtL n (x :: xs)
end

theorem beq_false_of_ne {m n : String} (h : m ≠ n) : (m == n) = false := by simpa using h

mutual
theorem noCallStmt_rel (regs : Nat → Int64) (k : Nat) (hv : regs k = v) :
    ∀ {b : RNode}, NoCallStmt n b → Rel n v (inst regs (substAll n k b)) (inst regs b)
  | _, .ident m => by
    by_cases hm : (m == n) = true
    · have : m = n := eq_of_beq hm
      subst this
      simp only [substAll, hm, if_true, inst, hv]; exact Rel.var
    · simp only [substAll, hm, inst]
      exact Rel.ident m (fun h => hm (by rw [h]; exact beq_self_eq_true n))
  | _, .reg m i => by simp only [substAll, inst]; exact Rel.int _
  | _, .int w => by simp only [substAll, inst]; exact Rel.int _
  | _, .float w => by simp only [substAll, inst]; exact Rel.float _
  | _, .str w => by simp only [substAll, inst]; exact Rel.str _
  | _, .bool w => by simp only [substAll, inst]; exact Rel.bool _
  | _, .ctl w => by simp only [substAll, inst]; exact Rel.ctl _
  | _, .comment => by simp only [substAll, inst]; exact Rel.comment
  | _, .none => by simp only [substAll, inst]; exact Rel.none
  | _, .pre op hop hr => by simp only [substAll, inst]; exact Rel.pre op hop (noCallStmt_rel regs k hv hr)
  | _, .incr op hop m hm => by
    simp only [substAll, beq_false_of_ne hm, inst]; exact Rel.incr op hop m hm
  | _, .post op m hm => by simp only [substAll, inst]; exact Rel.post op m hm
  | _, .inf op hop hl hr => by
    simp only [substAll, inst]; exact Rel.inf op hop (noCallStmt_rel regs k hv hl) (noCallStmt_rel regs k hv hr)
  | _, .assign op hop m hm hr => by
    simp only [substAll, beq_false_of_ne hm, inst]; exact Rel.assign op hop m hm (noCallStmt_rel regs k hv hr)
  | _, .assignIdx op hop m hm hi hr => by
    simp only [substAll, beq_false_of_ne hm, inst]
    exact Rel.assignIdx op hop m hm (noCallStmt_rel regs k hv hi) (noCallStmt_rel regs k hv hr)
  | _, .assignDot op hop m hm f hf hr => by
    simp only [substAll, beq_false_of_ne hm, beq_false_of_ne hf, inst]
    exact Rel.assignDot op hop m hm _ (noCallStmt_rel regs k hv hr)
  | _, .stmts hl => by simp only [substAll, inst]; exact Rel.stmts (noCallStmtL_rel regs k hv hl)
  | _, .ifE hc ha hb => by
    simp only [substAll, inst]
    exact Rel.ifE (noCallStmt_rel regs k hv hc) (noCallStmt_rel regs k hv ha) (noCallStmt_rel regs k hv hb)
  | _, .ret hx => by simp only [substAll, inst]; exact Rel.ret (noCallStmt_rel regs k hv hx)
  | _, .print t ht hps => by simp only [substAll, inst]; exact Rel.print t ht (noCallStmtL_rel regs k hv hps)
theorem noCallStmtL_rel (regs : Nat → Int64) (k : Nat) (hv : regs k = v) :
    ∀ {l : List RNode}, NoCallStmtL n l → RelL n v (instList regs (substAllList n k l)) (instList regs l)
  | _, .nil => by simp only [substAllList, instList]; exact RelL.nil
  | _, .cons hx hxs => by
    simp only [substAllList, instList]; exact RelL.cons (noCallStmt_rel regs k hv hx) (noCallStmtL_rel regs k hv hxs)
end

/-- (c) for call-free statements: if the rewrite of `b` for `n` succeeded and the register holds `v`, then in every
state whose current frame binds `n` to `.int v` (and whose stored references carry their keys: `RefNames`, true of
the initial state and kept by every environment function), the register-aware evaluation of the rewritten body and
the evaluation of the original body have the same outcome and the same final state — any fuel, any deadline. -/
theorem C05.simulation_stmt_partial (k : Nat) (regs : Nat → Int64) (b b' : RNode) (fuel : Nat) (st : St)
    (hm : modifyR n k b = some b') (hregs : regs k = v) (hb : Bound n v st) (hr : RefNames st) (hf : NoCallStmt n b) :
    run (evalReg fuel regs b') st = run (E.evalI fuel (inst regs b)) st := by
  cases modifyR_eq_some hm
  exact ((sim_all fuel).evalI _ _ (noCallStmt_rel regs k hregs hf) st ⟨hb, hr⟩).1

/-! ### non-vacuity -/

theorem refNamesStore_of_notRef {s : List (String × Obj)} (h : ∀ p ∈ s, NotRef p.2) : RefNamesStore s := by
  intro k re rn hl
  induction s with
  | nil => simp [lookupStore] at hl
  | cons p rest ih =>
    obtain ⟨pk, pv⟩ := p
    rw [lookupStore_cons] at hl
    split at hl
    · cases hl; exact absurd rfl (h (pk, .ref re rn) (List.mem_cons_self ..) re rn)
    · exact ih (fun q hq => h q (List.mem_cons_of_mem _ hq)) hl

/-- the initial state of a session holds no reference -/
theorem refNames_initState (cfg : Cfg) : RefNames (initState cfg) := by
  intro e f hf
  have : f = { store := [("nil", .null), ("null", .null), ("NaN", .float nanBits), ("Inf", .float infBits),
                          ("PI", .float 0x400921FB54442D18), ("E", .float 0x4005BF0A8B145769)] } := by
    cases e with
    | zero => simp [initState] at hf; exact hf.symm
    | succ e => simp [initState] at hf
  subst this
  apply refNamesStore_of_notRef
  intro p hp
  simp at hp
  rcases hp with h | h | h | h | h | h <;> (subst h; intro e k hh; cases hh)

/-- a loop at top level over `i`, with `i = 2`, `x = 7`, `s = 0` bound -/
def stmtExampleState : St :=
  { (initState {}) with frames := #[{ store := [("i", .int 2), ("x", .int 7), ("s", .int 0)] }] }

/-- `if i < x { s = s + i }; println(s, i)` -/
def stmtExampleBody : RNode :=
  .stmts [.ifE (.inf "LT" (.ident "i") (.ident "x"))
            (.stmts [.inf "ASSIGN" (.ident "s") (.inf "PLUS" (.ident "s") (.ident "i"))]) .none,
          .builtin "PRINTLN" [.ident "s", .ident "i"]]

example : NoCallStmt "i" stmtExampleBody :=
  .stmts (.cons
    (.ifE (.inf "LT" (by decide) (.ident _) (.ident _))
      (.stmts (.cons (.assign "ASSIGN" (by decide) "s" (by decide) (.inf "PLUS" (by decide) (.ident _) (.ident _))) .nil))
      .none)
    (.cons (.print "PRINTLN" (Or.inr rfl) (.cons (.ident _) (.cons (.ident _) .nil))) .nil))

example : Bound "i" 2 stmtExampleState ∧ RefNames stmtExampleState := by
  refine ⟨⟨by decide +kernel, by decide +kernel, by decide +kernel,
    ⟨{ store := [("i", .int 2), ("x", .int 7), ("s", .int 0)] }, rfl, rfl, fun fn h => by cases h⟩,
    fun e k h => by cases h⟩, ?_⟩
  intro e f hf
  have : f = { store := [("i", .int 2), ("x", .int 7), ("s", .int 0)] } := by
    cases e with
    | zero => simp [stmtExampleState] at hf; exact hf.symm
    | succ e => simp [stmtExampleState] at hf
  subst this
  apply refNamesStore_of_notRef
  intro p hp
  simp at hp
  rcases hp with h | h | h <;> (subst h; intro e k hh; cases hh)

/-- the rewrite of the example body succeeds -/
example : (modifyR "i" 0 stmtExampleBody).isSome = true := by rfl

end Grol.RegRewrite
