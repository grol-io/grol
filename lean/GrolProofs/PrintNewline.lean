import GrolProofs.PrintFrame
import Grol.LitFact
/-
C03 (3), second half: the byte before the final newline of a normal-mode program text is not a newline,
given the lexer fact that the literals of the tokens printed last by a node are non-empty and do not end
in a newline (`endOK`).  Together with `printProgram_ends_with_newline`: exactly one trailing newline.
-/
namespace Grol.Printer
open Grol.Generated Grol.Wire

mutual
/-- the token literals a node prints LAST (along its right-most spine) satisfy `litOK`; nodes that end with a
closing delimiter or a quoted string need nothing -/
def endOK : Node → Bool
  | .ident t | .intLit t | .floatLit t | .boolean t | .control t | .comment t _ _ | .post t _ => litOK t
  | .strLit _ => true
  | .ret t v => match v with
    | none => litOK t
    | some v => endOK v
  | .pre _ r => endOKO r
  | .infix t _ r => match r with
    | none => litOK t
    | some r => endOK r
  | .ifE _ _ _ b => endOKS b          -- `else if`: the nested `if` is printed last
  | .index _ _ i => endOKO i          -- `a.b`
  | .forE .. | .builtin .. | .func .. | .call .. | .array .. | .mapLit .. | .macroLit .. => true
def endOKO : Option Node → Bool
  | none => true
  | some n => endOK n
def endOKL : List (Option Node) → Bool
  | [] => true
  | x :: xs => endOKO x && endOKL xs
def endOKS : Option (List (Option Node)) → Bool
  | none => true
  | some l => endOKL l
end

/-- `out` is kept reversed: its head is the last byte written -/
def P (ps : PrintState) : Prop := ∃ b, ps.out.head? = some b ∧ b ≠ 10

theorem print_out (ps : PrintState) (b : Bytes) : ∃ x, (ps.print b).out = b.reverse ++ x := by
  unfold PrintState.print PrintState.write; dsimp only; split <;> exact ⟨_, rfl⟩

theorem P_print (ps : PrintState) (b : Bytes) (h1 : b ≠ []) (h2 : b.getLast? ≠ some 10) : P (ps.print b) := by
  obtain ⟨x, hx⟩ := print_out ps b
  unfold P; rw [hx]
  cases hb : b.reverse with
  | nil => simp at hb; exact absurd hb h1
  | cons c cs =>
    refine ⟨c, by simp, ?_⟩
    have : b.getLast? = some c := by
      have := congrArg List.head? hb
      simpa [List.head?_reverse] using this
    intro hc; subst hc; exact h2 this

theorem P_print1 (ps : PrintState) (c : UInt8) (h : c ≠ 10) : P (ps.print [c]) :=
  P_print ps [c] (by simp) (by simpa using h)

theorem P_print_lit (ps : PrintState) (t : Tk) (h : litOK t = true) : P (ps.print t.lit) := by
  unfold litOK at h
  simp only [Bool.and_eq_true, Bool.not_eq_true', bne_iff_ne, ne_eq] at h
  exact P_print ps t.lit (by intro e; simp [e] at h) h.2

theorem P_ite_paren (c : Prop) [Decidable c] (ps : PrintState) (h : P ps) : P (if c then ps.print [41] else ps) := by
  split
  · exact P_print1 _ _ (by decide)
  · exact h

theorem P_with_prec (ps : PrintState) (x : Nat) (h : P ps) : P { ps with exprPrec := x } := h

theorem Frame.pos {a b : PrintState} (f : Frame a b) (hl : 0 < a.indentLevel) : 0 < b.indentLevel := f.1 ▸ hl

theorem printBlock_P (tbl : Nat → Bool) (l : List (Option Node)) (ps ps' : PrintState) (h : printBlock tbl l ps = .ok ps')
    (hl : 0 < ps.indentLevel) : P ps' := by
  unfold printBlock at h; dsimp only at h
  split at h
  · cases h
  · next ps2 heq =>
    have f := (printStmtLoop_frame tbl l _ _ _ heq).1
    cases h
    -- `hl`: only a block below the top level closes with `}`; the top-level one ends with the newline of its `Println`
    have : ps2.println.indentLevel - 1 > 0 := by
      simp only [println_indent, f, apply_ite PrintState.indentLevel, print_indent, ite_self]; omega
    rw [if_pos this]
    exact P_print1 _ _ (by decide)

theorem printStmts_P (tbl : Nat → Bool) (b : Option (List (Option Node))) (ps ps' : PrintState) (h : printStmts tbl b ps = .ok ps')
    (hl : 0 < ps.indentLevel) : P ps' := by
  cases b with
  | none => unfold printStmts at h; cases h
  | some l => unfold printStmts at h; exact printBlock_P tbl l _ _ h hl

theorem quote_P (tbl : Nat → Bool) (ps : PrintState) (b : Bytes) : P (ps.print (quote tbl b)) := by
  apply P_print
  · unfold quote; simp
  · unfold quote; rw [List.getLast?_concat]; decide

theorem P_with (ps : PrintState) (x : Nat) : P { ps with exprPrec := x } ↔ P ps := Iff.rfl

mutual

theorem printNode_P (tbl : Nat → Bool) : ∀ (n : Node) (ps ps' : PrintState), printNode tbl n ps = .ok ps' → endOK n = true →
    0 < ps.indentLevel → P ps'
  | .ident t, ps, ps', h, he, _ | .intLit t, ps, ps', h, he, _ | .floatLit t, ps, ps', h, he, _
  | .boolean t, ps, ps', h, he, _ | .control t, ps, ps', h, he, _ | .comment t _ _, ps, ps', h, he, _ => by
    unfold printNode at h; cases h; exact P_print_lit _ _ he
  | .strLit t, ps, ps', h, _, _ => by unfold printNode at h; cases h; exact quote_P _ _ _
  | .ret t none, ps, ps', h, he, _ => by
    unfold printNode at h; cases h; exact P_print_lit _ _ he
  | .ret t (some v), ps, ps', h, he, hl => by
    unfold printNode at h
    exact printNode_P tbl v _ _ h he (Frame.pos (by frame []) hl)
  | .pre _ r, ps, ps', h, he, hl => by
    unfold printNode at h; dsimp only at h
    split at h
    · cases h
    · next psr heq =>
      have p := printO_P tbl r _ _ heq he (Frame.pos (by frame []) hl)
      cases h
      exact P_ite_paren _ _ ((P_with _ _).mpr p)
  | .post t p, ps, ps', h, he, hl => by
    unfold printNode at h
    split at h
    · cases h
    · cases h
      rw [P_with]
      split
      · exact P_print1 _ _ (by decide)
      · exact P_print_lit _ _ he
  | .infix t l none, ps, ps', h, he, hl => by
    unfold printNode at h
    split at h
    · cases h
    · dsimp only at h
      split at h
      · cases h
      · cases h
        rw [P_with]
        simp only [Option.isSome_none, Bool.and_false, Bool.false_eq_true, if_false, Option.isNone_none, Bool.or_true, if_true]
        exact P_print_lit _ _ he
  | .infix t l (some r), ps, ps', h, he, hl => by
    unfold printNode at h
    split at h
    · cases h
    · next _ _ _ heq =>
      dsimp only at h
      split at h
      · cases h
      · next _ heq2 =>
        split at h
        · cases h
        · next _ heq3 =>
          have p := printNode_P tbl r _ _ heq3 he
            (Frame.pos (by frame [(printO_frame tbl l _ _ heq2).eq, fr_needParen heq]) hl)
          cases h
          rw [P_with]
          exact P_ite_paren _ _ p
  | .forE _ c b, ps, ps', h, he, hl => by
    unfold printNode at h
    split at h
    · cases h
    · next _ heq => exact printStmts_P tbl b _ _ h (Frame.pos (by frame [(printO_frame tbl c _ _ heq).eq]) hl)
  | .ifE _ c a none, ps, ps', h, he, hl => by
    unfold printNode at h
    split at h
    · cases h
    · next _ heq =>
      split at h
      · cases h
      · next _ heq2 =>
        cases h
        exact printStmts_P tbl a _ _ heq2 (Frame.pos (by frame [(printO_frame tbl c _ _ heq).eq]) hl)
  | .ifE _ c a (some l), ps, ps', h, he, hl => by
    unfold printNode at h
    split at h
    · cases h
    · next _ heq =>
      split at h
      · cases h
      · next psA heq2 =>
        extract_lets pse at h
        have pe : P pse := by unfold pse; split <;> exact P_print _ _ (by decide) (by decide)
        have hlv : 0 < pse.indentLevel := Frame.pos (by
          unfold pse; frame [(printStmts_frame tbl a _ _ heq2).eq, (printO_frame tbl c _ _ heq).eq]) hl
        clear_value pse
        dsimp only at h
        split at h
        · cases h
        · refine printHead_P tbl _ l _ _ h he (Frame.pos (by frame []) hlv) ?_
          split
          · exact P_print1 _ 32 (by decide)
          · exact pe
        · exact printBlock_P tbl l _ _ h hlv
  | .builtin _ params, ps, ps', h, he, hl => by
    unfold printNode at h
    split at h
    · cases h
    · cases h; exact P_print1 _ _ (by decide)
  | .func _ name params body _ isLambda, ps, ps', h, he, hl => by
    unfold printNode at h
    split at h
    · dsimp only at h
      split at h
      · cases h
      · next _ heq =>
        split at h
        · cases h
        · next psB heq2 =>
          have p := printStmts_P tbl body _ _ heq2 (Frame.pos (by frame [(printList_frame tbl params _ _ _ heq).eq]) hl)
          cases h
          exact P_ite_paren _ _ p
    · dsimp only at h
      split at h
      · cases h
      · next _ heq =>
        refine printStmts_P tbl body _ _ h (Frame.pos ?_ hl)
        cases name <;> frame [(printList_frame tbl params _ _ _ heq).eq]
  | .call _ fn args, ps, ps', h, he, hl => by
    unfold printNode at h; dsimp only at h
    split at h
    · cases h
    · split at h
      · cases h
      · cases h; exact P_print1 _ _ (by decide)
  | .array _ es, ps, ps', h, he, hl => by
    unfold printNode at h
    split at h
    · cases h
    · cases h; exact P_print1 _ _ (by decide)
  | .index t l i, ps, ps', h, he, hl => by
    unfold printNode at h
    split at h
    · cases h
    · next _ _ _ heq =>
      dsimp only at h
      split at h
      · cases h
      · next _ heq2 =>
        split at h
        · cases h
        · next psI heq3 =>
          have p := printO_P tbl i _ _ heq3 he
            (Frame.pos (by frame [(printO_frame tbl l _ _ heq2).eq, fr_needParen heq]) hl)
          cases h
          rw [P_with]
          apply P_ite_paren
          split
          · exact P_print1 _ _ (by decide)
          · exact P_ite_paren _ _ p
  | .mapLit _ kvs, ps, ps', h, he, hl => by
    unfold printNode at h; dsimp only at h
    split at h
    · cases h
    · cases h; exact P_print1 _ _ (by decide)
  | .macroLit _ params body, ps, ps', h, he, hl => by
    unfold printNode at h
    split at h
    · cases h
    · next _ heq =>
      exact printStmts_P tbl body _ _ h (Frame.pos (by frame [(printList_frame tbl params _ _ _ heq).eq]) hl)

theorem printO_P (tbl : Nat → Bool) : ∀ (o : Option Node) (ps ps' : PrintState), printO tbl o ps = .ok ps' → endOKO o = true →
    0 < ps.indentLevel → P ps'
  | none, _, _, h, _, _ => by unfold printO at h; cases h
  | some n, ps, ps', h, he, hl => by unfold printO at h; exact printNode_P tbl n _ _ h he hl

theorem printHead_P (tbl : Nat → Bool) (sk : Bool) : ∀ (l : List (Option Node)) (ps ps' : PrintState), printHead tbl sk l ps = .ok ps' →
    endOKL l = true → 0 < ps.indentLevel → P ps → P ps'
  | [], _, _, h, _, _, p => by unfold printHead at h; cases h; exact p
  | x :: xs, ps, ps', h, he, hl, p => by
    simp only [endOKL, Bool.and_eq_true] at he
    unfold printHead at h
    split at h
    · exact printHead_P tbl sk xs _ _ h he.2 hl p
    · exact printO_P tbl x _ _ h he.1 hl

end

end Grol.Printer

namespace Grol.Printer
open Grol.Generated Grol.Wire

theorem P.toQ {ps : PrintState} (h : P ps) : ps.out.head? ≠ some 10 := by
  obtain ⟨b, hb, hne⟩ := h
  rw [hb]; intro e; cases e; exact hne rfl

theorem printStmtLoop_Q (tbl : Nat → Bool) : ∀ (l : List (Option Node)) (ps : PrintState) (i : Nat) (ps' : PrintState),
    printStmtLoop tbl l ps i = .ok ps' → ps.compact = false → 0 < ps.indentLevel → endOKL l = true →
    ps.out.head? ≠ some 10 → ps'.out.head? ≠ some 10
  | [], ps, i, ps', h, _, _, _, q => by unfold printStmtLoop at h; cases h; exact q
  | x :: xs, ps, i, ps', h, hc, hl, he, q => by
    simp only [endOKL, Bool.and_eq_true] at he
    unfold printStmtLoop at h
    simp only [hc, Bool.false_and, Bool.false_eq_true, if_false] at h
    split at h
    · cases h
    · next ps2 heq =>
      have f := printO_frame tbl x _ _ heq
      have p := printO_P tbl x _ _ heq he.1 (Frame.pos (by frame [fr_longFormSep]) hl)
      refine printStmtLoop_Q tbl xs _ _ _ h ?_ ?_ he.2 p.toQ
      · exact f.2.trans ((congrArg Prod.snd (fr_longFormSep ps x i)).trans hc)
      · exact Frame.pos (by frame [fr_prev, f.eq, fr_longFormSep]) hl

/-- **C03 (3)**: given the lexer fact `endOKL prog` (token literals printed last are non-empty and do not end in
a newline), the normal-mode text of a program is `body ++ "\n"` where `body` does not end in a newline:
exactly one trailing newline. -/
theorem printProgram_exactly_one_newline (tbl : Nat → Bool) (prog : NList) (allParens : Bool) (out : Bytes)
    (h : printProgram tbl prog false allParens = .ok out) (he : endOKL prog = true) :
    ∃ body, out = body ++ [10] ∧ body.getLast? ≠ some 10 := by
  obtain ⟨ps1, ps2, hloop, hc, h1, ho, rfl⟩ := printProgram_normal h
  refine ⟨_, rfl, ?_⟩
  rw [List.getLast?_reverse]
  exact printStmtLoop_Q tbl prog _ _ _ hloop hc (h1 ▸ Nat.one_pos) he (by rw [ho]; nofun)

end Grol.Printer
