import GrolProofs.InvHelpers
/-
The mutually recursive tree walker (lean/Grol/Eval/Eval.lean): one statement per
function, proved simultaneously by induction on the fuel.
-/
namespace Grol.G
open Grol.E Grol.K

variable {P : Policy}

abbrev OkEx (P : Policy) : Except Obj (List Obj) → St → Prop := fun r s =>
  (∀ v, r = .ok v → okList P s.frames.size v = true) ∧ (∀ e, r = .error e → okObj P s.frames.size e = true)

structure Spec (P : Policy) (fuel : Nat) : Prop where
  eval : ∀ node st, Inv P st → okNode P node = true → Post P (eval fuel node) st (OkO P)
  evalI : ∀ node st, Inv P st → okNode P node = true → Post P (evalI fuel node) st (OkO P)
  evalStatements : ∀ l res st, Inv P st → okNodes P l = true → okObj P st.frames.size res = true →
    Post P (evalStatements fuel l res) st (OkO P)
  evalExpressions : ∀ l acc st, Inv P st → okNodes P l = true → okList P st.frames.size acc = true →
    Post P (evalExpressions fuel l acc) st (OkEx P)
  evalAssignment : ∀ right op left st, Inv P st → okNode P left = true → okObj P st.frames.size right = true →
    Post P (evalAssignment fuel right op left) st (OkO P)
  evalIf : ∀ c cons alt st, Inv P st → okNode P c = true → okNode P cons = true → okNode P alt = true →
    Post P (evalIf fuel c cons alt) st (OkO P)
  evalFor : ∀ c body st, Inv P st → okNode P c = true → okNode P body = true → Post P (evalFor fuel c body) st (OkO P)
  evalForLoop : ∀ c body last st, Inv P st → okNode P c = true → okNode P body = true →
    okObj P st.frames.size last = true → Post P (evalForLoop fuel c body last) st (OkO P)
  evalForSpecialForms : ∀ c body st, Inv P st → okNode P c = true → okNode P body = true →
    Post P (evalForSpecialForms fuel c body) st (OkOpt P)
  evalForInteger : ∀ body i endV name last st, Inv P st → okNode P body = true → okObj P st.frames.size last = true →
    Post P (evalForInteger fuel body i endV name last) st (OkO P)
  evalForList : ∀ body list name last st, Inv P st → okNode P body = true → okObj P st.frames.size list = true →
    okObj P st.frames.size last = true → Post P (evalForList fuel body list name last) st (OkO P)
  evalBuiltin : ∀ t ps st, Inv P st → okNode P (.builtin t ps) = true → Post P (evalBuiltin fuel t ps) st (OkO P)
  evalPrint : ∀ t ps first buf st, Inv P st → okNodes P ps = true → Post P (evalPrint fuel t ps first buf) st (OkO P)
  evalDelete : ∀ node st, Inv P st → okNode P node = true → P.del = true → Post P (evalDelete fuel node) st (OkO P)
  evalIndexExpression : ∀ left tok i st, Inv P st → okNode P i = true → okObj P st.frames.size left = true →
    Post P (evalIndexExpression fuel left tok i) st (OkO P)
  evalIndexRange : ∀ left li ri st, Inv P st → okNode P li = true → okNode P ri = true → okObj P st.frames.size left = true →
    Post P (evalIndexRange fuel left li ri) st (OkO P)
  evalMapLiteral : ∀ ks vs big acc st, Inv P st → okNodes P ks = true → okNodes P vs = true →
    okPairs P st.frames.size acc = true → Post P (evalMapLiteral fuel ks vs big acc) st (OkO P)
  applyExtension : ∀ name args st, Inv P st → Post P (applyExtension fuel name args) st (OkO P)
  applyFunction : ∀ fn args st, Inv P st → okObj P st.frames.size fn = true → okList P st.frames.size args = true →
    Post P (applyFunction fuel fn args) st (OkO P)

theorem np_fuel : ∀ s, Stop.fuel ≠ .goPanic s := fun _ h => by cases h
theorem np_depth : ∀ s, Stop.depthGuard ≠ .goPanic s := fun _ h => by cases h

theorem spec_zero : Spec P 0 where
  eval := by intros; exact Post.stop ‹_› np_fuel
  evalI := by intros; exact Post.stop ‹_› np_fuel
  evalStatements := by intros; exact Post.stop ‹_› np_fuel
  evalExpressions := by intros; exact Post.stop ‹_› np_fuel
  evalAssignment := by intros; exact Post.stop ‹_› np_fuel
  evalIf := by intros; exact Post.stop ‹_› np_fuel
  evalFor := by intros; exact Post.stop ‹_› np_fuel
  evalForLoop := by intros; exact Post.stop ‹_› np_fuel
  evalForSpecialForms := by intros; exact Post.stop ‹_› np_fuel
  evalForInteger := by intros; exact Post.stop ‹_› np_fuel
  evalForList := by intros; exact Post.stop ‹_› np_fuel
  evalBuiltin := by intros; exact Post.stop ‹_› np_fuel
  evalPrint := by intros; exact Post.stop ‹_› np_fuel
  evalDelete := by intros; exact Post.stop ‹_› np_fuel
  evalIndexExpression := by intros; exact Post.stop ‹_› np_fuel
  evalIndexRange := by intros; exact Post.stop ‹_› np_fuel
  evalMapLiteral := by intros; exact Post.stop ‹_› np_fuel
  applyExtension := by intros; exact Post.stop ‹_› np_fuel
  applyFunction := by intros; exact Post.stop ‹_› np_fuel

theorem post_same {x : M Obj} {st : St} (h : Post P x st (OkSame P st)) : Post P x st (OkO P) :=
  h.mono (fun v s _ _ h => by obtain ⟨rfl, h2⟩ := h; exact h2)

theorem eval_step {fuel : Nat} (ih : Spec P fuel) : ∀ node st, Inv P st → okNode P node = true →
    Post P (eval (fuel + 1) node) st (OkO P) := by
  intro node st hI hn
  unfold Grol.E.eval
  refine Post.bind_read (runM_get st) ?_
  extract_lets jp jp2
  have hjp : ∀ r s, Inv P s → okObj P s.frames.size r = true → Post P (jp r) s (OkO P) := by
    intro r s hIs hr
    unfold jp
    split
    · next e n =>
      simp only [okObj, decide_eq_true_eq] at hr
      exact (post_refValue hIs hr n).mono (fun v s' _ _ h => by obtain ⟨rfl, h2⟩ := h; exact h2)
    · exact Post.pure hIs hr
  refine Post.ite (fun _ => Post.stop_bind hI np_depth) (fun _ => ?_)
  unfold jp2
  refine Post.bind (Q := fun _ s => s.frames = st.frames) (Post.set (hI.update rfl hI.cur rfl hI.cache) (Nat.le_refl _) (Kept.of_frames rfl) rfl) ?_
  intro _ s0 hI0 _ _
  refine Post.bind (ih.evalI node s0 hI0 hn) ?_
  intro result s1 hI1 _ hres
  refine Post.bind (Q := fun _ s => s.frames = s1.frames)
    (Post.modify (hI1.update rfl hI1.cur rfl hI1.cache) (Nat.le_refl _) (Kept.of_frames rfl) rfl) ?_
  intro _ s2 hI2 _ hfr
  have hsz : s2.frames.size = s1.frames.size := by rw [hfr]
  split
  · next v kind =>
    simp only [OkO, okObj] at hres
    refine Post.ite (fun _ => hjp _ _ hI2 okObj_err) (fun _ => hjp _ _ hI2 (by rw [hsz]; exact hres))
  · exact hjp _ _ hI2 (by rw [hsz]; exact hres)

theorem evalI_step {fuel : Nat} (ih : Spec P fuel) : ∀ node st, Inv P st → okNode P node = true →
    Post P (evalI (fuel + 1) node) st (OkO P) := by
  intro node st hI hn
  unfold Grol.E.evalI
  refine Post.bind_read (runM_get st) ?_
  refine Post.bind (Q := fun _ s => s.frames = st.frames) (Post.set (hI.update rfl hI.cur rfl hI.cache) (Nat.le_refl _) (Kept.of_frames rfl) rfl) ?_
  intro _ s0 hI0 _ _
  extract_lets jp
  have hjp : Post P (jp ()) s0 (OkO P) := by
    unfold jp
    split
    all_goals simp only [okNode, Bool.and_eq_true] at hn
    · exact ih.evalStatements _ _ _ hI0 hn rfl
    · exact ih.evalIf _ _ _ _ hI0 hn.1.1 hn.1.2 hn.2
    · exact ih.evalFor _ _ _ hI0 hn.1 hn.2
    · exact post_evalIdentifier hI0 _
    · -- prefix
      refine Post.ite (fun _ => post_evalPrefixIncrDecr hI0 _ _) (fun _ => ?_)
      refine Post.bind (ih.eval _ _ hI0 hn) ?_
      intro r s hIs _ hr
      exact Post.ite (fun _ => Post.pure hIs hr) (fun _ => Post.pure hIs (okObj_evalPrefixOp _ hr))
    · exact post_evalPostfix hI0 _ _
    · -- infix
      next op l r =>
      refine Post.ite (fun _ => ?_) (fun _ => ?_)
      · refine Post.bind (ih.eval _ _ hI0 hn.2) ?_
        intro right s hIs _ hr
        exact ih.evalAssignment _ _ _ _ hIs hn.1 hr
      · refine Post.bind (ih.eval _ _ hI0 hn.1) ?_
        intro left s hIs _ hl
        refine Post.ite (fun _ => Post.pure hIs hl) (fun _ => ?_)
        extract_lets jp3 jp2 jp1
        have h3 : ∀ u, Post P (jp3 u) s (OkO P) := by
          intro u
          unfold jp3
          refine Post.bind (ih.eval _ _ hIs hn.2) ?_
          intro right s' hIs' hle' hr
          refine Post.ite (fun _ => Post.pure hIs' hr) (fun _ => ?_)
          have hfin : ∀ s2 : St, Inv P s2 → s2.frames.size = s'.frames.size → Post P (evalInfixOp op left right) s2 (OkO P) := by
            intro s2 hIs2 hsz2
            exact post_same (post_evalInfixOp hIs2 op (okObj_mono (by omega) _ hl) (by rw [hsz2]; exact hr))
          try dsimp only
          split
          · refine Post.bind_read (runM_get s') ?_
            refine noteHazard_bind hIs' _ _ _ ?_
            intro s2 hIs2 hsz2
            exact hfin s2 hIs2 hsz2
          · exact hfin s' hIs' rfl
        have h2 : ∀ u, Post P (jp2 u) s (OkO P) := by
          intro u
          unfold jp2
          refine Post.ite (fun _ => ?_) (fun _ => h3 ())
          split
          · exact Post.ite (fun _ => Post.stop_bind hIs np_unmodelled) (fun _ => h3 ())
          · exact h3 ()
        have h1 : ∀ u, Post P (jp1 u) s (OkO P) := by
          intro u
          unfold jp1
          refine Post.ite (fun _ => ?_) (fun _ => h2 ())
          split
          · exact Post.pure hIs rfl
          · exact h2 ()
        refine Post.ite (fun _ => ?_) (fun _ => h1 ())
        split
        · exact Post.pure hIs rfl
        · exact h1 ()
    · exact Post.pure hI0 rfl
    · exact Post.pure hI0 rfl
    · exact Post.pure hI0 rfl
    · exact Post.pure hI0 rfl
    · exact Post.pure hI0 rfl
    · -- return
      split
      · exact Post.pure hI0 rfl
      · refine Post.bind (ih.evalI _ _ hI0 hn) ?_
        intro v s hIs _ hv
        exact Post.pure hIs (by simpa [OkO, okObj] using hv)
    · exact ih.evalBuiltin _ _ _ hI0 (by simp only [okNode, Bool.and_eq_true]; exact hn)
    · -- function literal
      next name params variadic lambda key body =>
      refine Post.bind_read (runM_curEnv s0) ?_
      extract_lets f
      have hf : okObj P s0.frames.size (Obj.func f) = true := by
        simp only [okObj, okFn, Bool.and_eq_true, decide_eq_true_eq]; exact ⟨hI0.cur, hn.2, hn.1⟩
      split
      · next n =>
        refine Post.bind (post_envSet hI0 hI0.cur n hf) ?_
        intro oerr s hIs hle ho
        exact post_errOr hIs ho (okObj_mono hle _ hf)
      · exact Post.pure hI0 hf
    · -- call
      refine Post.bind (ih.eval _ _ hI0 hn.1) ?_
      intro f s hIs _ hf
      refine Post.ite (fun _ => Post.pure hIs hf) (fun _ => ?_)
      refine Post.bind (ih.evalExpressions _ _ _ hIs hn.2 rfl) ?_
      intro r s' hIs' hle' hr
      split
      · next e => exact Post.pure hIs' (hr.2 e rfl)
      · next argv =>
        split
        · exact ih.applyExtension _ _ _ hIs'
        · exact ih.applyFunction _ _ _ hIs' (okObj_mono hle' _ hf) (hr.1 argv rfl)
    · -- array literal
      refine Post.bind (ih.evalExpressions _ _ _ hI0 hn rfl) ?_
      intro r s' hIs' _ hr
      split
      · next e => exact Post.pure hIs' (hr.2 e rfl)
      · next v =>
        refine Post.bind (post_derefList v hIs' (hr.1 v rfl)) ?_
        rintro vs s'' hIs'' _ ⟨rfl, hvs⟩
        exact Post.pure hIs'' (by simpa [OkO, newArray, okObj] using hvs)
    · -- map literal
      refine Post.bind_read (runM_get s0) ?_
      exact ih.evalMapLiteral _ _ _ _ _ hI0 hn.1 hn.2 (by simp [okPairs])
    · -- index
      extract_lets jp1
      have h1 : ∀ u, Post P (jp1 u) s0 (OkO P) := by
        intro u
        unfold jp1
        refine Post.bind (ih.eval _ _ hI0 hn.1) ?_
        intro left s hIs _ hl
        exact ih.evalIndexExpression _ _ _ _ hIs hn.2 hl
      refine Post.ite (fun _ => ?_) (fun _ => h1 ())
      refine Post.bind_read (runM_get s0) ?_
      exact Post.ite (fun _ => Post.stop_bind hI0 np_unmodelled) (fun _ => h1 ())
    · exact Post.pure hI0 rfl
    · exact Post.pure hI0 okObj_err
    · exact Post.stop hI0 np_unmodelled
  split
  · exact Post.ite (fun _ => Post.pure hI0 okObj_err) (fun _ => hjp)
  · exact hjp

theorem evalStatements_step {fuel : Nat} (ih : Spec P fuel) : ∀ l res st, Inv P st →
    okNodes P l = true → okObj P st.frames.size res = true → Post P (evalStatements (fuel + 1) l res) st (OkO P) := by
  intro l res st hI hn hres
  unfold Grol.E.evalStatements
  split
  · next h => cases h
  · exact Post.pure hI hres
  · next hf =>
    cases hf
    simp only [okNodes, Bool.and_eq_true] at hn
    split
    · exact ih.evalStatements _ _ _ hI hn.2 hres
    · refine Post.bind (ih.evalI _ _ hI hn.1) ?_
      intro r s hIs _ hr
      split
      · exact Post.pure hIs hr
      · exact Post.pure hIs hr
      · exact ih.evalStatements _ _ _ hIs hn.2 hr

theorem evalExpressions_step {fuel : Nat} (ih : Spec P fuel) : ∀ l acc st, Inv P st →
    okNodes P l = true → okList P st.frames.size acc = true → Post P (evalExpressions (fuel + 1) l acc) st (OkEx P) := by
  intro l acc st hI hn hacc
  unfold Grol.E.evalExpressions
  split
  · next h => cases h
  · exact Post.pure hI ⟨fun v h => (by cases h; exact okList_reverse hacc), fun e h => (by cases h)⟩
  · next hf =>
    cases hf
    simp only [okNodes, Bool.and_eq_true] at hn
    refine Post.bind (ih.evalI _ _ hI hn.1) ?_
    intro v s hIs hle hv
    refine Post.ite (fun _ => Post.pure hIs ⟨fun v h => (by cases h), fun e h => (by cases h; exact hv)⟩) (fun _ => ?_)
    refine ih.evalExpressions _ _ _ hIs hn.2 ?_
    simp only [okList, Bool.and_eq_true]
    exact ⟨hv, okList_mono hle _ hacc⟩

theorem evalAssignment_step {fuel : Nat} (ih : Spec P fuel) : ∀ right op left st, Inv P st →
    okNode P left = true → okObj P st.frames.size right = true →
    Post P (evalAssignment (fuel + 1) right op left) st (OkO P) := by
  intro right op left st hI hn hr
  unfold Grol.E.evalAssignment
  refine Post.ite (fun _ => Post.pure hI hr) (fun _ => ?_)
  split
  · split
    · exact post_evalIndexAssignment hI _ rfl hr
    · exact Post.pure hI okObj_err
  · split
    · simp only [okNode, Bool.and_eq_true] at hn
      refine Post.bind (ih.eval _ _ hI hn.2) ?_
      intro index s hIs hle hi
      exact post_evalIndexAssignment hIs _ hi (okObj_mono hle _ hr)
    · exact Post.pure hI okObj_err
  · split
    · refine Post.bind_read (runM_curEnv st) ?_
      exact post_createOrSet hI hI.cur _ hr _
    · exact Post.pure hI okObj_err
  · exact Post.pure hI okObj_err

theorem evalIf_step {fuel : Nat} (ih : Spec P fuel) : ∀ c cons alt st, Inv P st →
    okNode P c = true → okNode P cons = true → okNode P alt = true →
    Post P (evalIf (fuel + 1) c cons alt) st (OkO P) := by
  intro c cons alt st hI hn1 hn2 hn3
  unfold Grol.E.evalIf
  refine Post.bind (ih.evalI _ _ hI hn1) ?_
  intro cv s hIs _ hc
  refine Post.bind (post_valueOf hIs hc) ?_
  rintro condition s' hIs' _ ⟨rfl, _, _⟩
  split
  · exact ih.evalI _ _ hIs' hn2
  · split
    · exact Post.pure hIs' rfl
    · exact ih.evalI _ _ hIs' hn3
  · exact Post.pure hIs' okObj_err

theorem evalFor_step {fuel : Nat} (ih : Spec P fuel) : ∀ c body st, Inv P st →
    okNode P c = true → okNode P body = true → Post P (evalFor (fuel + 1) c body) st (OkO P) := by
  intro c body st hI hn1 hn2
  unfold Grol.E.evalFor
  refine Post.bind (ih.evalForSpecialForms _ _ _ hI hn1 hn2) ?_
  intro r s hIs _ hr
  split
  · next v => exact Post.pure hIs (hr v rfl)
  · exact ih.evalForLoop _ _ _ _ hIs hn1 hn2 rfl

theorem evalForLoop_step {fuel : Nat} (ih : Spec P fuel) : ∀ c body last st, Inv P st →
    okNode P c = true → okNode P body = true →
    okObj P st.frames.size last = true → Post P (evalForLoop (fuel + 1) c body last) st (OkO P) := by
  intro c body last st hI hn1 hn2 hlast
  unfold Grol.E.evalForLoop
  refine Post.bind (ih.evalI _ _ hI hn1) ?_
  intro cv s hIs hle hc
  refine Post.bind (post_valueOf hIs hc) ?_
  rintro condition s' hIs' _ ⟨rfl, hcond, _⟩
  split
  · refine Post.bind (ih.evalI _ _ hIs' hn2) ?_
    intro r s2 hIs2 hle2 hr
    have hlast2 : okObj P s2.frames.size last = true := okObj_mono (by omega) _ hlast
    split
    · exact Post.pure hIs2 hr
    · refine Post.ite (fun _ => Post.pure hIs2 hlast2) (fun _ => ?_)
      exact Post.ite (fun _ => ih.evalForLoop _ _ _ _ hIs2 hn1 hn2 hlast2) (fun _ => Post.pure hIs2 hr)
    · exact ih.evalForLoop _ _ _ _ hIs2 hn1 hn2 hr
  · exact Post.pure hIs' (okObj_mono hle _ hlast)
  · exact Post.pure hIs' (okObj_mono hle _ hlast)
  · exact Post.pure hIs' hcond
  · exact ih.evalForInteger _ _ _ _ _ _ hIs' hn2 rfl
  · exact Post.pure hIs' okObj_err

theorem okOpt_some {v : Obj} {s : St} (h : okObj P s.frames.size v = true) : (OkOpt P) (some v) s :=
  fun _ hv => by cases hv; exact h

theorem post_someOf {x : M Obj} {st : St} (h : Post P x st (OkO P)) :
    Post P (x >>= fun a => pure (some a)) st (OkOpt P) := by
  refine Post.bind h ?_
  intro a s hIs _ ha
  exact Post.pure hIs (okOpt_some ha)

theorem evalForSpecialForms_step {fuel : Nat} (ih : Spec P fuel) : ∀ c body st, Inv P st →
    okNode P c = true → okNode P body = true → Post P (evalForSpecialForms (fuel + 1) c body) st (OkOpt P) := by
  intro c body st hI hn1 hb
  unfold Grol.E.evalForSpecialForms
  split
  · next op l r =>
    simp only [okNode, Bool.and_eq_true] at hn1
    refine Post.ite (fun _ => Post.pure hI okOpt_none) (fun _ => ?_)
    split
    · next name =>
      split
      · next rl rr =>
        have hnr := hn1.2
        simp only [okNode, Bool.and_eq_true] at hnr
        refine Post.bind (ih.evalI _ _ hI hnr.1) ?_
        intro start0 s hIs _ hs0
        refine Post.bind (post_valueOf hIs hs0) ?_
        rintro start s hIs _ ⟨rfl, _, _⟩
        split
        · exact Post.pure hIs (okOpt_some okObj_err)
        · refine Post.bind (ih.evalI _ _ hIs hnr.2) ?_
          intro endV0 s' hIs' _ he0
          refine Post.bind (post_valueOf hIs' he0) ?_
          rintro endV s' hIs' _ ⟨rfl, _, _⟩
          split
          · exact Post.pure hIs' (okOpt_some okObj_err)
          · exact post_someOf (ih.evalForInteger _ _ _ _ _ _ hIs' hb rfl)
      · refine Post.bind (ih.evalI _ _ hI hn1.2) ?_
        intro v0 s hIs _ hv0
        refine Post.bind (post_valueOf hIs hv0) ?_
        rintro v s hIs _ ⟨rfl, hv, _⟩
        split
        · exact post_someOf (ih.evalForInteger _ _ _ _ _ _ hIs hb rfl)
        · exact Post.pure hIs (okOpt_some hv)
        · exact post_someOf (ih.evalForList _ _ _ _ _ hIs hb hv rfl)
        · exact post_someOf (ih.evalForList _ _ _ _ _ hIs hb hv rfl)
        · exact post_someOf (ih.evalForList _ _ _ _ _ hIs hb hv rfl)
        · exact Post.pure hIs okOpt_none
    · exact Post.pure hI (okOpt_some okObj_err)
  · exact Post.pure hI okOpt_none

theorem evalForInteger_step {fuel : Nat} (ih : Spec P fuel) : ∀ body i endV name last st, Inv P st →
    okNode P body = true → okObj P st.frames.size last = true →
    Post P (evalForInteger (fuel + 1) body i endV name last) st (OkO P) := by
  intro body i endV name last st hI hb hlast
  unfold Grol.E.evalForInteger
  refine Post.ite (fun _ => Post.pure hI okObj_err) (fun _ => ?_)
  refine Post.ite (fun _ => Post.pure hI hlast) (fun _ => ?_)
  extract_lets jp
  have hjp : ∀ s, Inv P s → st.frames.size ≤ s.frames.size → Post P (jp ()) s (OkO P) := by
    intro s hIs hle
    unfold jp
    refine Post.bind (ih.evalI _ _ hIs hb) ?_
    intro r s' hIs' hle' hr
    have hlast' : okObj P s'.frames.size last = true := okObj_mono (by omega) _ hlast
    split
    · exact Post.pure hIs' hr
    · refine Post.ite (fun _ => Post.pure hIs' hlast') (fun _ => ?_)
      refine Post.ite (fun _ => ih.evalForInteger _ _ _ _ _ _ hIs' hb hlast') (fun _ => ?_)
      exact Post.ite (fun _ => Post.pure hIs' hr) (fun _ => Post.pure hIs' okObj_err)
    · exact ih.evalForInteger _ _ _ _ _ _ hIs' hb hr
  refine Post.ite (fun _ => ?_) (fun _ => hjp st hI (Nat.le_refl _))
  refine Post.bind_read (runM_curEnv st) ?_
  refine Post.bind (post_envSet hI hI.cur name (val := .int (Int64.ofInt i)) rfl) ?_
  intro oerr s hIs hle hoerr
  exact Post.ite (fun _ => Post.pure hIs hoerr) (fun _ => hjp s hIs hle)

theorem evalForList_step {fuel : Nat} (ih : Spec P fuel) : ∀ body list name last st, Inv P st →
    okNode P body = true → okObj P st.frames.size list = true → okObj P st.frames.size last = true →
    Post P (evalForList (fuel + 1) body list name last) st (OkO P) := by
  intro body list name last st hI hb hlist hlast
  unfold Grol.E.evalForList
  refine Post.ite (fun _ => Post.pure hI hlast) (fun _ => ?_)
  refine Post.bind (post_objFirst hI hlist) ?_
  rintro v s hIs _ ⟨rfl, hv⟩
  refine Post.bind (post_objRest hIs hlist) ?_
  rintro rest s hIs' _ ⟨rfl, hrest⟩
  refine Post.bind_read (runM_curEnv s) ?_
  refine Post.bind (post_envSet hIs' hIs'.cur name hv) ?_
  intro oerr s1 hIs1 hle1 hoerr
  refine Post.ite (fun _ => Post.pure hIs1 hoerr) (fun _ => ?_)
  refine Post.bind (ih.evalI _ _ hIs1 hb) ?_
  intro r s2 hIs2 hle2 hr
  have hlast' : okObj P s2.frames.size last = true := okObj_mono (by omega) _ hlast
  have hrest' : okObj P s2.frames.size rest = true := okObj_mono (by omega) _ hrest
  split
  · exact Post.pure hIs2 hr
  · refine Post.ite (fun _ => Post.pure hIs2 hlast') (fun _ => ?_)
    refine Post.ite (fun _ => ih.evalForList _ _ _ _ _ hIs2 hb hrest' hlast') (fun _ => ?_)
    exact Post.ite (fun _ => Post.pure hIs2 hr) (fun _ => Post.pure hIs2 okObj_err)
  · exact ih.evalForList _ _ _ _ _ hIs2 hb hrest' hr

theorem okNode_headD {ps : List Node} (h : okNodes P ps = true) : okNode P (ps.headD .none) = true := by
  cases ps with
  | nil => rfl
  | cons x xs => simp only [okNodes, Bool.and_eq_true] at h; exact h.1

theorem evalBuiltin_step {fuel : Nat} (ih : Spec P fuel) : ∀ t ps st, Inv P st →
    okNode P (.builtin t ps) = true → Post P (evalBuiltin (fuel + 1) t ps) st (OkO P) := by
  intro t ps st hI hn
  simp only [okNode, Bool.and_eq_true] at hn
  unfold Grol.E.evalBuiltin
  split
  next minV varArg _ =>
  refine Post.ite (fun _ => Post.pure hI okObj_err) (fun _ => ?_)
  extract_lets jp2 jp1
  have h2 : Post P (jp2 ()) st (OkO P) := by
    unfold jp2
    refine Post.bind (ih.evalI _ _ hI (okNode_headD hn.2)) ?_
    intro val0 s hIs _ hval0
    refine Post.bind (post_valueOf hIs hval0) ?_
    rintro val s hIs _ ⟨rfl, hval, _⟩
    refine Post.ite (fun _ => Post.pure hIs hval) (fun _ => ?_)
    split
    · split
      · refine Post.bind_read (runM_curEnv s) ?_
        refine Post.bind (post_triggerNoCache hIs hIs.cur) ?_
        intro _ s2 hIs2 _ _
        exact Post.pure hIs2 (by simp [OkO, okObj, okPairs, errKey, valueKey])
      · refine Post.pure hIs ?_
        simp only [OkO, okObj, okPairs, errKey, valueKey, Bool.and_eq_true, Bool.true_and, Bool.and_true]
        exact hval
    · refine Post.bind (post_valueOf hIs hval) ?_
      rintro v s' hIs' _ ⟨rfl, hv, _⟩
      exact (post_objFirst hIs' hv).mono (fun v s'' _ _ h => by obtain ⟨rfl, h2⟩ := h; exact h2)
    · refine Post.bind (post_valueOf hIs hval) ?_
      rintro v s' hIs' _ ⟨rfl, hv, _⟩
      exact (post_objRest hIs' hv).mono (fun v s'' _ _ h => by obtain ⟨rfl, h2⟩ := h; exact h2)
    · refine Post.bind (post_valueOf hIs hval) ?_
      rintro v s' hIs' _ ⟨rfl, hv, _⟩
      extract_lets l
      exact Post.ite (fun _ => Post.pure hIs' okObj_err) (fun _ => Post.pure hIs' rfl)
    · exact Post.pure hIs okObj_err
  have h1 : Post P (jp1 ()) st (OkO P) := by
    unfold jp1
    refine Post.ite (fun hdel => ?_) (fun _ => ?_)
    · have h1 := hn.1
      rw [eq_of_beq hdel] at h1
      exact ih.evalDelete _ _ hI (okNode_headD hn.2) (by simpa using h1)
    refine Post.ite (fun _ => ih.evalPrint _ _ _ _ _ hI hn.2) (fun _ => ?_)
    exact Post.ite (fun _ => Post.stop_bind hI np_unmodelled) (fun _ => h2)
  exact Post.ite (fun _ => Post.stop_bind hI np_unmodelled) (fun _ => h1)

theorem evalPrint_step {fuel : Nat} (ih : Spec P fuel) : ∀ t ps first buf st, Inv P st →
    okNodes P ps = true → Post P (evalPrint (fuel + 1) t ps first buf) st (OkO P) := by
  intro t ps first buf st hI hn
  unfold Grol.E.evalPrint
  split
  · next h => cases h
  · next n t' _ buf' hf =>
    extract_lets jp
    have hjp : Post P (jp ()) st (OkO P) := by
      unfold jp
      refine Post.bind (post_writeOut hI _) ?_
      intro _ s hIs _ _
      exact Post.pure hIs rfl
    refine Post.ite (fun _ => ?_) (fun _ => hjp)
    split
    · exact Post.pure hI rfl
    · exact Post.stop_bind hI np_unmodelled
  · next fuel' t' p rest first' buf' hf =>
    cases hf
    simp only [okNodes, Bool.and_eq_true] at hn
    extract_lets buf2 jp
    refine Post.bind (ih.evalI _ _ hI hn.1) ?_
    intro r s hIs _ hr
    refine Post.ite (fun _ => Post.pure hIs hr) (fun _ => ?_)
    refine Post.bind (post_valueOf hIs hr) ?_
    rintro r' s' hIs' _ ⟨rfl, _, _⟩
    have hjp : ∀ piece, Post P (jp piece) s' (OkO P) := by
      intro piece
      unfold jp
      exact ih.evalPrint _ _ _ _ _ hIs' hn.2
    split
    · exact hjp _
    · refine Post.bind (Q := fun _ s'' => s'' = s') (Post.liftR hIs' (inspect_npr _) (fun _ _ => rfl)) ?_
      rintro piece s'' _ _ rfl
      exact hjp _

theorem evalDelete_step {fuel : Nat} (ih : Spec P fuel) : ∀ node st, Inv P st → okNode P node = true →
    P.del = true → Post P (evalDelete (fuel + 1) node) st (OkO P) := by
  intro node st hI hn hd
  unfold Grol.E.evalDelete
  refine Post.bind_read (runM_curEnv st) ?_
  refine Post.bind (post_triggerNoCache hI hI.cur) ?_
  rintro _ s hIs _ ⟨_, _⟩
  split
  · refine Post.ite (fun _ => Post.pure hIs okObj_err) (fun _ => ?_)
    extract_lets jp
    have hjp : ∀ s', Inv P s' → Post P (jp ()) s' (OkO P) := by
      intro s' hIs'
      unfold jp
      refine Post.bind_read (runM_curEnv s') ?_
      exact post_envDelete hIs' hd hIs'.cur _
    refine Post.ite (fun _ => ?_) (fun _ => hjp s hIs)
    refine Post.bind (Q := fun _ _ => True)
      (Post.modify (hIs.update rfl hIs.cur rfl (fun c hc => by cases hc)) (Nat.le_refl _) (Kept.of_frames rfl) trivial) ?_
    intro _ s' hIs' _ _
    exact hjp s' hIs'
  · exact Post.ite (fun _ => Post.pure hIs okObj_err) (fun _ => post_deleteMapEntry hIs _ _)
  · simp only [okNode, Bool.and_eq_true] at hn
    refine Post.bind (ih.eval _ _ hIs hn.2) ?_
    intro index s' hIs' _ hi
    exact Post.ite (fun _ => Post.pure hIs' hi) (fun _ => post_deleteMapEntry hIs' _ _)
  · exact Post.pure hIs okObj_err

theorem evalIndexExpression_step {fuel : Nat} (ih : Spec P fuel) : ∀ left tok i st, Inv P st →
    okNode P i = true → okObj P st.frames.size left = true →
    Post P (evalIndexExpression (fuel + 1) left tok i) st (OkO P) := by
  intro left tok i st hI hn hl
  unfold Grol.E.evalIndexExpression
  refine Post.ite (fun _ => Post.pure hI hl) (fun _ => ?_)
  refine Post.ite (fun _ => ?_) (fun _ => ?_)
  · exact Post.ite (fun _ => Post.pure hI okObj_err) (fun _ => post_same (post_indexIdx hI hl))
  · split
    · simp only [okNode, Bool.and_eq_true] at hn
      exact ih.evalIndexRange _ _ _ _ hI hn.1 hn.2 hl
    · refine Post.bind (ih.eval _ _ hI hn) ?_
      intro index s hIs hle hi
      exact Post.ite (fun _ => Post.pure hIs hi) (fun _ => post_same (post_indexIdx hIs (okObj_mono hle _ hl)))

theorem evalIndexRange_step {fuel : Nat} (ih : Spec P fuel) : ∀ left li ri st, Inv P st →
    okNode P li = true → okNode P ri = true → okObj P st.frames.size left = true →
    Post P (evalIndexRange (fuel + 1) left li ri) st (OkO P) := by
  intro left li ri st hI hn1 hn2 hl
  unfold Grol.E.evalIndexRange
  refine Post.bind (ih.eval _ _ hI hn1) ?_
  intro leftIndex s0 hI0 hle0 _
  extract_lets nilRight num jp
  have hjp : ∀ rightIndex s, Inv P s → st.frames.size ≤ s.frames.size → Post P (jp rightIndex) s (OkO P) := by
    intro rightIndex s hIs hle
    have hl' : okObj P s.frames.size left = true := okObj_mono hle _ hl
    unfold jp
    split
    · try extract_lets
      refine Post.ite (fun _ => Post.pure hIs okObj_err) (fun _ => ?_)
      try extract_lets
      split
      · exact Post.pure hIs rfl
      · refine Post.pure hIs ?_
        simp only [OkO, newArray, okObj] at hl' ⊢
        exact okList_take (okList_drop hl')
      · refine Post.bind_read (runM_get s) ?_
        refine Post.pure hIs ?_
        simp only [OkO, okObj] at hl' ⊢
        exact okPairs_take (okPairs_drop hl')
      · exact Post.pure hIs rfl
      · exact Post.pure hIs okObj_err
    · exact Post.pure hIs okObj_err
  refine Post.ite (fun _ => ?_) (fun _ => ?_)
  · exact hjp _ s0 hI0 hle0
  · refine Post.bind (ih.eval _ _ hI0 hn2) ?_
    intro rightIndex s1 hI1 hle1 _
    exact hjp _ s1 hI1 (by omega)

theorem evalMapLiteral_step {fuel : Nat} (ih : Spec P fuel) : ∀ ks vs big acc st, Inv P st →
    okNodes P ks = true → okNodes P vs = true →
    okPairs P st.frames.size acc = true → Post P (evalMapLiteral (fuel + 1) ks vs big acc) st (OkO P) := by
  intro ks vs big acc st hI hn1 hn2 hacc
  unfold Grol.E.evalMapLiteral
  split
  · next h => cases h
  · next hf =>
    cases hf
    simp only [okNodes, Bool.and_eq_true] at hn1 hn2
    refine Post.bind (ih.eval _ _ hI hn1.1) ?_
    intro key0 s hIs hle hkey0
    refine Post.bind (post_valueOf hIs hkey0) ?_
    rintro key s hIs _ ⟨rfl, hkey, _⟩
    refine Post.ite (fun _ => Post.pure hIs hkey) (fun _ => ?_)
    refine Post.bind (post_equalsM hIs hkey hkey) ?_
    rintro eq s' hIs' _ rfl
    refine Post.ite (fun _ => Post.pure hIs' okObj_err) (fun _ => ?_)
    refine Post.bind (ih.eval _ _ hIs' hn2.1) ?_
    intro value0 s2 hIs2 hle2 hval0
    refine Post.bind (post_valueOf hIs2 hval0) ?_
    rintro value s2 hIs2 _ ⟨rfl, hval, _⟩
    refine Post.ite (fun _ => Post.pure hIs2 hval) (fun _ => ?_)
    refine Post.bind_read (runM_get s2) ?_
    have hacc2 : okPairs P s2.frames.size _ = true :=
      okPairs_mono (by omega) _ (by assumption : okPairs P st.frames.size _ = true)
    have hkey2 : okObj P s2.frames.size key = true := okObj_mono hle2 _ hkey
    refine Post.bind (Q := fun res s'' => s'' = s2 ∧ okPairs P s2.frames.size res.2 = true)
      (Post.liftR hIs2 (mapSet_npr _ _ _ _ _) (fun res hres => ⟨rfl, mapSet_ok hacc2 hkey2 hval hres⟩)) ?_
    rintro ⟨big2, acc2⟩ s3 hIs3 _ ⟨rfl, hk⟩
    exact ih.evalMapLiteral _ _ _ _ _ hIs3 hn1.2 hn2.2 hk
  · exact Post.pure hI (by simpa [OkO, okObj] using hacc)

theorem applyExtension_step {fuel : Nat} : ∀ name args st, Inv P st →
    Post P (applyExtension (fuel + 1) name args) st (OkO P) := by
  intro name args st hI
  unfold Grol.E.applyExtension
  exact Post.stop hI np_unmodelled

theorem applyFunction_step {fuel : Nat} (ih : Spec P fuel) : ∀ fn args st, Inv P st →
    okObj P st.frames.size fn = true → okList P st.frames.size args = true →
    Post P (applyFunction (fuel + 1) fn args) st (OkO P) := by
  intro fn args st hI hfn hargs
  unfold Grol.E.applyFunction
  split
  · next f =>
    simp only [okObj, Bool.and_eq_true, decide_eq_true_eq] at hfn
    have hf : f.env < st.frames.size := hfn.1
    have hfo : okFn P f = true := hfn.2
    refine Post.bind_read (runM_curEnv st) ?_
    obtain ⟨cf0, hcf0⟩ := frame_exists hI.cur
    refine Post.bind_read (runM_getFrame hcf0) ?_
    extract_lets skip
    have hcg : Post P (if skip = true then pure none else cacheGet f.key args) st (fun r s =>
        s = st ∧ ∀ (v : Obj) (o : Grol.Wire.Bytes), r = some (v, o) → okObj P st.frames.size v = true) := by
      split
      · exact Post.pure hI ⟨rfl, fun _ _ h => by cases h⟩
      · exact post_cacheGet hI f.key args
    refine Post.bind hcg ?_
    rintro r s hIs _ ⟨rfl, hr⟩
    split
    · next v output =>
      have hv := hr v output rfl
      extract_lets jp
      have hjp : ∀ s', Inv P s' → s.frames.size ≤ s'.frames.size → Post P (jp ()) s' (OkO P) := by
        intro s' hIs' hle'
        unfold jp
        exact Post.pure hIs' (okObj_mono hle' _ hv)
      refine Post.ite (fun _ => ?_) (fun _ => hjp s hIs (Nat.le_refl _))
      refine Post.bind (post_writeOut hIs output) ?_
      intro _ s' hIs' hle' _
      exact hjp s' hIs' hle'
    · refine Post.bind (post_extendFunctionEnv hIs hf hfo hargs) ?_
      rintro r1 s1 hI1 hle1 ⟨hok, herr⟩
      split
      · next e => exact Post.pure hI1 (herr e rfl)
      · next nenv =>
        have hnenv := hok nenv rfl
        refine Post.bind_read (runM_curEnv s1) ?_
        refine Post.bind (Q := fun _ s2 => s2.frames.size = s1.frames.size)
          (Post.modify (hI1.update rfl hnenv rfl hI1.cache) (Nat.le_refl _) (Kept.of_frames rfl) rfl) ?_
        intro _ s2 hI2 _ hsz2
        extract_lets before
        refine Post.bind (ih.eval _ _ hI2 (by simp only [okFn, Bool.and_eq_true] at hfo; exact hfo.1)) ?_
        intro res s3' hI3' hle3 hres'
        refine Post.bind (post_getFrame (Q := fun _ s => s.frames.size = s3'.frames.size) hI3' (by omega) (fun _ _ => rfl)) ?_
        intro fr s3 hI3 _ hsz3
        have hres : okObj P s3.frames.size res = true := by rw [hsz3]; exact hres'
        extract_lets after cantCache
        refine Post.bind_read (runM_get s3) ?_
        split
        next output outs _ =>
        have hcur : s1.cur < s3.frames.size := by have := hI1.cur; omega
        refine Post.bind (Q := fun _ s4 => s4.frames.size = s3.frames.size)
          (Post.set (hI3.update rfl hcur rfl hI3.cache) (Nat.le_refl _) (Kept.of_frames rfl) rfl) ?_
        intro _ s4 hI4 _ hsz4
        exact post_finishCall hI4 f args (by omega) _ _ _ (by rw [hsz4]; exact hres) output
  · exact Post.pure hI okObj_err

theorem spec_succ {fuel : Nat} (ih : Spec P fuel) : Spec P (fuel + 1) where
  eval := eval_step ih
  evalI := evalI_step ih
  evalStatements := evalStatements_step ih
  evalExpressions := evalExpressions_step ih
  evalAssignment := evalAssignment_step ih
  evalIf := evalIf_step ih
  evalFor := evalFor_step ih
  evalForLoop := evalForLoop_step ih
  evalForSpecialForms := evalForSpecialForms_step ih
  evalForInteger := evalForInteger_step ih
  evalForList := evalForList_step ih
  evalBuiltin := evalBuiltin_step ih
  evalPrint := evalPrint_step ih
  evalDelete := evalDelete_step ih
  evalIndexExpression := evalIndexExpression_step ih
  evalIndexRange := evalIndexRange_step ih
  evalMapLiteral := evalMapLiteral_step ih
  applyExtension := applyExtension_step
  applyFunction := applyFunction_step ih

theorem spec_all : ∀ fuel, Spec P fuel
  | 0 => spec_zero
  | fuel + 1 => spec_succ (spec_all fuel)

theorem inv_init (cfg : Cfg) : Inv P (initState cfg) := by
  unfold initState
  constructor
  · simp
  · simp
  · intro i f hf
    simp only at hf
    have hi : i = 0 := by
      have := lt_of_frame hf
      simp at this
      exact this
    subst hi
    simp at hf
    subst hf
    constructor
    · intro o ho; cases ho
    · intro fn hfn; cases hfn
    · intro k v hm
      simp only [List.mem_cons, Prod.mk.injEq, List.not_mem_nil, or_false] at hm
      rcases hm with h | h | h | h | h | h <;>
        (obtain ⟨_, rfl⟩ := h; exact ⟨by simp [okObj], fun _ _ h => by cases h⟩)
  · intro c hc
    cases hc

/-- one REPL input (evaluation + recover/Reset) -/
theorem inv_runInput (st : St) (prog : Node) (hI : Inv P st) (hp : okNode P prog = true) :
    Inv P (runInput st prog).1 ∧ Kept P st (runInput st prog).1 := by
  unfold runInput
  split
  · exact ⟨hI, Kept.refl _⟩
  · have hI0 : Inv P { st with outs := [[]], steps := 0 } := hI.update rfl hI.cur rfl hI.cache
    have hk0 : Kept P st { st with outs := [[]], steps := 0 } := Kept.of_frames rfl
    have hq := (spec_all defaultFuel).eval prog _ hI0 hp
    unfold Post runM at hq
    dsimp only
    generalize ((eval defaultFuel prog).run { st with outs := [[]], steps := 0 } |>.run) = p at hq
    obtain ⟨r, st1⟩ := p
    dsimp only at hq ⊢
    split
    · exact ⟨hq.1, hk0.trans hq.2.1.2⟩
    · exact hq.elim
    · exact ⟨(hq.1).update rfl hq.1.root rfl hq.1.cache, hk0.trans (hq.2.2.trans (Kept.of_frames rfl))⟩
    · exact ⟨hq.1, hk0.trans hq.2.2⟩
    · exact ⟨hq.1, hk0.trans hq.2.2⟩

theorem inv_session : ∀ (progs : List Node) (st : St), Inv P st → (∀ p ∈ progs, okNode P p = true) →
    Inv P (progs.foldl (fun s p => (runInput s p).1) st) ∧
    Kept P st (progs.foldl (fun s p => (runInput s p).1) st)
  | [], st, hI, _ => ⟨hI, Kept.refl _⟩
  | p :: ps, st, hI, hp => by
    obtain ⟨h1, h2⟩ := inv_runInput st p hI (hp p List.mem_cons_self)
    obtain ⟨h3, h4⟩ := inv_session ps _ h1 (fun q hq => hp q (List.mem_cons_of_mem _ hq))
    exact ⟨h3, h2.trans h4⟩

end Grol.G
