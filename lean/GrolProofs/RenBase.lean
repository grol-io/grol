import GrolProofs.EvalInv
/-
C10 (two-run simulation): renaming of frame indices, the relation between the state of a
session WITH a failed input (`s`: it has extra, unreachable frames) and the state WITHOUT it (`t`),
and the relational calculus `SimAt`.

Both runs allocate frames in lockstep, so the renaming is a fixed shift: indices below `n0` (the
frames that existed when the runs diverged) are kept, indices from `n0` on are moved up by `d` (the
number of frames the failed input left behind).
-/
namespace Grol.R
open Grol.E

/-- the shift: `n0` = number of frames common to both runs, `d` = number of garbage frames of run S -/
structure Sh where
  n0 : Nat
  d : Nat

def sh (σ : Sh) (i : Nat) : Nat := if i < σ.n0 then i else i + σ.d

theorem sh_lt (σ : Sh) {i j : Nat} (h : i < j) : sh σ i < sh σ j := by
  unfold sh; split <;> split <;> omega

theorem sh_inj (σ : Sh) {i j : Nat} (h : sh σ i = sh σ j) : i = j := by
  unfold sh at h; split at h <;> split at h <;> omega

theorem sh_ge (σ : Sh) (i : Nat) : i ≤ sh σ i := by unfold sh; split <;> omega

theorem sh_of_ge (σ : Sh) {i : Nat} (h : σ.n0 ≤ i) : sh σ i = i + σ.d := by
  unfold sh; split <;> omega

theorem sh_of_lt (σ : Sh) {i : Nat} (h : i < σ.n0) : sh σ i = i := by
  unfold sh; split <;> omega

def renFn (σ : Sh) (f : FuncVal) : FuncVal := { f with env := sh σ f.env }

mutual
/-- a value of run T as run S holds it -/
def ren (σ : Sh) : Obj → Obj
  | .array els => .array (renL σ els)
  | .map b kvs => .map b (renP σ kvs)
  | .func f => .func (renFn σ f)
  | .ret v k => .ret (ren σ v) k
  | .ref e n => .ref (sh σ e) n
  | .null => .null
  | .bool b => .bool b
  | .int v => .int v
  | .float b => .float b
  | .str s => .str s
  | .ext n => .ext n
  | .error m => .error m
  | .quote n => .quote n
def renL (σ : Sh) : List Obj → List Obj
  | [] => []
  | x :: xs => ren σ x :: renL σ xs
def renP (σ : Sh) : List (Obj × Obj) → List (Obj × Obj)
  | [] => []
  | (k, v) :: xs => (ren σ k, ren σ v) :: renP σ xs
end

theorem renL_eq (σ : Sh) (l : List Obj) : renL σ l = l.map (ren σ) := by
  induction l with
  | nil => rfl
  | cons x xs ih => simp [renL, ih]

theorem renP_eq (σ : Sh) (l : List (Obj × Obj)) : renP σ l = l.map (fun kv => (ren σ kv.1, ren σ kv.2)) := by
  induction l with
  | nil => rfl
  | cons x xs ih => obtain ⟨k, v⟩ := x; simp [renP, ih]

@[simp] theorem renL_length (σ : Sh) (l : List Obj) : (renL σ l).length = l.length := by
  rw [renL_eq]; simp

@[simp] theorem renP_length (σ : Sh) (l : List (Obj × Obj)) : (renP σ l).length = l.length := by
  rw [renP_eq]; simp

@[simp] theorem ren_typeNum (σ : Sh) (o : Obj) : (ren σ o).typeNum = o.typeNum := by
  cases o <;> rfl

@[simp] theorem ren_isError (σ : Sh) (o : Obj) : (ren σ o).isError = o.isError := by
  cases o <;> rfl

/-! ### stores -/

def renStore (σ : Sh) (s : List (String × Obj)) : List (String × Obj) := s.map (fun kv => (kv.1, ren σ kv.2))

theorem lookupStore_ren (σ : Sh) (s : List (String × Obj)) (n : String) :
    lookupStore (renStore σ s) n = (lookupStore s n).map (ren σ) := by
  induction s with
  | nil => rfl
  | cons kv rest ih =>
    obtain ⟨k, v⟩ := kv
    simp only [renStore, List.map_cons, lookupStore]
    split
    · rfl
    · exact ih

theorem setStore_ren (σ : Sh) (s : List (String × Obj)) (n : String) (v : Obj) :
    setStore (renStore σ s) n (ren σ v) = renStore σ (setStore s n v) := by
  induction s with
  | nil => rfl
  | cons kv rest ih =>
    obtain ⟨k, w⟩ := kv
    simp only [renStore, List.map_cons, setStore]
    split
    · rfl
    · simp only [List.map_cons]; congr 1

theorem delStore_ren (σ : Sh) (s : List (String × Obj)) (n : String) :
    delStore (renStore σ s) n = renStore σ (delStore s n) := by
  unfold delStore renStore
  rw [List.filter_map]
  rfl

/-! ### frames and states -/

/-- frame `i` of run T (`ft`) as run S holds it (`fs`): the miss counter, the can't-cache flag and the
set counter of the frames that existed when the runs diverged (`i < n0`) may differ — the evaluator
reads `getMiss` only on the callee's own fresh frame, and never reads `numSet` -/
structure FrameR (σ : Sh) (i : Nat) (fs ft : Frame) : Prop where
  store : fs.store = renStore σ ft.store
  outer : fs.outer = ft.outer.map (sh σ)
  depth : fs.depth = ft.depth
  cacheKey : fs.cacheKey = ft.cacheKey
  function : fs.function = ft.function.map (renFn σ)
  counters : σ.n0 ≤ i → fs.getMiss = ft.getMiss ∧ fs.cantCache = ft.cantCache ∧ fs.numSet = ft.numSet
  localFunc : fs.localFunc = ft.localFunc

/-- the "same closure" test of `NewFunctionEnvironment` (same text and same defining environment, as in grol commit 0558004) is
invariant under the renaming: the shift of frame indices is injective -/
theorem sameFunction_ren (σ : Sh) {fs ft : Frame} (hk : fs.cacheKey = ft.cacheKey)
    (hf : fs.function = ft.function.map (renFn σ)) (f : FuncVal) :
    sameFunction fs (renFn σ f) = sameFunction ft f := by
  unfold sameFunction
  rw [hk, hf]
  have hkey : (renFn σ f).key = f.key := rfl
  have henv : (renFn σ f).env = sh σ f.env := rfl
  rw [hkey, henv]
  cases ft.function with
  | none => rfl
  | some g =>
    have hg : (renFn σ g).env = sh σ g.env := rfl
    simp only [Option.map, hg]
    have hb : (sh σ g.env == sh σ f.env) = (g.env == f.env) := by
      by_cases h : g.env = f.env
      · rw [h]; simp
      · have h' : sh σ g.env ≠ sh σ f.env := fun e => h (sh_inj σ e)
        rw [beq_eq_false_iff_ne.mpr h, beq_eq_false_iff_ne.mpr h']
    rw [hb]

/-- cache entries: same key and output, renamed result, arguments equal as cache keys -/
structure EntryR (σ : Sh) (cs ct : CacheEntry) : Prop where
  key : cs.key = ct.key
  output : cs.output = ct.output
  result : cs.result = ren σ ct.result
  args : ∀ x, keyEqList cs.args x = keyEqList ct.args x

inductive CacheR (σ : Sh) : List CacheEntry → List CacheEntry → Prop
  | nil : CacheR σ [] []
  | cons {cs ct ls lt} : EntryR σ cs ct → CacheR σ ls lt → CacheR σ (cs :: ls) (ct :: lt)

/-- in run T references and parents point to strictly smaller frame indices (what makes the
`frames.size`-based fuels of `valueOf`, `makeRef` and `envDelete` sufficient in both runs) -/
def RefDec (t : St) : Prop :=
  ∀ i f, t.frames[i]? = some f →
    (∀ o, f.outer = some o → o < i) ∧ (∀ k e n, (k, Obj.ref e n) ∈ f.store → e < i)

/-- run S's state `s` against run T's state `t` (the instrumentation log `hazards` is ignored: the
evaluator never reads it) -/
structure StR (σ : Sh) (s t : St) : Prop where
  cfg : s.cfg = t.cfg
  extNames : s.extNames = t.extNames
  depth : s.depth = t.depth
  steps : s.steps = t.steps
  outs : s.outs = t.outs
  cache : CacheR σ s.cache t.cache
  cur : s.cur = sh σ t.cur
  root : s.root = sh σ t.root
  size : s.frames.size = t.frames.size + σ.d
  n0 : σ.n0 ≤ t.frames.size
  /-- the root frame is common to both runs -/
  pos : 0 < σ.n0
  frames : ∀ i ft, t.frames[i]? = some ft → ∃ fs, s.frames[sh σ i]? = some fs ∧ FrameR σ i fs ft
  dec : RefDec t

/-! ### the relational calculus -/

/-- running `x` from `s` and `y` from `t` ends the same way: both normally, with results related by
`Q` and related states, or both with the same stop and related states -/
def SimAt (σ : Sh) (x : M α) (y : M β) (s t : St) (Q : α → β → Prop) : Prop :=
  match runM x s, runM y t with
  | (.ok a, s'), (.ok b, t') => StR σ s' t' ∧ Q a b
  | (.error e, s'), (.error e', t') => e = e' ∧ StR σ s' t'
  | _, _ => False

theorem SimAt.pure {σ : Sh} {a : α} {b : β} {s t : St} {Q : α → β → Prop} (hR : StR σ s t) (hq : Q a b) :
    SimAt σ (pure a : M α) (pure b : M β) s t Q := by
  unfold SimAt; rw [runM_pure, runM_pure]; exact ⟨hR, hq⟩

theorem SimAt.stop {σ : Sh} {e : Stop} {s t : St} {Q : α → β → Prop} (hR : StR σ s t) :
    SimAt σ (Grol.E.stop e : M α) (Grol.E.stop e : M β) s t Q := by
  unfold SimAt; rw [runM_stop, runM_stop]; exact ⟨rfl, hR⟩

theorem SimAt.bind {σ : Sh} {x : M α} {y : M β} {f : α → M γ} {g : β → M δ} {s t : St}
    {Q : α → β → Prop} {Q' : γ → δ → Prop}
    (hx : SimAt σ x y s t Q)
    (hf : ∀ a b s' t', StR σ s' t' → Q a b → SimAt σ (f a) (g b) s' t' Q') :
    SimAt σ (x >>= f) (y >>= g) s t Q' := by
  unfold SimAt at hx ⊢
  rw [runM_bind, runM_bind]
  generalize runM x s = rs at hx
  generalize runM y t = rt at hx
  obtain ⟨ra, s'⟩ := rs
  obtain ⟨rb, t'⟩ := rt
  cases ra with
  | ok a =>
    cases rb with
    | ok b =>
      dsimp only at hx ⊢
      have := hf a b s' t' hx.1 hx.2
      unfold SimAt at this
      exact this
    | error e' => exact hx.elim
  | error e =>
    cases rb with
    | ok b => exact hx.elim
    | error e' => exact hx

theorem SimAt.stop_bind {σ : Sh} {e : Stop} {f : α → M γ} {g : β → M δ} {s t : St} {Q' : γ → δ → Prop}
    (hR : StR σ s t) : SimAt σ (Grol.E.stop e >>= f) (Grol.E.stop e >>= g) s t Q' :=
  SimAt.bind (Q := fun _ _ => False) (SimAt.stop hR) (fun _ _ _ _ _ h => h.elim)

theorem SimAt.mono {σ : Sh} {x : M α} {y : M β} {s t : St} {Q Q' : α → β → Prop}
    (hx : SimAt σ x y s t Q) (h : ∀ a b, Q a b → Q' a b) : SimAt σ x y s t Q' := by
  unfold SimAt at hx ⊢
  generalize runM x s = rs at hx
  generalize runM y t = rt at hx
  obtain ⟨ra, s'⟩ := rs
  obtain ⟨rb, t'⟩ := rt
  cases ra <;> cases rb <;> first | exact hx | exact ⟨hx.1, h _ _ hx.2⟩

/-- both sides first read their state -/
theorem SimAt.bind_read {σ : Sh} {x : M α} {y : M β} {f : α → M γ} {g : β → M δ} {s t : St}
    {Q' : γ → δ → Prop} {a : α} {b : β}
    (hx : runM x s = (.ok a, s)) (hy : runM y t = (.ok b, t)) (h : SimAt σ (f a) (g b) s t Q') :
    SimAt σ (x >>= f) (y >>= g) s t Q' := by
  unfold SimAt at h ⊢
  rw [runM_bind, runM_bind, hx, hy]
  exact h

theorem SimAt.ite {σ : Sh} {c : Prop} [Decidable c] {a b : M α} {a' b' : M β} {s t : St} {Q : α → β → Prop}
    (ha : c → SimAt σ a a' s t Q) (hb : ¬ c → SimAt σ b b' s t Q) :
    SimAt σ (if c then a else b) (if c then a' else b') s t Q := by
  split
  · exact ha ‹_›
  · exact hb ‹_›

/-- two conditions known to be equivalent -/
theorem SimAt.ite' {σ : Sh} {c c' : Prop} [Decidable c] [Decidable c'] {a b : M α} {a' b' : M β} {s t : St}
    {Q : α → β → Prop} (hc : c ↔ c')
    (ha : c' → SimAt σ a a' s t Q) (hb : ¬ c' → SimAt σ b b' s t Q) :
    SimAt σ (if c then a else b) (if c' then a' else b') s t Q := by
  by_cases h : c'
  · rw [if_pos (hc.2 h), if_pos h]; exact ha h
  · rw [if_neg (fun hh => h (hc.1 hh)), if_neg h]; exact hb h

/-- pure `R` computations with related results -/
def RelR (Q : α → β → Prop) (r : R α) (r' : R β) : Prop :=
  match r, r' with
  | .ok a, .ok b => Q a b
  | .error e, .error e' => e = e'
  | _, _ => False

theorem SimAt.liftR {σ : Sh} {r : R α} {r' : R β} {s t : St} {Q : α → β → Prop} (hR : StR σ s t)
    (h : RelR Q r r') : SimAt σ (Grol.E.liftR r) (Grol.E.liftR r') s t Q := by
  unfold Grol.E.liftR
  cases r with
  | ok a =>
    cases r' with
    | ok b => exact SimAt.pure hR h
    | error e' => exact h.elim
  | error e =>
    cases r' with
    | ok b => exact h.elim
    | error e' =>
      have : e = e' := h
      subst this
      unfold SimAt
      exact ⟨rfl, hR⟩

theorem RelR.of_eq {Q : α → β → Prop} {r : R α} {r' : R β} {f : β → α} (h : r = r'.map f)
    (hq : ∀ b, Q (f b) b) : RelR Q r r' := by
  subst h
  cases r' with
  | ok b => exact hq b
  | error e => rfl

end Grol.R
