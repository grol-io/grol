import GrolProofs.EvalSafeVal
/-
Stores and frames (lean/Grol/Eval/Env.lean): what the store operations keep, and the runs of the
operations that only read.
-/
namespace Grol.E

theorem runM_rootBindsFunc (name : String) (st : St) :
    runM (rootBindsFunc name) st = (.ok (rootFnOf st name), st) := rfl

theorem mem_of_lookupStore {store : List (String × Obj)} {name : String} {v : Obj}
    (h : lookupStore store name = some v) : (name, v) ∈ store := by
  induction store with
  | nil => simp [lookupStore] at h
  | cons kv rest ih =>
    obtain ⟨k, w⟩ := kv
    simp only [lookupStore] at h
    split at h
    · next hk => cases h; cases eq_of_beq hk; exact List.mem_cons_self
    · exact List.mem_cons_of_mem _ (ih h)

theorem lookupStore_mem {store : List (String × Obj)} {name : String} {v : Obj}
    (h : lookupStore store name = some v) : ∃ k, (k, v) ∈ store := ⟨name, mem_of_lookupStore h⟩

theorem mem_setStore_new {store : List (String × Obj)} {name : String} {v : Obj} {k : String} {w : Obj}
    (h : (k, w) ∈ setStore store name v) : (k, w) ∈ store ∨ (w = v ∧ k = name) := by
  induction store with
  | nil => simp [setStore] at h; exact Or.inr ⟨h.2, h.1⟩
  | cons kv rest ih =>
    obtain ⟨k0, w0⟩ := kv
    simp only [setStore] at h
    split at h
    · next hk =>
      rcases List.mem_cons.1 h with h | h
      · cases h; exact Or.inr ⟨rfl, eq_of_beq hk⟩
      · exact Or.inl (List.mem_cons_of_mem _ h)
    · rcases List.mem_cons.1 h with h | h
      · cases h; exact Or.inl List.mem_cons_self
      · exact (ih h).imp_left (List.mem_cons_of_mem _)

theorem mem_setStore {store : List (String × Obj)} {name : String} {v : Obj} {k : String} {w : Obj}
    (h : (k, w) ∈ setStore store name v) : (k, w) ∈ store ∨ w = v :=
  (mem_setStore_new h).imp_right And.left

theorem mem_delStore {store : List (String × Obj)} {name : String} {k : String} {w : Obj}
    (h : (k, w) ∈ delStore store name) : (k, w) ∈ store := by
  unfold delStore at h
  exact (List.mem_filter.1 h).1

/-- a value that is not a reference satisfies the reference clause of `StoreOk` trivially -/
def notRef : Obj → Bool
  | .ref .. => false
  | _ => true

theorem notRef_clause {v : Obj} (h : notRef v = true) {P : Nat → String → Prop} :
    ∀ e nm, v = Obj.ref e nm → P e nm := by
  intro e nm he; subst he; simp [notRef] at h

theorem frame_exists {st : St} {e : Nat} (h : e < st.frames.size) : ∃ f, st.frames[e]? = some f :=
  ⟨st.frames[e], Array.getElem?_eq_getElem h⟩

theorem lt_of_frame {frames : Array Frame} {e : Nat} {f : Frame} (h : frames[e]? = some f) : e < frames.size := by
  rcases Nat.lt_or_ge e frames.size with h1 | h1
  · exact h1
  · rw [Array.getElem?_eq_none h1] at h; cases h

theorem runM_getFrame {st : St} {e : Nat} {f : Frame} (h : st.frames[e]? = some f) :
    runM (getFrame e) st = (.ok f, st) := by
  rw [show runM (getFrame e) st = run (getFrame e) st from rfl, run_getFrame, h]

theorem refAlive_run {st : St} {env : Nat} {f : Frame} (he : st.frames[env]? = some f) (name : String) :
    runM (refAlive env name) st = (.ok (lookupStore f.store name).isSome, st) := by
  unfold refAlive
  rw [runM_bind, runM_getFrame he]
  rfl

abbrev OkO : Obj → St → Prop := fun v s => okObj s.frames.size v = true
abbrev OkOpt : Option Obj → St → Prop := fun r s => ∀ v, r = some v → okObj s.frames.size v = true

end Grol.E
