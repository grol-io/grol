import GrolProofs.ParseWP
/-
C08, termination clause: the parser model never runs out of fuel when the fuel is at least linear in the
number of tokens.  Measure: `rem = toks.length + 2 − idx` (tokens not yet pulled; 0 when `cur` and `peek`
are both the repeated end marker).  A function of rank `(z, k)` called with at most `r` tokens left needs fuel
`nd z k r = if r = 0 then z + 1 else 7·r + k + 1` (7 because the ranks are at most 6):
  * every loop iteration and every call after a `nextToken` has one token less (when `r ≥ 1`): `nd_next`;
  * calls made without consuming a token go down in the rank `k` (they form a DAG): `nd_same`;
  * at `r = 0` the only live calls go down in the rank `z` (the end marker has no prefix function, is no
    separator and no opener, so the cycle parseExpression → prefixDispatch → parsePrefixExpression is dead).
That the stream invariant holds again and no more than `r` tokens are left after each call (`Bd`) is an invariant
of the three state writers, so it comes from `ParserClosed.ofInvariant`; the walk over the function bodies proves
only that the fuel suffices (`Halts`).
-/
namespace Grol.Parser
open Grol.Generated

def Halts (m : PM α) (st : PState) : Prop := m st ≠ .outOfFuel

def tm (m : PM α) (Q : α → PState → Prop) (st : PState) : Prop := wp m Q st ∧ Halts m st

theorem Halts.bind {m : PM α} {f : α → PM β} {P : α → PState → Prop} {st : PState} (hw : wp m P st) (hm : Halts m st)
    (hf : ∀ a st', P a st' → Halts (f a) st') : Halts (m >>= f) st := by
  show PM.bind m f st ≠ _
  unfold Halts wp PM.bind at *
  revert hw hm
  cases m st with
  | ok r => exact fun hw _ => hf r.1 r.2 hw
  | goPanic p => exact fun _ _ => nofun
  | outOfFuel => exact fun _ hm => absurd rfl hm

theorem tm.call {m : PM α} {f : α → PM β} {P : α → PState → Prop} {st : PState} (h : tm m P st)
    (hf : ∀ a st', P a st' → Halts (f a) st') : Halts (m >>= f) st :=
  Halts.bind h.1 h.2 hf

theorem tm.and {m : PM α} {P Q : α → PState → Prop} {st : PState} (h : tm m P st) (hq : wp m Q st) :
    tm m (fun a st' => P a st' ∧ Q a st') st :=
  ⟨wp.and h.1 hq, h.2⟩

variable {s : TokStream}

theorem Halts.pure (a : α) (st : PState) : Halts (Pure.pure a : PM α) st := nofun
theorem Halts.getSt {k : PState → PM β} {st : PState} (h : Halts (k st) st) : Halts (getSt >>= k) st := h
theorem Halts.next {k : Unit → PM β} {st : PState} (h : Halts (k ()) (advance s st)) : Halts (nextToken s >>= k) st := h
theorem Halts.ite {c : Prop} [Decidable c] {a b : PM α} {st : PState} (ha : c → Halts a st) (hb : ¬c → Halts b st) :
    Halts (if c then a else b) st := by
  split
  · exact ha ‹_›
  · exact hb ‹_›

theorem Halts.parseComment (st : PState) : Halts parseComment st := by
  unfold Parser.parseComment
  refine Halts.getSt ?_
  dsimp only
  split
  · split
    · nofun
    · nofun
  · split
    · nofun
    · nofun

/-- what consumes no fuel cannot run out of it -/
theorem haltsClosed (s : TokStream) : CmdClosed s Halts where
  pure := Halts.pure
  bind hm hf := Halts.bind (P := fun _ _ => True) (by unfold wp; split <;> trivial) hm fun a st' _ => hf a st'
  getSt_bind := Halts.getSt
  nextToken _ := nofun
  setCont _ := nofun
  pushErr _ _ := nofun
  errorLine st := by unfold Halts errorLine; split <;> nofun
  parsePostfix _ := nofun
  parseComment st _ := Halts.parseComment st

/-- the desugared `if !(← expectPeek s t) then pure x else rest` -/
theorem Halts.expect {t : TokType} {x : α} {rest : PM α} {st : PState} (h : st.peek.type = t → Halts rest (advance s st)) :
    Halts (expectPeek s t >>= fun b => if (!b) = true then Pure.pure x else rest) st := by
  have hp (st) : Halts (peekError s t) st := (haltsClosed s).bind ((haltsClosed s).errorLine _) fun _ _ => by split <;> nofun
  refine Halts.bind (expectPeek_spec t st) ((haltsClosed s).expectPeek t hp st) fun b st' hb => ?_
  rcases hb with ⟨rfl, hp, rfl⟩ | ⟨rfl, _, _⟩
  · exact h hp
  · exact Halts.pure _ _

def rem (s : TokStream) (st : PState) : Nat := s.toks.length + 2 - st.idx

@[simp] theorem rem_advance (st : PState) : rem s (advance s st) = rem s st - 1 := by
  unfold rem advance; simp only; omega
@[simp] theorem rem_setCont (st : PState) : rem s { st with cont := true } = rem s st := rfl
@[simp] theorem rem_pushErr (st : PState) (e) : rem s { st with errors := e :: st.errors } = rem s st := rfl

theorem end_cur {st : PState} (hi : Inv s st) (h : rem s st = 0) : st.cur = s.eof := by
  rw [hi.cur]; apply get_of_le; unfold rem at h; have := hi.idx; omega
theorem end_peek {st : PState} (hi : Inv s st) (h : rem s st ≤ 1) : st.peek = s.eof := by
  rw [hi.peek]; apply get_of_le; unfold rem at h; have := hi.idx; omega

def nd (z k r : Nat) : Nat := if r = 0 then z + 1 else 7 * r + k + 1

theorem nd_pos (z k r : Nat) : 1 ≤ nd z k r := by unfold nd; split <;> omega

theorem nd_same {z k r z' k' n : Nat} (h : nd z k r ≤ n + 1) (hk : k' < k) (hz : z' < z ∨ r ≠ 0) : nd z' k' r ≤ n := by
  unfold nd at *; split at h <;> split <;> omega

theorem nd_next {z k r z' k' n : Nat} (h : nd z k r ≤ n + 1) (hz : z' < z ∨ r ≠ 0) (hz' : z' ≤ 6 := by decide)
    (hk' : k' ≤ 6 := by decide) : nd z' k' (r - 1) ≤ n := by
  unfold nd at *; split at h <;> split <;> omega

def Bd (s : TokStream) (r : Nat) (st : PState) : Prop := Inv s st ∧ rem s st ≤ r

theorem Bd.adv {r : Nat} {st : PState} (h : Bd s r st) : Bd s r (advance s st) :=
  ⟨inv_adv h.1, by rw [rem_advance]; exact Nat.le_trans (Nat.sub_le _ _) h.2⟩
theorem Bd.next {r : Nat} {st : PState} (h : Bd s r st) : Bd s (r - 1) (advance s st) :=
  ⟨inv_adv h.1, by rw [rem_advance]; exact Nat.sub_le_sub_right h.2 1⟩

theorem Bd.cur_ne {r : Nat} {st : PState} (h : Bd s r st) (hE : s.eof.type = .EOF ∨ s.eof.type = .EOL)
    (h1 : st.cur.type ≠ .EOF) (h2 : st.cur.type ≠ .EOL) : r ≠ 0 := by
  intro h0
  rw [end_cur h.1 (by have := h.2; omega)] at h1 h2
  exact hE.elim h1 h2

theorem Bd.peek_ne {r : Nat} {st : PState} (h : Bd s r st) (hE : s.eof.type = .EOF ∨ s.eof.type = .EOL)
    (h1 : st.peek.type ≠ .EOF) (h2 : st.peek.type ≠ .EOL) : r - 1 ≠ 0 := by
  intro h0
  rw [end_peek h.1 (by have := h.2; omega)] at h1 h2
  exact hE.elim h1 h2

theorem Bd.peek_is {r : Nat} {st : PState} {t : TokType} (h : Bd s r st) (hE : s.eof.type = .EOF ∨ s.eof.type = .EOL)
    (ht : st.peek.type = t) (h1 : t ≠ .EOF := by decide) (h2 : t ≠ .EOL := by decide) : r - 1 ≠ 0 :=
  h.peek_ne hE (ht ▸ h1) (ht ▸ h2)

theorem bdClosed (r : Nat) : ParserClosed s (fun m st => Bd s r st → wp m (fun _ => Bd s r) st) :=
  .ofInvariant (fun _ => Bd.adv) (fun _ h => ⟨inv_setCont h.1, h.2⟩) (fun e _ h => ⟨inv_pushErr e h.1, h.2⟩)

theorem prefix_EOF : lookup prefixRegs .EOF = none := by decide +kernel
theorem prefix_EOL : lookup prefixRegs .EOL = none := by decide +kernel
theorem infix_EOF : lookup infixRegs .EOF = none := by decide +kernel
theorem infix_EOL : lookup infixRegs .EOL = none := by decide +kernel
theorem postfix_EOF : lookup postfixRegs .EOF = none := by decide +kernel
theorem postfix_EOL : lookup postfixRegs .EOL = none := by decide +kernel
theorem precOf_EOF : precOf .EOF = 1 := by decide +kernel
theorem precOf_EOL : precOf .EOL = 1 := by decide +kernel

theorem parseExpression_end (hE : s.eof.type = .EOF ∨ s.eof.type = .EOL) (n P : Nat) {st : PState} (h : Bd s 0 st) :
    wp (parseExpression s n P) (fun a _ => a = none) st := by
  have hc := end_cur h.1 (Nat.le_zero.1 h.2)
  cases n with
  | zero => trivial
  | succ n =>
    unfold parseExpression
    rw [wp_bind, wp_getSt]
    split
    · exact (wp_bind _ _ _ _).2 rfl
    · have hl : lookup prefixRegs st.cur.type = none := by
        rw [hc]; rcases hE with e | e <;> rw [e]
        exact prefix_EOF
        exact prefix_EOL
      rw [hl]
      dsimp only
      split
      · split
        · exact (wp_bind _ _ _ _).2 rfl
        · exact (wp_bind _ _ _ _).2 (wp_conseq (wp_trivial _ _) fun _ _ _ => rfl)
      · rfl

theorem parseFunctionParametersLoop_halts (hE : s.eof.type = .EOF ∨ s.eof.type = .EOL) : ∀ (fuel : Nat) (acc : NList) (r : Nat)
    (st : PState), Bd s r st → r + 1 ≤ fuel → Halts (parseFunctionParametersLoop s fuel acc) st
  | 0, _, _, _, _, h => by omega
  | n + 1, acc, r, st, hb, h => by
    unfold parseFunctionParametersLoop
    refine Halts.getSt (Halts.ite (fun hc => ?_) fun _ => Halts.pure _ _)
    have := hb.peek_is hE hc
    exact Halts.next <| Halts.next <| Halts.bind ((bdClosed _).parameter _ hb.next.adv) ((haltsClosed s).parameter _) fun _ _ hb' =>
      parseFunctionParametersLoop_halts hE n _ (r - 1) _ hb' (by omega)

theorem parseFunctionParameters_tm (hE : s.eof.type = .EOF ∨ s.eof.type = .EOL) (fuel r : Nat) (st : PState)
    (hb : Bd s r st) (h : r + 1 ≤ fuel) : tm (parseFunctionParameters s fuel) (fun _ => Bd s r) st := by
  refine ⟨(bdClosed r).parseFunctionParameters fuel st hb, ?_⟩
  unfold parseFunctionParameters
  refine Halts.getSt (Halts.ite (fun _ => Halts.next (Halts.pure _ _)) fun _ => Halts.next ?_)
  refine Halts.bind ((bdClosed r).parameter _ hb.adv) ((haltsClosed s).parameter _) fun _ st0 hb0 => ?_
  refine Halts.bind ((bdClosed r).parseFunctionParametersLoop fuel _ _ hb0)
    (parseFunctionParametersLoop_halts hE fuel _ r _ hb0 h) fun ids st1 _ => Halts.expect fun _ => ?_
  have H := haltsClosed s
  split
  · exact Halts.pure _ _
  · exact H.bind (H.errorLine _) fun _ _ => H.bind (H.pushErr _ _) fun _ _ => Halts.pure _ _

structure AllTm (s : TokStream) (n : Nat) : Prop where
  pE : ∀ r P st, Bd s r st → nd 0 3 r ≤ n → tm (parseExpression s n P) (fun _ => Bd s r) st
  pLoop : ∀ r P left st, Bd s r st → nd 0 0 r ≤ n → tm (parseExpressionLoop s n P left) (fun _ => Bd s r) st
  pPre : ∀ r fn st, Bd s r st → nd 3 2 r ≤ n → tm (prefixDispatch s n fn) (fun _ => Bd s r) st
  pInf : ∀ r fn left st, Bd s r st → nd 3 2 r ≤ n → tm (infixDispatch s n fn left) (fun _ => Bd s r) st
  pStmt : ∀ r st, Bd s r st → nd 1 4 r ≤ n → tm (parseStatement s n) (fun _ => Bd s r) st
  pRet : ∀ r st, Bd s r st → nd 0 0 r ≤ n → tm (parseReturnStatement s n) (fun _ => Bd s r) st
  pArr : ∀ r st, Bd s r st → nd 2 1 r ≤ n → tm (parseArrayLiteral s n) (fun _ => Bd s r) st
  pGrp : ∀ r st, Bd s r st → nd 1 0 r ≤ n → tm (parseGroupedExpression s n) (fun _ => Bd s r) st
  pPfx : ∀ r st, Bd s r st → nd 1 0 r ≤ n → tm (parsePrefixExpression s n) (fun _ => Bd s r) st
  pLam : ∀ r left more st, Bd s r st → nd 1 0 r ≤ n → tm (parseLambdaMulti s n left more) (fun _ => Bd s r) st
  pInfix : ∀ r left st, Bd s r st → nd 1 0 r ≤ n → tm (parseInfixExpression s n left) (fun _ => Bd s r) st
  pFor : ∀ r st, Bd s r st → nd 1 0 r ≤ n → tm (parseForExpression s n) (fun _ => Bd s r) st
  pIf : ∀ r st, Bd s r st → nd 1 0 r ≤ n → tm (parseIfExpression s n) (fun _ => Bd s r) st
  pBlk : ∀ r st, Bd s r st → nd 1 0 r ≤ n → tm (parseBlockStatement s n) (fun _ => Bd s r) st
  pBlkLoop : ∀ r acc st, Bd s r st → nd 0 5 r ≤ n → tm (parseBlockLoop s n acc) (fun _ => Bd s r) st
  pFn : ∀ r st, Bd s r st → nd 0 0 r ≤ n → tm (parseFunctionLiteral s n) (fun _ => Bd s r) st
  pBi : ∀ r st, Bd s r st → nd 0 0 r ≤ n → tm (parseBuiltin s n) (fun _ => Bd s r) st
  pCall : ∀ r f st, Bd s r st → nd 2 1 r ≤ n → tm (parseCallExpression s n f) (fun _ => Bd s r) st
  pList : ∀ r e st, Bd s r st → nd 1 0 r ≤ n → tm (parseExpressionList s n e) (fun _ => Bd s r) st
  pListLoop : ∀ r args st, Bd s r st → nd 0 0 r ≤ n → tm (parseExpressionListLoop s n args) (fun _ => Bd s r) st
  pIdx : ∀ r left st, Bd s r st → nd 1 0 r ≤ n → tm (parseIndexExpression s n left) (fun _ => Bd s r) st
  pMap : ∀ r st, Bd s r st → nd 2 1 r ≤ n → tm (parseMapLiteral s n) (fun _ => Bd s r) st
  pMapLoop : ∀ r tok kvs st, Bd s r st → nd 1 0 r ≤ n → tm (parseMapLoop s n tok kvs) (fun _ => Bd s r) st
  pMac : ∀ r st, Bd s r st → nd 0 0 r ≤ n → tm (parseMacroLiteral s n) (fun _ => Bd s r) st

theorem real_of_lookup {β : Type} {l : List (TokType × β)} {t : TokType} {v : β} (h : lookup l t = some v)
    (h1 : lookup l .EOF = none) (h2 : lookup l .EOL = none) : t ≠ .EOF ∧ t ≠ .EOL := by
  constructor
  · intro e; rw [e, h1] at h; cases h
  · intro e; rw [e, h2] at h; cases h

section steps
variable (hE : s.eof.type = .EOF ∨ s.eof.type = .EOL) {n : Nat} (ih : AllTm s n) (r : Nat) {st : PState} (hb : Bd s r st)
include ih hb

include hE in
theorem tstep_pE (P : Nat) (hn : nd 0 3 r ≤ n + 1) : Halts (parseExpression s (n + 1) P) st := by
  have H := haltsClosed s
  unfold parseExpression
  refine Halts.getSt ?_
  split
  · exact H.bind (H.setCont _) fun _ _ => H.pure _ _
  split
  · exact Halts.ite (fun _ => Halts.ite (fun _ => H.bind (H.setCont _) fun _ _ => H.pure _ _)
      fun _ => H.bind (H.noPrefix _) fun _ _ => H.pure _ _) fun _ => H.pure _ _
  · next fn hl =>
    have hr : r ≠ 0 := have ⟨h1, h2⟩ := real_of_lookup hl prefix_EOF prefix_EOL; hb.cur_ne hE h1 h2
    refine (ih.pPre r fn st hb (nd_same hn (by decide) (.inr hr))).call fun r1 st1 h1 => Halts.getSt ?_
    exact Halts.ite (fun _ => Halts.next (ih.pLam r r1 [] _ h1.adv (nd_same hn (by decide) (.inr hr))).2)
      fun _ => (ih.pLoop r P r1 st1 h1 (nd_same hn (by decide) (.inr hr))).2

include hE in
theorem tstep_pLoop (P : Nat) (left : ONode) (hn : nd 0 0 r ≤ n + 1) : Halts (parseExpressionLoop s (n + 1) P left) st := by
  unfold parseExpressionLoop
  refine Halts.getSt (Halts.ite (fun _ => ?_) fun _ => Halts.pure _ _)
  dsimp only
  split
  · exact Halts.pure _ _
  · next fn hl =>
    have hr := have ⟨h1, h2⟩ := real_of_lookup hl infix_EOF infix_EOL; hb.peek_ne hE h1 h2
    refine Halts.ite (fun _ => Halts.pure _ _) fun _ => Halts.ite (fun _ => Halts.pure _ _) fun _ => Halts.next ?_
    exact (ih.pInf _ fn left _ hb.next (nd_next hn (.inr (by omega)))).call fun r1 st1 h1 =>
      (ih.pLoop _ P r1 st1 h1 (nd_next hn (.inr (by omega)))).2

theorem tstep_pPre (fn : PrefixFn) (hn : nd 3 2 r ≤ n + 1) : Halts (prefixDispatch s (n + 1) fn) st := by
  have H := haltsClosed s
  unfold prefixDispatch
  cases fn with
  | parseIdentifier => exact H.parseIdentifier _
  | parseIntegerLiteral => exact H.parseIntegerLiteral _
  | parseFloatLiteral => exact H.parseFloatLiteral _
  | parsePrefixExpression => exact (ih.pPfx r st hb (nd_same hn (by decide) (.inl (by decide)))).2
  | parseBoolean => exact H.parseBoolean _
  | parseGroupedExpression => exact (ih.pGrp r st hb (nd_same hn (by decide) (.inl (by decide)))).2
  | parseIfExpression => exact (ih.pIf r st hb (nd_same hn (by decide) (.inl (by decide)))).2
  | parseForExpression => exact (ih.pFor r st hb (nd_same hn (by decide) (.inl (by decide)))).2
  | parseControlExpression => exact H.parseControlExpression _
  | parseFunctionLiteral => exact (ih.pFn r st hb (nd_same hn (by decide) (.inl (by decide)))).2
  | parseStringLiteral => exact H.parseStringLiteral _
  | parseBuiltin => exact (ih.pBi r st hb (nd_same hn (by decide) (.inl (by decide)))).2
  | parseArrayLiteral => exact (ih.pArr r st hb (nd_same hn (by decide) (.inl (by decide)))).2
  | parseMapLiteral => exact (ih.pMap r st hb (nd_same hn (by decide) (.inl (by decide)))).2
  | parseComment => exact Halts.parseComment _
  | parseMacroLiteral => exact (ih.pMac r st hb (nd_same hn (by decide) (.inl (by decide)))).2

theorem tstep_pInf (fn : InfixFn) (left : ONode) (hn : nd 3 2 r ≤ n + 1) : Halts (infixDispatch s (n + 1) fn left) st := by
  unfold infixDispatch
  cases fn with
  | parseInfixExpression => exact (ih.pInfix r left st hb (nd_same hn (by decide) (.inl (by decide)))).2
  | parseCallExpression => exact (ih.pCall r left st hb (nd_same hn (by decide) (.inl (by decide)))).2
  | parseIndexExpression => exact (ih.pIdx r left st hb (nd_same hn (by decide) (.inl (by decide)))).2
  | parseLambdaExpression => exact (ih.pLam r left [] st hb (nd_same hn (by decide) (.inl (by decide)))).2

theorem tstep_pStmt (hn : nd 1 4 r ≤ n + 1) : Halts (parseStatement s (n + 1)) st := by
  unfold parseStatement
  refine Halts.getSt (Halts.ite (fun _ => (ih.pRet r st hb (nd_same hn (by decide) (.inl (by decide)))).2) fun _ => ?_)
  exact (ih.pE r _ st hb (nd_same hn (by decide) (.inl (by decide)))).call fun _ _ _ =>
    Halts.getSt (Halts.ite (fun _ => Halts.next (Halts.pure _ _)) fun _ => Halts.pure _ _)

include hE in
theorem tstep_pRet (hn : nd 0 0 r ≤ n + 1) : Halts (parseReturnStatement s (n + 1)) st := by
  unfold parseReturnStatement
  refine Halts.getSt (Halts.ite (fun _ => Halts.pure _ _) fun hc => Halts.next ?_)
  simp only [Bool.or_eq_true, decide_eq_true_eq, not_or] at hc
  have hr := hb.peek_ne hE hc.1.2 hc.2
  exact (ih.pE _ _ _ hb.next (nd_next hn (.inr (by omega)))).call fun _ _ _ =>
    Halts.getSt (Halts.ite (fun _ => Halts.next (Halts.pure _ _)) fun _ => Halts.pure _ _)

theorem tstep_pList (e : TokType) (hn : nd 1 0 r ≤ n + 1) : Halts (parseExpressionList s (n + 1) e) st := by
  unfold parseExpressionList
  refine Halts.getSt (Halts.ite (fun _ => Halts.next (Halts.pure _ _)) fun _ => Halts.next ?_)
  refine (ih.pE _ _ _ hb.next (nd_next hn (.inl (by decide)))).call fun x st1 h1 => ?_
  exact (ih.pListLoop _ [x] st1 h1 (nd_next hn (.inl (by decide)))).call fun _ _ _ => Halts.expect fun _ => Halts.pure _ _

include hE in
theorem tstep_pListLoop (args : NList) (hn : nd 0 0 r ≤ n + 1) : Halts (parseExpressionListLoop s (n + 1) args) st := by
  unfold parseExpressionListLoop
  refine Halts.getSt (Halts.ite (fun hc => Halts.next (Halts.next ?_)) fun _ => Halts.pure _ _)
  have hr := hb.peek_is hE hc
  exact (ih.pE _ _ _ hb.next.adv (nd_next hn (.inr (by omega)))).call fun x st1 h1 =>
    (ih.pListLoop _ _ st1 h1 (nd_next hn (.inr (by omega)))).2

theorem tstep_pArr (hn : nd 2 1 r ≤ n + 1) : Halts (parseArrayLiteral s (n + 1)) st := by
  unfold parseArrayLiteral
  exact Halts.getSt <| (ih.pList r .RBRACKET st hb (nd_same hn (by decide) (.inl (by decide)))).call fun _ _ _ => Halts.pure _ _

theorem tstep_pCall (f : ONode) (hn : nd 2 1 r ≤ n + 1) : Halts (parseCallExpression s (n + 1) f) st := by
  unfold parseCallExpression
  exact Halts.getSt <| (ih.pList r .RPAREN st hb (nd_same hn (by decide) (.inl (by decide)))).call fun _ _ _ => Halts.pure _ _

include hE in
theorem tstep_pBi (hn : nd 0 0 r ≤ n + 1) : Halts (parseBuiltin s (n + 1)) st := by
  unfold parseBuiltin
  refine Halts.getSt (Halts.expect fun hp => ?_)
  have hr := hb.peek_is hE hp
  exact (ih.pList _ .RPAREN _ hb.next (nd_next hn (.inr (by omega)))).call fun _ _ _ => Halts.pure _ _

theorem tstep_pBlk (hn : nd 1 0 r ≤ n + 1) : Halts (parseBlockStatement s (n + 1)) st := by
  unfold parseBlockStatement
  exact Halts.next (ih.pBlkLoop _ [] _ hb.next (nd_next hn (.inl (by decide)))).2

include hE in
theorem tstep_pBlkLoop (acc : NList) (hn : nd 0 5 r ≤ n + 1) : Halts (parseBlockLoop s (n + 1) acc) st := by
  have H := haltsClosed s
  unfold parseBlockLoop
  refine Halts.getSt (Halts.ite (fun hc => ?_) fun _ => Halts.pure _ _)
  refine Halts.ite (fun _ => H.bind (H.setCont _) fun _ _ => H.pure _ _) fun hne => ?_
  simp only [Bool.and_eq_true, bne_iff_ne, ne_eq] at hc
  have hr := hb.cur_ne hE hc.2 hne
  refine (ih.pStmt r st hb (nd_same hn (by decide) (.inr hr))).call fun _ st1 h1 => Halts.next ?_
  exact (ih.pBlkLoop _ _ _ h1.next (nd_next hn (.inr hr))).2

theorem tstep_pPfx (hn : nd 1 0 r ≤ n + 1) : Halts (parsePrefixExpression s (n + 1)) st := by
  unfold parsePrefixExpression
  exact Halts.getSt <| Halts.next <| (ih.pE _ _ _ hb.next (nd_next hn (.inl (by decide)))).call fun _ _ _ => Halts.pure _ _

theorem tstep_pInfix (left : ONode) (hn : nd 1 0 r ≤ n + 1) : Halts (parseInfixExpression s (n + 1) left) st := by
  unfold parseInfixExpression
  exact Halts.getSt <| Halts.ite (fun _ => Halts.pure _ _) fun _ => Halts.next <|
    (ih.pE _ _ _ hb.next (nd_next hn (.inl (by decide)))).call fun _ _ _ => Halts.pure _ _

theorem tstep_pIdx (left : ONode) (hn : nd 1 0 r ≤ n + 1) : Halts (parseIndexExpression s (n + 1) left) st := by
  unfold parseIndexExpression
  exact Halts.getSt <| Halts.next <| (ih.pE _ _ _ hb.next (nd_next hn (.inl (by decide)))).call fun _ _ _ =>
    Halts.ite (fun _ => Halts.pure _ _) fun _ => Halts.expect fun _ => Halts.pure _ _

include hE in
theorem tstep_pLam (left : ONode) (more : NList) (hn : nd 1 0 r ≤ n + 1) : Halts (parseLambdaMulti s (n + 1) left more) st := by
  have H := haltsClosed s
  unfold parseLambdaMulti
  refine Halts.getSt ?_
  dsimp only
  split
  · nofun
  · exact H.bind (H.errorLine _) fun _ _ => H.bind (H.pushErr _ _) fun _ _ => H.pure _ _
  · refine Halts.ite (fun hp => Halts.next ?_) fun _ => Halts.next ?_
    · have hr := hb.peek_is hE hp
      exact (ih.pBlk _ _ hb.next (nd_next hn (.inr (by omega)))).call fun _ _ _ =>
        Halts.getSt (Halts.ite (fun _ => Halts.pure _ _) fun _ => Halts.pure _ _)
    · exact (ih.pE _ _ _ hb.next (nd_next hn (.inl (by decide)))).call fun _ _ _ => Halts.pure _ _

include hE in
theorem tstep_pGrp (hn : nd 1 0 r ≤ n + 1) : Halts (parseGroupedExpression s (n + 1)) st := by
  unfold parseGroupedExpression
  refine Halts.next <| (ih.pE _ _ _ hb.next (nd_next hn (.inl (by decide)))).call fun exp st1 h1 => Halts.getSt ?_
  -- a token after the expression: one was consumed before it
  have live {t : TokType} {st' : PState} (h' : Bd s (r - 1) st') (hp : st'.peek.type = t) (h1 : t ≠ .EOF := by decide)
      (h2 : t ≠ .EOL := by decide) : r ≠ 0 := by have := h'.peek_is hE hp h1 h2; omega
  refine Halts.ite (fun hp => Halts.next ?_) fun _ => Halts.ite (fun hp => Halts.next ?_) fun _ => Halts.expect fun _ => Halts.pure _ _
  · exact (ih.pLam _ exp [] _ h1.adv (nd_next hn (.inr (live h1 hp)))).2
  · refine (ih.pList _ .RPAREN _ h1.adv (nd_next hn (.inr (live h1 hp)))).call fun el st2 h2 => ?_
    split
    · exact Halts.pure _ _
    · exact Halts.expect fun hp2 => (ih.pLam _ exp _ _ h2.adv (nd_next hn (.inr (live h2 hp2)))).2

omit hb in
include hE in
/-- the tail `{ block }` shared by `for`, `if`/`else`, `func` and `macro`, stated on the desugared `do` block; a token
of the construct was consumed before it (`r - 1`) -/
theorem block_tail_halts {z k : Nat} (hn : nd z k r ≤ n + 1) {st' : PState} (h' : Bd s (r - 1) st') (f : Stmts → ONode) :
    Halts (expectPeek s .LBRACE >>= fun ok => if (!ok) = true then Pure.pure none else
      parseBlockStatement s n >>= fun body => Parser.getSt >>= fun st =>
      if st.cont = true then Pure.pure none else Pure.pure (f body)) st' :=
  Halts.expect fun hp =>
    (ih.pBlk _ _ h'.adv (nd_next hn (.inr (by have := h'.peek_is hE hp; omega)))).call fun _ _ _ =>
      Halts.getSt (Halts.ite (fun _ => Halts.pure _ _) fun _ => Halts.pure _ _)

omit ih hb in
include hE in
/-- the head `( parameters )` shared by `func` and `macro` -/
theorem params_halts (hn : nd 0 0 r ≤ n + 1) {st0 : PState} (h0 : Bd s r st0) {k : NList × Bool → PM ONode}
    (hk : ∀ pv st2, Bd s (r - 1) st2 → Halts (k pv) st2) :
    Halts (expectPeek s .LPAREN >>= fun ok => if (!ok) = true then Pure.pure none else parseFunctionParameters s n >>= k) st0 :=
  Halts.expect fun hp =>
    have := h0.peek_is hE hp
    (parseFunctionParameters_tm hE n (r - 1) _ h0.next (by unfold nd at hn; split at hn <;> omega)).call hk

include hE in
theorem tstep_pFor (hn : nd 1 0 r ≤ n + 1) : Halts (parseForExpression s (n + 1)) st := by
  unfold parseForExpression
  exact Halts.getSt <| Halts.next <| (ih.pE _ _ _ hb.next (nd_next hn (.inl (by decide)))).call fun c st1 h1 =>
    block_tail_halts hE ih r hn h1 _

include hE in
theorem tstep_pIf (hn : nd 1 0 r ≤ n + 1) : Halts (parseIfExpression s (n + 1)) st := by
  unfold parseIfExpression
  refine Halts.getSt <| Halts.next <| (ih.pE _ _ _ hb.next (nd_next hn (.inl (by decide)))).call fun c st1 h1 =>
    Halts.expect fun hp => ?_
  have hr : r ≠ 0 := by have := h1.peek_is hE hp; omega
  refine (ih.pBlk _ _ h1.adv (nd_next hn (.inr hr))).call fun cons st3 h3 => Halts.getSt ?_
  refine Halts.ite (fun _ => Halts.pure _ _) fun _ => Halts.ite (fun _ => Halts.next (Halts.getSt ?_)) fun _ => Halts.pure _ _
  refine Halts.ite (fun _ => Halts.next ?_) fun _ => block_tail_halts hE ih r hn h3.adv _
  exact (ih.pIf _ _ h3.adv.adv (nd_next hn (.inr hr))).call fun _ _ _ => Halts.pure _ _

include hE in
theorem tstep_pFn (hn : nd 0 0 r ≤ n + 1) : Halts (parseFunctionLiteral s (n + 1)) st := by
  unfold parseFunctionLiteral
  -- the optional name is read by commands only
  have name {C : ∀ {α : Type}, PM α → PState → Prop} (h : CmdClosed s C) : C (if st.peek.type = .IDENT then
      nextToken s >>= fun _ => Parser.getSt >>= fun st => Pure.pure (some st.cur.tk) else Pure.pure none : PM (Option Tk)) st :=
    h.ite (h.bind (h.nextToken _) fun _ _ => h.getSt_bind (h.pure _ _)) (h.pure _ _)
  exact Halts.getSt <| Halts.bind (name (bdClosed r).toCmdClosed hb) (name (haltsClosed s)) fun _ _ h0 =>
    params_halts hE r hn h0 fun (_, _) _ h2 => block_tail_halts hE ih r hn h2 _

include hE in
theorem tstep_pMac (hn : nd 0 0 r ≤ n + 1) : Halts (parseMacroLiteral s (n + 1)) st := by
  unfold parseMacroLiteral
  exact Halts.getSt <| params_halts hE r hn hb fun (_, _) _ h2 => block_tail_halts hE ih r hn h2 _

theorem tstep_pMap (hn : nd 2 1 r ≤ n + 1) : Halts (parseMapLiteral s (n + 1)) st := by
  unfold parseMapLiteral
  exact Halts.getSt (ih.pMapLoop r _ [] st hb (nd_same hn (by decide) (.inl (by decide)))).2

include hE in
theorem tstep_pMapLoop (tok : Tk) (kvs : NList) (hn : nd 1 0 r ≤ n + 1) : Halts (parseMapLoop s (n + 1) tok kvs) st := by
  have H := haltsClosed s
  unfold parseMapLoop
  refine Halts.getSt (Halts.ite (fun _ => Halts.next (Halts.getSt ?_)) fun _ => Halts.expect fun _ => Halts.pure _ _)
  refine Halts.ite (fun _ => Halts.pure _ _) fun _ => ?_
  have hend : wp (parseExpression s n prioLOWEST) (fun kv _ => r = 0 → kv = none) (advance s st) := by
    by_cases h0 : r = 0
    · exact wp_conseq (parseExpression_end hE n _ (h0 ▸ hb.adv)) fun _ _ h _ => h
    · exact wp_conseq (wp_trivial _ _) fun _ _ _ h => absurd h h0
  refine ((ih.pE _ _ _ hb.next (nd_next hn (.inl (by decide)))).and hend).call fun kv st1 ⟨h1, hnone⟩ => ?_
  split
  · -- a pair was parsed: at least one token was consumed (at the end marker parseExpression returns nil)
    have hr : r ≠ 0 := fun h0 => nomatch hnone h0
    refine Halts.ite (fun _ => Halts.getSt ?_) fun _ => H.mapPairError _
    refine Halts.ite (fun _ => Halts.expect fun _ => ?_) fun _ => ?_
    · exact (ih.pMapLoop _ tok _ _ h1.adv (nd_next hn (.inr hr))).2
    · exact (ih.pMapLoop _ tok _ st1 h1 (nd_next hn (.inr hr))).2
  · exact H.mapPairError _

end steps

theorem allTm_zero : AllTm s 0 := by
  constructor <;> intros <;> (rename_i h; exact absurd h (Nat.not_le.2 (nd_pos _ _ _)))

theorem allTm_succ (hE : s.eof.type = .EOF ∨ s.eof.type = .EOL) {n : Nat} (ih : AllTm s n) : AllTm s (n + 1) :=
  have K r := (bdClosed (s := s) r).all (n + 1)
  { pE := fun r P st hb hn => ⟨(K r).parseExpression P st hb, tstep_pE hE ih r hb P hn⟩
    pLoop := fun r P l st hb hn => ⟨(K r).parseExpressionLoop P l st hb, tstep_pLoop hE ih r hb P l hn⟩
    pPre := fun r fn st hb hn => ⟨(bdClosed r).keeps_prefixDispatch _ fn st hb, tstep_pPre ih r hb fn hn⟩
    pInf := fun r fn l st hb hn => ⟨(K r).infixDispatch fn l st hb, tstep_pInf ih r hb fn l hn⟩
    pStmt := fun r st hb hn => ⟨(K r).parseStatement st hb, tstep_pStmt ih r hb hn⟩
    pRet := fun r st hb hn => ⟨(K r).parseReturnStatement st hb, tstep_pRet hE ih r hb hn⟩
    pArr := fun r st hb hn => ⟨(K r).parseArrayLiteral st hb, tstep_pArr ih r hb hn⟩
    pGrp := fun r st hb hn => ⟨(K r).parseGroupedExpression st hb, tstep_pGrp hE ih r hb hn⟩
    pPfx := fun r st hb hn => ⟨(K r).parsePrefixExpression st hb, tstep_pPfx ih r hb hn⟩
    pLam := fun r l m st hb hn => ⟨(K r).parseLambdaMulti l m st hb, tstep_pLam hE ih r hb l m hn⟩
    pInfix := fun r l st hb hn => ⟨(K r).parseInfixExpression l st hb, tstep_pInfix ih r hb l hn⟩
    pFor := fun r st hb hn => ⟨(K r).parseForExpression st hb, tstep_pFor hE ih r hb hn⟩
    pIf := fun r st hb hn => ⟨(K r).parseIfExpression st hb, tstep_pIf hE ih r hb hn⟩
    pBlk := fun r st hb hn => ⟨(K r).parseBlockStatement st hb, tstep_pBlk ih r hb hn⟩
    pBlkLoop := fun r a st hb hn => ⟨(K r).parseBlockLoop a st hb, tstep_pBlkLoop hE ih r hb a hn⟩
    pFn := fun r st hb hn => ⟨(K r).parseFunctionLiteral st hb, tstep_pFn hE ih r hb hn⟩
    pBi := fun r st hb hn => ⟨(K r).parseBuiltin st hb, tstep_pBi hE ih r hb hn⟩
    pCall := fun r f st hb hn => ⟨(K r).parseCallExpression f st hb, tstep_pCall ih r hb f hn⟩
    pList := fun r e st hb hn => ⟨(bdClosed r).keeps_parseExpressionList _ e st hb, tstep_pList ih r hb e hn⟩
    pListLoop := fun r a st hb hn => ⟨(K r).parseExpressionListLoop a st hb, tstep_pListLoop hE ih r hb a hn⟩
    pIdx := fun r l st hb hn => ⟨(K r).parseIndexExpression l st hb, tstep_pIdx ih r hb l hn⟩
    pMap := fun r st hb hn => ⟨(K r).parseMapLiteral st hb, tstep_pMap ih r hb hn⟩
    pMapLoop := fun r t k st hb hn => ⟨(K r).parseMapLoop t k st hb, tstep_pMapLoop hE ih r hb t k hn⟩
    pMac := fun r st hb hn => ⟨(K r).parseMacroLiteral st hb, tstep_pMac hE ih r hb hn⟩ }

theorem allTm (hE : s.eof.type = .EOF ∨ s.eof.type = .EOL) : ∀ n, AllTm s n
  | 0 => allTm_zero
  | n + 1 => allTm_succ hE (allTm hE n)

theorem parseProgramLoop_halts (hE : s.eof.type = .EOF ∨ s.eof.type = .EOL) : ∀ (fuel : Nat) (acc : NList) (r : Nat) (st : PState),
    Bd s r st → nd 0 5 r ≤ fuel → Halts (parseProgramLoop s fuel acc) st
  | 0, _, _, _, _, h => absurd h (Nat.not_le.2 (nd_pos _ _ _))
  | n + 1, acc, r, st, hb, hn => by
    unfold parseProgramLoop
    refine Halts.getSt (Halts.ite (fun hc => ?_) fun _ => Halts.pure _ _)
    simp only [Bool.and_eq_true, bne_iff_ne, ne_eq] at hc
    have hr := hb.cur_ne hE hc.1 hc.2
    refine ((allTm hE n).pStmt r st hb (nd_same hn (by decide) (.inr hr))).call fun stmt st1 h1 => ?_
    split
    · exact Halts.pure _ _
    · exact Halts.next (parseProgramLoop_halts hE n _ _ _ h1.next (nd_next hn (.inr hr)))

theorem rem_init (s : TokStream) : rem s (init s) = s.toks.length := by unfold rem init; simp

/-- **C08, termination**: when the repeated end marker of the stream is EOF or EOL, the parser does not run out
of fuel once the fuel is at least `7 · (number of tokens + 2)`. -/
theorem parseProgram_terminates (s : TokStream) (hE : s.eof.type = .EOF ∨ s.eof.type = .EOL) (fuel : Nat)
    (hf : 7 * (s.toks.length + 2) ≤ fuel) : parseProgram s fuel ≠ .outOfFuel := by
  have h := parseProgramLoop_halts hE fuel [] _ (init s) ⟨inv_init s, Nat.le_of_eq (rem_init s)⟩
    (by unfold nd; split <;> omega)
  unfold parseProgram
  revert h
  unfold Halts
  cases parseProgramLoop s fuel [] (init s) with
  | ok r => exact fun _ => nofun
  | goPanic p => exact fun _ => nofun
  | outOfFuel => exact fun h => absurd rfl h

end Grol.Parser
