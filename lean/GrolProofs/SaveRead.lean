import Grol.Save
/-
C14 lemmas: the printed form of every int64 reads back as that integer.
-/
namespace Grol.Save
open Grol.E
open Grol.Wire (Bytes)

theorem digitsVal_map (cs : List Char) (hd : ∀ c ∈ cs, c.isDigit = true) : ∀ acc,
    digitsVal acc (cs.map fun c => c.toNat.toUInt8) = some (Nat.ofDigitChars 10 cs acc) := by
  induction cs with
  | nil => intro acc; simp [digitsVal]
  | cons c cs ih =>
    intro acc
    have hc := hd c List.mem_cons_self
    simp only [Char.isDigit, Bool.and_eq_true, decide_eq_true_eq] at hc
    have h48 : 48 ≤ c.toNat := UInt32.le_iff_toNat_le.mp hc.1
    have h57 : c.toNat ≤ 57 := UInt32.le_iff_toNat_le.mp hc.2
    have hb : (c.toNat.toUInt8).toNat = c.toNat := by
      simp [Nat.toUInt8, UInt8.toNat_ofNat']
      omega
    have h1 : (48 : UInt8) ≤ c.toNat.toUInt8 := by
      rw [UInt8.le_iff_toNat_le, hb]; exact h48
    have h2 : c.toNat.toUInt8 ≤ (57 : UInt8) := by
      rw [UInt8.le_iff_toNat_le, hb]; exact h57
    simp only [List.map_cons, digitsVal, h1, h2, decide_true, Bool.and_self, if_true]
    rw [ih (fun x hx => hd x (List.mem_cons_of_mem _ hx)), Nat.ofDigitChars_cons, hb]
    congr 2
    simp [Nat.mul_comm]

theorem digitsVal_digitBytes (n : Nat) : digitsVal 0 (digitBytes n) = some n := by
  unfold digitBytes
  rw [digitsVal_map _ (fun c hc => Nat.isDigit_of_mem_toDigits (by decide) (by decide) hc)]
  simp

theorem digitBytes_ne_nil (n : Nat) : digitBytes n ≠ [] := by
  unfold digitBytes
  simp [Nat.toDigits_ne_nil]

theorem parseDecInt_digitBytes (n : Nat) :
    parseDecInt (digitBytes n) = if n < 2 ^ 63 then some (Int64.ofNat n) else none := by
  unfold parseDecInt
  cases h : digitBytes n with
  | nil => exact absurd h (digitBytes_ne_nil n)
  | cons c cs =>
    rw [← h, digitsVal_digitBytes, h]

/-- the smallest int64 included (grol fix 61e5755: its literal read as a float) -/
theorem int_roundtrip (i : Int64) : readIntText (intBytes i) = some i := by
  unfold intBytes
  by_cases hneg : i.toInt < 0
  · simp only [hneg, if_true, readIntText]
    rw [parseDecInt_digitBytes]
    have hlo := Int64.le_toInt i
    have hm : (i.toInt.natAbs : Int) = -i.toInt := by omega
    by_cases hlt : i.toInt.natAbs < 2 ^ 63
    · simp only [hlt, if_true]
      congr 1
      apply Int64.toInt_inj.mp
      rw [Int64.toInt_neg, Int64.toInt_ofNat']
      have e1 : ((i.toInt.natAbs : Int)).bmod 18446744073709551616 = (i.toInt.natAbs : Int) := by
        apply Int.bmod_eq_of_le <;> omega
      have e2 : (-(i.toInt.natAbs : Int)).bmod 18446744073709551616 = -(i.toInt.natAbs : Int) := by
        apply Int.bmod_eq_of_le <;> omega
      simp only [Int64.size, Nat.reducePow, e1, e2] at *
      omega
    · simp only [hlt, if_false, digitsVal_digitBytes]
      have hmin : i.toInt = -9223372036854775808 := by omega
      have : i.toInt.natAbs = 2 ^ 63 := by omega
      simp only [this, beq_self_eq_true, if_true]
      congr 1
      apply Int64.toInt_inj.mp
      rw [hmin]
      decide
  · simp only [hneg, if_false]
    have hhi := Int64.toInt_lt i
    have hm : (i.toInt.natAbs : Int) = i.toInt := by omega
    have hlt : i.toInt.natAbs < 2 ^ 63 := by omega
    have hd : readIntText (digitBytes i.toInt.natAbs) = parseDecInt (digitBytes i.toInt.natAbs) := by
      unfold readIntText
      split
      · rename_i ds heq
        -- the first digit is not `-`
        exfalso
        have : (45 : UInt8) ∈ digitBytes i.toInt.natAbs := by rw [heq]; exact List.mem_cons_self
        unfold digitBytes at this
        obtain ⟨c, hc, hc45⟩ := List.mem_map.mp this
        have hdg := Nat.isDigit_of_mem_toDigits (by decide) (by decide) hc
        simp only [Char.isDigit, Bool.and_eq_true, decide_eq_true_eq] at hdg
        have h48 : 48 ≤ c.toNat := UInt32.le_iff_toNat_le.mp hdg.1
        have h57 : c.toNat ≤ 57 := UInt32.le_iff_toNat_le.mp hdg.2
        have hb : (c.toNat.toUInt8).toNat = c.toNat := by
          simp [Nat.toUInt8, UInt8.toNat_ofNat']
          omega
        rw [hc45] at hb
        simp at hb
        omega
      · rfl
    rw [hd, parseDecInt_digitBytes]
    simp only [hlt, if_true]
    congr 1
    apply Int64.toInt_inj.mp
    rw [Int64.toInt_ofNat']
    have e1 : ((i.toInt.natAbs : Int)).bmod 18446744073709551616 = (i.toInt.natAbs : Int) := by
      apply Int.bmod_eq_of_le <;> omega
    simp only [Int64.size, Nat.reducePow, e1] at *
    omega

end Grol.Save
