import GrolProofs.ConstInvBase
import GrolProofs.InvMain
/-
C19 (whole evaluator): what is read off the development over a policy (InvBase.lean … InvMain.lean,
namespace `Grol.G`) at `polK`, in the terms of ConstInvBase.lean: `spec_all`, the statement about the
mutually recursive tree walker (lean/Grol/Eval/Eval.lean) for programs without `del` and without functions
named like a constant, and the environment operations.  `toK` rewrites a statement of `Grol.G` into these
terms; that the pure value operations never panic is EvalSafeVal.lean, as `K.NPR` is `E.NPR`.
-/
namespace Grol.K
open Grol.E

theorem cmpList_npr : ∀ (a b : List Obj), NPR (cmpList a b) := E.cmpList_npr
theorem cmpPairs_npr : ∀ (a b : List (Obj × Obj)), NPR (cmpPairs a b) := E.cmpPairs_npr
theorem inspectList_npr : ∀ (l : List Obj), NPR (inspectList l) := E.inspectList_npr
theorem inspectPairs_npr : ∀ (l : List (Obj × Obj)), NPR (inspectPairs l) := E.inspectPairs_npr

theorem Inv.update {st st' : St} (hI : Inv st) (hf : st'.frames = st.frames) (hc : st'.cur < st.frames.size)
    (hr : st'.root = st.root) (hcache : ∀ c, c ∈ st'.cache → okObj st.frames.size c.result = true) : Inv st' := by
  constructor
  · rw [hf]; exact hc
  · rw [hf, hr]; exact hI.root
  · rw [hf]; exact hI.frames
  · rw [hf]; exact hcache

abbrev OkO : Obj → St → Prop := fun v s => okObj s.frames.size v = true
abbrev OkOpt : Option Obj → St → Prop := fun r s => ∀ v, r = some v → okObj s.frames.size v = true
abbrev OkEx : Except Obj (List Obj) → St → Prop := fun r s =>
  (∀ v, r = .ok v → okList s.frames.size v = true) ∧ (∀ e, r = .error e → okObj s.frames.size e = true)

theorem okO_polK : OkO = G.OkO polK := by funext v s; simp only [OkO, G.OkO, okObj_polK]
theorem okOpt_polK : OkOpt = G.OkOpt polK := by funext v s; simp only [OkOpt, G.OkOpt, okObj_polK]
theorem okEx_polK : OkEx = G.OkEx polK := by
  funext r s; simp only [OkEx, G.OkEx, okObj_polK, okList_polK]

structure Spec (fuel : Nat) : Prop where
  eval : ∀ node st, Inv st → okNode node = true → Post (eval fuel node) st OkO
  evalI : ∀ node st, Inv st → okNode node = true → Post (evalI fuel node) st OkO
  evalStatements : ∀ l res st, Inv st → okNodes l = true → okObj st.frames.size res = true →
    Post (evalStatements fuel l res) st OkO
  evalExpressions : ∀ l acc st, Inv st → okNodes l = true → okList st.frames.size acc = true →
    Post (evalExpressions fuel l acc) st OkEx
  evalAssignment : ∀ right op left st, Inv st → okNode left = true → okObj st.frames.size right = true →
    Post (evalAssignment fuel right op left) st OkO
  evalIf : ∀ c cons alt st, Inv st → okNode c = true → okNode cons = true → okNode alt = true →
    Post (evalIf fuel c cons alt) st OkO
  evalFor : ∀ c body st, Inv st → okNode c = true → okNode body = true → Post (evalFor fuel c body) st OkO
  evalForLoop : ∀ c body last st, Inv st → okNode c = true → okNode body = true →
    okObj st.frames.size last = true → Post (evalForLoop fuel c body last) st OkO
  evalForSpecialForms : ∀ c body st, Inv st → okNode c = true → okNode body = true →
    Post (evalForSpecialForms fuel c body) st OkOpt
  evalForInteger : ∀ body i endV name last st, Inv st → okNode body = true → okObj st.frames.size last = true →
    Post (evalForInteger fuel body i endV name last) st OkO
  evalForList : ∀ body list name last st, Inv st → okNode body = true → okObj st.frames.size list = true →
    okObj st.frames.size last = true → Post (evalForList fuel body list name last) st OkO
  evalBuiltin : ∀ t ps st, Inv st → okNode (.builtin t ps) = true → Post (evalBuiltin fuel t ps) st OkO
  evalPrint : ∀ t ps first buf st, Inv st → okNodes ps = true → Post (evalPrint fuel t ps first buf) st OkO
  evalIndexExpression : ∀ left tok i st, Inv st → okNode i = true → okObj st.frames.size left = true →
    Post (evalIndexExpression fuel left tok i) st OkO
  evalIndexRange : ∀ left li ri st, Inv st → okNode li = true → okNode ri = true → okObj st.frames.size left = true →
    Post (evalIndexRange fuel left li ri) st OkO
  evalMapLiteral : ∀ ks vs big acc st, Inv st → okNodes ks = true → okNodes vs = true →
    okPairs st.frames.size acc = true → Post (evalMapLiteral fuel ks vs big acc) st OkO
  applyExtension : ∀ name args st, Inv st → Post (applyExtension fuel name args) st OkO
  applyFunction : ∀ fn args st, Inv st → okObj st.frames.size fn = true → okList st.frames.size args = true →
    Post (applyFunction fuel fn args) st OkO

/-- `toK h`: the statement `h` of the development at `polK`, in the terms of ConstInvBase.lean -/
local macro "toK " h:term : tactic =>
  `(tactic| simpa only [inv_iff, post_iff, okO_polK, okOpt_polK, okEx_polK, okObj_polK, okList_polK, okPairs_polK,
      okNode_polK, okNodes_polK] using $h)

theorem spec_all (fuel : Nat) : Spec fuel where
  eval := by toK (G.spec_all (P := polK) fuel).eval
  evalI := by toK (G.spec_all (P := polK) fuel).evalI
  evalStatements := by toK (G.spec_all (P := polK) fuel).evalStatements
  evalExpressions := by toK (G.spec_all (P := polK) fuel).evalExpressions
  evalAssignment := by toK (G.spec_all (P := polK) fuel).evalAssignment
  evalIf := by toK (G.spec_all (P := polK) fuel).evalIf
  evalFor := by toK (G.spec_all (P := polK) fuel).evalFor
  evalForLoop := by toK (G.spec_all (P := polK) fuel).evalForLoop
  evalForSpecialForms := by toK (G.spec_all (P := polK) fuel).evalForSpecialForms
  evalForInteger := by toK (G.spec_all (P := polK) fuel).evalForInteger
  evalForList := by toK (G.spec_all (P := polK) fuel).evalForList
  evalBuiltin := by toK (G.spec_all (P := polK) fuel).evalBuiltin
  evalPrint := by toK (G.spec_all (P := polK) fuel).evalPrint
  evalIndexExpression := by toK (G.spec_all (P := polK) fuel).evalIndexExpression
  evalIndexRange := by toK (G.spec_all (P := polK) fuel).evalIndexRange
  evalMapLiteral := by toK (G.spec_all (P := polK) fuel).evalMapLiteral
  applyExtension := by toK (G.spec_all (P := polK) fuel).applyExtension
  applyFunction := by toK (G.spec_all (P := polK) fuel).applyFunction

def KeptStore (s s' : List (String × Obj)) : Prop :=
  ∀ N v, isConstant N = true → lookupVal s N = some v → ∃ v', lookupVal s' N = some v' ∧ Eqv v v'

theorem post_modifyFrame {st : St} {e : Nat} {g : Frame → Frame} {Q : Unit → St → Prop} (hI : Inv st)
    (he : e < st.frames.size)
    (hg : ∀ f, st.frames[e]? = some f → (g f).depth = f.depth ∧ (g f).outer = f.outer ∧
      (g f).function = f.function ∧ StoreOk st.frames e f.depth (g f).store)
    (hk : ∀ f, st.frames[e]? = some f → KeptStore f.store (g f).store)
    (hQ : ∀ s, Inv s → s.frames.size = st.frames.size → s.cur = st.cur → Q () s) :
    Post (modifyFrame e g) st Q :=
  post_iff.2 (G.post_modifyFrame (inv_iff.1 hI) he (fun f hf => by simpa only [storeOk_iff] using hg f hf) hk
    (fun s hIs => hQ s (inv_iff.2 hIs)))

theorem post_envGet {st : St} (hI : Inv st) {e : Nat} (he : e < st.frames.size) (name : String) :
    Post (envGet e name) st (G.GetQ polK st e name) :=
  post_iff.2 (G.post_envGet (inv_iff.1 hI) he name)

theorem post_makeRef {st : St} (hI : Inv st) {orig : Nat} (ho : orig < st.frames.size) (name : String)
    (hn : lookupStore (storeOf st orig) name = none) :
    Post (makeRef orig name) st (G.RefQ polK st orig name) :=
  post_iff.2 (G.post_makeRef (inv_iff.1 hI) ho name hn)

theorem post_setNoChecks {st : St} (hI : Inv st) {e : Nat} (he : e < st.frames.size) (name : String) {val : Obj}
    (hval : okObj st.frames.size val = true) (create : Bool) (hw : G.SetOk polK st e name val) :
    Post (setNoChecks e name val create) st OkO := by
  rw [inv_iff] at hI; rw [okObj_polK] at hval; toK G.post_setNoChecks hI he name hval create hw

theorem post_createOrSet {st : St} (hI : Inv st) {e : Nat} (he : e < st.frames.size) (name : String) {val : Obj}
    (hval : okObj st.frames.size val = true) (create : Bool) : Post (createOrSet e name val create) st OkO := by
  rw [inv_iff] at hI; rw [okObj_polK] at hval; toK G.post_createOrSet hI he name hval create

theorem post_deleteMapEntry {st : St} (hI : Inv st) (left : Node) (index : Obj) :
    Post (deleteMapEntry left index) st OkO := by
  rw [post_iff, okO_polK]; exact G.post_deleteMapEntry (inv_iff.1 hI) left index

end Grol.K
