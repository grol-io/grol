import GrolProofs.RenClean
import GrolProofs.EvalSafeVal
/-
C04, the quiet simulation: `clean` (no reference to a dirty binding anywhere in a value) is preserved by the
value-level operations of lean/Grol/Eval/Values.lean and Ops.lean.
-/
namespace Grol.R
open Grol.E

theorem clean_array {P : Qp} {l : List Obj} : clean P (.array l) ↔ ∀ x ∈ l, clean P x := by
  show cleanL P l ↔ _
  exact cleanL_iff

theorem clean_newArray {P : Qp} {l : List Obj} : clean P (newArray l) ↔ ∀ x ∈ l, clean P x := clean_array

theorem clean_map {P : Qp} {b : Bool} {l : List (Obj × Obj)} :
    clean P (.map b l) ↔ ∀ kv ∈ l, clean P kv.1 ∧ clean P kv.2 := by
  show cleanP P l ↔ _
  exact cleanP_iff

theorem clean_arr {P : Qp} {l : List Obj} (h : clean P (.array l)) : cleanL P l := h
theorem clean_mp {P : Qp} {b : Bool} {l : List (Obj × Obj)} (h : clean P (.map b l)) : cleanP P l := h

theorem cleanL_append {P : Qp} {a b : List Obj} (ha : cleanL P a) (hb : cleanL P b) : cleanL P (a ++ b) := by
  rw [cleanL_iff] at *
  intro x hx
  rcases List.mem_append.1 hx with h | h
  · exact ha x h
  · exact hb x h

theorem cleanL_repeat {P : Qp} {l : List Obj} (h : cleanL P l) : ∀ n, cleanL P (repeatList l n)
  | 0 => trivial
  | n + 1 => by unfold repeatList; exact cleanL_append h (cleanL_repeat h n)

theorem cleanL_int64Range {P : Qp} (l r : Int64) : cleanL P (int64Range l r) := by
  rw [cleanL_iff]
  intro x hx
  unfold int64Range at hx
  simp only [List.mem_map] at hx
  obtain ⟨i, _, rfl⟩ := hx
  trivial

theorem cleanL_drop {P : Qp} {l : List Obj} (h : cleanL P l) (n : Nat) : cleanL P (l.drop n) := by
  rw [cleanL_iff] at *
  exact fun x hx => h x (List.mem_of_mem_drop hx)

theorem cleanL_take {P : Qp} {l : List Obj} (h : cleanL P l) (n : Nat) : cleanL P (l.take n) := by
  rw [cleanL_iff] at *
  exact fun x hx => h x (List.mem_of_mem_take hx)

theorem cleanP_drop {P : Qp} {l : List (Obj × Obj)} (h : cleanP P l) (n : Nat) : cleanP P (l.drop n) := by
  rw [cleanP_iff] at *
  exact fun x hx => h x (List.mem_of_mem_drop hx)

theorem cleanP_take {P : Qp} {l : List (Obj × Obj)} (h : cleanP P l) (n : Nat) : cleanP P (l.take n) := by
  rw [cleanP_iff] at *
  exact fun x hx => h x (List.mem_of_mem_take hx)

theorem clean_getD {P : Qp} {l : List Obj} (h : cleanL P l) (i : Nat) : clean P (l.getD i .null) := by
  rw [List.getD_eq_getElem?_getD]
  cases hi : l[i]? with
  | none => trivial
  | some x => exact (cleanL_iff.1 h) x (List.mem_of_getElem? hi)

theorem clean_arrayIndex {P : Qp} {l : List Obj} (h : cleanL P l) (idx : Int64) : clean P (arrayIndex l idx) := by
  unfold arrayIndex
  dsimp only
  split <;> split <;> first | trivial | exact clean_getD h _

theorem cleanL_set {P : Qp} {l : List Obj} (h : cleanL P l) (i : Nat) {v : Obj} (hv : clean P v) : cleanL P (l.set i v) := by
  rw [cleanL_iff] at *
  intro x hx
  rcases List.mem_or_eq_of_mem_set hx with h1 | h1
  · exact h x h1
  · subst h1; exact hv

/-! ### maps -/

theorem mapGet_clean {P : Qp} {kvs : List (Obj × Obj)} {key v : Obj} (hk : cleanP P kvs)
    (h : mapGet kvs key = .ok (some v)) : clean P v := by
  unfold mapGet mapFind at h
  cases hf : mapFind.go key kvs 0 with
  | error e => rw [hf] at h; cases h
  | ok r =>
    rw [hf] at h
    obtain ⟨r1, j⟩ := r
    simp only [bind, Except.bind, pure, Except.pure] at h
    cases h
    obtain ⟨k, hk'⟩ := mapFind_go_mem key kvs 0 v j hf
    exact ((cleanP_iff.1 hk) _ hk').2

theorem oldKey_clean {P : Qp} {kvs : List (Obj × Obj)} {i : Nat} {key : Obj} (hk : cleanP P kvs)
    (hkey : clean P key) : clean P (mapSet.oldKey kvs i key) := by
  unfold mapSet.oldKey
  split
  · next k _ h => exact ((cleanP_iff.1 hk) _ (List.mem_of_getElem? h)).1
  · exact hkey

theorem mapSet_clean {P : Qp} {cfg : Cfg} {big : Bool} {kvs : List (Obj × Obj)} {key val : Obj}
    {r : Bool × List (Obj × Obj)} (hk : cleanP P kvs) (hkey : clean P key)
    (hval : clean P val) (h : mapSet cfg big kvs key val = .ok r) : cleanP P r.2 := by
  unfold mapSet at h
  cases hf : mapFind kvs key with
  | error e => rw [hf] at h; cases h
  | ok fr =>
    rw [hf] at h
    obtain ⟨found, i⟩ := fr
    simp only [bind, Except.bind] at h
    have hmem := cleanP_iff.1 hk
    split at h
    · cases h
      rw [cleanP_iff]
      intro kv hkv
      rcases List.mem_or_eq_of_mem_set hkv with h1 | h1
      · exact hmem kv h1
      · subst h1; exact ⟨oldKey_clean hk hkey, hval⟩
    · cases h
      rw [cleanP_iff]
      intro kv hkv
      simp only [List.mem_append, List.mem_singleton] at hkv
      rcases hkv with (h1 | h1) | h1
      · exact hmem kv (List.mem_of_mem_take h1)
      · subst h1; exact ⟨hkey, hval⟩
      · exact hmem kv (List.mem_of_mem_drop h1)

theorem mapDelete_clean {P : Qp} {kvs kvs' : List (Obj × Obj)} {key : Obj} (hk : cleanP P kvs)
    (h : mapDelete kvs key = .ok (some kvs')) : cleanP P kvs' := by
  unfold mapDelete at h
  cases hf : mapFind kvs key with
  | error e => rw [hf] at h; cases h
  | ok fr =>
    rw [hf] at h
    obtain ⟨found, i⟩ := fr
    simp only [bind, Except.bind] at h
    split at h
    · cases h
      rw [cleanP_iff]
      intro kv hkv
      exact (cleanP_iff.1 hk) kv (List.mem_of_mem_eraseIdx hkv)
    · cases h

theorem mapAppend_go_clean {P : Qp} (cfg : Cfg) : ∀ (r : List (Obj × Obj)) (acc res : Bool × List (Obj × Obj)),
    cleanP P r → cleanP P acc.2 → mapAppend.go cfg acc r = .ok res → cleanP P res.2
  | [], acc, res, _, ha, h => by
    simp only [mapAppend.go, pure, Except.pure] at h; cases h; exact ha
  | (k, v) :: rest, acc, res, hr, ha, h => by
    unfold mapAppend.go at h
    have hr' := cleanP_iff.1 hr
    cases hs : mapSet cfg acc.1 acc.2 k v with
    | error e => rw [hs] at h; cases h
    | ok acc' =>
      rw [hs] at h
      simp only [bind, Except.bind] at h
      have h1 := hr' (k, v) List.mem_cons_self
      have hacc' := mapSet_clean ha h1.1 h1.2 hs
      exact mapAppend_go_clean cfg rest acc' res
        (cleanP_iff.2 (fun kv hkv => hr' kv (List.mem_cons_of_mem _ hkv))) hacc' h

theorem mapAppend_clean {P : Qp} {cfg : Cfg} {lbig : Bool} {l r : List (Obj × Obj)} {res : Bool × List (Obj × Obj)}
    (hl : cleanP P l) (hr : cleanP P r) (h : mapAppend cfg lbig l r = .ok res) : cleanP P res.2 := by
  unfold mapAppend at h
  exact mapAppend_go_clean cfg r _ res hr hl h

theorem clean_makeFirst {P : Qp} {k v : Obj} (hk : clean P k) (hv : clean P v) : clean P (makeFirst k v) :=
  ⟨trivial, hk, trivial, hv, trivial⟩

theorem clean_evalPrefixOp {P : Qp} (op : String) {r : Obj} (h : clean P r) : clean P (evalPrefixOp op r) := by
  unfold evalPrefixOp
  split
  · exact h
  · cases r <;> first | trivial | (rename_i b; cases b <;> trivial)
  · cases r <;> trivial
  · cases int64Value r <;> trivial
  · cases int64Value r <;> trivial
  · exact h
  · trivial

theorem clean_incrValue {P : Qp} (v : Obj) (a : Int64) : ∀ w, incrValue v a = some w → clean P w := by
  intro w h
  cases v <;> first | (cases h; trivial) | cases h

end Grol.R
