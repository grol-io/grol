import GrolProofs.RenEnv
import GrolProofs.RenQVal
import GrolProofs.MemoMono
/-
Two-run simulations: what the C10 simulation `SimAt` and the C04 simulation `SimQ` have in common.

Run S holds the frames of run T renumbered by the shift `P.σ` (`sh`) and the values renamed accordingly (`ren`).
`Calc` is a relation between the states of the two runs with a judgement closed under the usual rules.
`Calc.J` is the form in which the body of a function is walked: a `do` block is taken apart once, and each rule
composes the simulation together with the monotonicity of run T's side (`Tr`), which the sequencing rule of the
quiet simulation asks for.  `Leaves` adds what the environment layer gives wherever the runs stand, `Walk` what
it gives for a frame that the simulation may touch (`Cur`).  The operators (`RenOps.lean`), the call helpers
(`RenHelpers.lean`) and the tree walker (`RenWalk.lean`) are proved once, for any `Calc`, `Leaves`, `Walk`;
`SimSpec` (`RenMain.lean`) and `QSpec` (`RenQMain.lean`) are read off `Walk.Spec` at the instances `simAtWalk σ`
and `simQWalk P hp`.
-/
namespace Grol.R
open Grol.E

theorem RelR.of_map {Q : α → β → Prop} {r' : R β} {f : β → α} (hq : ∀ b, r' = .ok b → Q (f b) b) :
    RelR Q (r'.map f) r' := by
  cases r' with
  | ok b => exact hq b rfl
  | error e => rfl

theorem RelR.same (r : R α) : RelR (fun a b => a = b) r r := by
  cases r <;> rfl

theorem tr_ite {c : Prop} [Decidable c] {a b : M α} (ha : Tr a) (hb : Tr b) : Tr (if c then a else b) := by
  split
  · exact ha
  · exact hb

/-- A relation `R` between the state of run S and the state of run T, and a judgement
`Sim x y s t Q` ("`x` from `s` and `y` from `t` end alike, in related states, with results related by
`Q`") closed under the rules below.  The monotonicity side conditions of `seq` are what `SimQ.bind` asks for;
`SimAt.bind` ignores them. -/
structure Calc (P : Qp) where
  R : St → St → Prop
  Sim : {α β : Type} → M α → M β → St → St → (α → β → Prop) → Prop
  cfg : ∀ {s t}, R s t → s.cfg = t.cfg
  extNames : ∀ {s t}, R s t → s.extNames = t.extNames
  cur : ∀ {s t}, R s t → s.cur = sh P.σ t.cur
  depth : ∀ {s t}, R s t → s.depth = t.depth
  steps : ∀ {s t}, R s t → s.steps = t.steps
  withDepth : ∀ {s t}, R s t → ∀ d, R { s with depth := d } { t with depth := d }
  withSteps : ∀ {s t}, R s t → ∀ n, R { s with steps := n } { t with steps := n }
  val : ∀ {α β} {a : α} {b : β} {s t} {Q : α → β → Prop}, R s t → Q a b → Sim (pure a) (pure b) s t Q
  halt : ∀ {α β} {e : Stop} {s t} {Q : α → β → Prop}, R s t → Sim (stop e : M α) (stop e : M β) s t Q
  seq : ∀ {α β γ δ} {x : M α} {y : M β} {f : α → M γ} {g : β → M δ} {s t} {Q : α → β → Prop} {Q' : γ → δ → Prop},
    Sim x y s t Q → (∀ a b s' t', R s' t' → Q a b → Sim (f a) (g b) s' t' Q') →
    Tr y → (∀ b, Tr (g b)) → Sim (x >>= f) (y >>= g) s t Q'
  cond : ∀ {α β} {c : Prop} [Decidable c] {a b : M α} {a' b' : M β} {s t} {Q : α → β → Prop},
    (c → Sim a a' s t Q) → (¬ c → Sim b b' s t Q) → Sim (if c then a else b) (if c then a' else b') s t Q
  lift : ∀ {α β} {r : Grol.E.R α} {r' : Grol.E.R β} {s t} {Q : α → β → Prop}, R s t → RelR Q r r' →
    Sim (liftR r) (liftR r') s t Q
  /-- both sides first read their state -/
  read : ∀ {α β γ δ} {x : M α} {y : M β} {f : α → M γ} {g : β → M δ} {s t} {Q' : γ → δ → Prop} {a : α} {b : β},
    runM x s = (.ok a, s) → runM y t = (.ok b, t) → Sim (f a) (g b) s t Q' → Sim (x >>= f) (y >>= g) s t Q'
  /-- both sides replace their state, run T keeping its frames -/
  put : ∀ {γ δ} {f : Unit → M γ} {g : Unit → M δ} {s t s1 t1} {Q' : γ → δ → Prop},
    t1.frames = t.frames → Sim (f ()) (g ()) s1 t1 Q' → Sim (set s1 >>= f) (set t1 >>= g) s t Q'

/-- values of run T are `clean P`; run S holds them renamed: a value is dereferenced alike -/
def Calc.Deref {P : Qp} (C : Calc P) : Prop :=
  ∀ {s t} (o : Obj), C.R s t → clean P o →
    C.Sim (valueOf (ren P.σ o)) (valueOf o) s t (fun a b => a = ren P.σ b ∧ notRef b = true ∧ clean P b)

/-- `C.J learnt x y Q`: run T's side `y` is monotone (`Tr y`), and when `learnt` holds `x` and `y` simulate from
any `C.R`-related states with results related by `Q`.  `learnt` collects what the walk has learnt
about the values bound so far; only the simulation may use it, the tails are monotone whatever was bound. -/
structure Calc.J {P : Qp} (C : Calc P) (learnt : Prop) (x : M α) (y : M β) (Q : α → β → Prop) : Prop where
  tr : Tr y
  sim : learnt → ∀ s t, C.R s t → C.Sim x y s t Q

namespace Calc.J
variable {P : Qp} {C : Calc P} {learnt : Prop}

theorem of {x : M α} {y : M β} {Q : α → β → Prop} (tr : Tr y) (h : ∀ s t, C.R s t → C.Sim x y s t Q) :
    C.J learnt x y Q := ⟨tr, fun _ => h⟩

theorem run {x : M α} {y : M β} {Q : α → β → Prop} (h : C.J True x y Q) {s t : St} (hR : C.R s t) :
    C.Sim x y s t Q := h.sim trivial s t hR

theorem pure {a : α} {b : β} {Q : α → β → Prop} (h : learnt → Q a b) : C.J learnt (pure a : M α) (pure b : M β) Q :=
  ⟨tr_pure b, fun hp _ _ hR => C.val hR (h hp)⟩

theorem stop {err : Stop} {Q : α → β → Prop} : C.J learnt (Grol.E.stop err : M α) (Grol.E.stop err : M β) Q :=
  ⟨tr_stop err, fun _ _ _ hR => C.halt hR⟩

/-- a `stop` absorbs what follows it -/
theorem stop_bind {err : Stop} {f : α → M γ} {g : β → M δ} {Q : γ → δ → Prop} :
    C.J learnt (Grol.E.stop err >>= f) (Grol.E.stop err >>= g) Q := stop

theorem bind_core {x : M α} {y : M β} {f : α → M γ} {g : β → M δ} {Q : α → β → Prop} {Q' : γ → δ → Prop}
    (hx : C.J learnt x y Q) (tg : ∀ b, Tr (g b))
    (hf : learnt → ∀ a b, Q a b → ∀ s t, C.R s t → C.Sim (f a) (g b) s t Q') : C.J learnt (x >>= f) (y >>= g) Q' :=
  ⟨tr_bind hx.tr tg, fun hp s t hR =>
    C.seq (hx.sim hp s t hR) (fun a b s' t' hR' hq => hf hp a b hq s' t' hR') hx.tr tg⟩

/-- the head's result `b` of run T is `φ b` in run S and satisfies `K`: the tail is walked for every `b`, the
simulation knowing `K b` -/
theorem bind {x : M α} {y : M β} {f : α → M γ} {g : β → M δ} {φ : β → α} {K : β → Prop} {Q' : γ → δ → Prop}
    (hx : C.J learnt x y (fun a b => a = φ b ∧ K b)) (hf : ∀ b, C.J (learnt ∧ K b) (f (φ b)) (g b) Q') :
    C.J learnt (x >>= f) (y >>= g) Q' :=
  hx.bind_core (fun b => (hf b).tr) fun hp _ b hq => hq.1 ▸ (hf b).sim ⟨hp, hq.2⟩

theorem bind_eq {x y : M α} {f : α → M γ} {g : α → M δ} {Q' : γ → δ → Prop}
    (hx : C.J learnt x y (fun a b => a = b)) (hf : ∀ b, C.J learnt (f b) (g b) Q') : C.J learnt (x >>= f) (y >>= g) Q' :=
  hx.bind_core (fun b => (hf b).tr) fun hp _ b hq => hq ▸ (hf b).sim hp

/-- a head whose result carries nothing -/
theorem seq {x y : M Unit} {f : Unit → M γ} {g : Unit → M δ} {Q : Unit → Unit → Prop} {Q' : γ → δ → Prop}
    (hx : C.J learnt x y Q) (hf : C.J learnt (f ()) (g ()) Q') : C.J learnt (x >>= f) (y >>= g) Q' :=
  hx.bind_core (fun _ => hf.tr) fun hp _ _ _ => hf.sim hp

theorem pure_bind {a : α} {b : β} {f : α → M γ} {g : β → M δ} {Q' : γ → δ → Prop} (h : C.J learnt (f a) (g b) Q') :
    C.J learnt (Pure.pure a >>= f) (Pure.pure b >>= g) Q' :=
  ⟨by rw [LawfulMonad.pure_bind]; exact h.tr, fun hp s t hR => C.read (runM_pure a s) (runM_pure b t) (h.sim hp s t hR)⟩

theorem ite {c : Prop} [Decidable c] {a b : M α} {a' b' : M β} {Q : α → β → Prop}
    (ha : c → C.J learnt a a' Q) (hb : ¬ c → C.J learnt b b' Q) :
    C.J learnt (if c then a else b) (if c then a' else b') Q := by
  by_cases h : c
  · rw [if_pos h, if_pos h]; exact ha h
  · rw [if_neg h, if_neg h]; exact hb h

theorem weaken {learnt' : Prop} {x : M α} {y : M β} {Q : α → β → Prop} (h : C.J learnt' x y Q) (hp : learnt → learnt') :
    C.J learnt x y Q :=
  ⟨h.tr, fun h' => h.sim (hp h')⟩

/-- run S's side may be rewritten with what the simulation knows -/
theorem rw_left {x x' : M α} {y : M β} {Q : α → β → Prop} (e : learnt → x = x') (h : C.J learnt x' y Q) : C.J learnt x y Q :=
  ⟨h.tr, fun hp => e hp ▸ h.sim hp⟩

theorem get_bind {f : St → M α} {g : St → M β} {Q : α → β → Prop}
    (h : ∀ s t, C.J (learnt ∧ C.R s t) (f s) (g t) Q) : C.J learnt (get >>= f) (get >>= g) Q :=
  ⟨tr_bind tr_get fun t => (h t t).tr, fun hp s t hR =>
    C.read (runM_get s) (runM_get t) ((h s t).sim ⟨hp, hR⟩ s t hR)⟩

/-- both runs read their state, and the continuations look at what is the same in both (for the T side alone take
`s := t`) -/
theorem getCfg_bind {f : St → M α} {g : St → M β} {Q : α → β → Prop}
    (h : ∀ s t, s.cfg = t.cfg → s.extNames = t.extNames → C.J learnt (f s) (g t) Q) :
    C.J learnt (get >>= f) (get >>= g) Q :=
  ⟨tr_bind tr_get fun t => (h t t rfl rfl).tr, fun hp s t hR =>
    C.read (runM_get s) (runM_get t) ((h s t (C.cfg hR) (C.extNames hR)).sim hp s t hR)⟩

/-- an update of the state, outside the frames, that keeps the runs related -/
theorem modify_bind {f : Unit → M γ} {g : Unit → M δ} {ms mt : St → St} {Q' : γ → δ → Prop}
    (hf : ∀ t, (mt t).frames = t.frames) (hm : ∀ s t, C.R s t → C.R (ms s) (mt t))
    (h : C.J learnt (f ()) (g ()) Q') : C.J learnt (modify ms >>= f) (modify mt >>= g) Q' :=
  ⟨tr_bind (tr_modify hf) fun _ => h.tr, fun hp s t hR =>
    C.read (f := fun s => set (ms s) >>= f) (g := fun t => set (mt t) >>= g) (runM_get s) (runM_get t)
      (C.put (hf t) (h.sim hp _ _ (hm s t hR)))⟩

/-- a result without references -/
theorem const (o : Obj) (h : ren P.σ o = o := by rfl) (hc : clean P o := by trivial) :
    C.J learnt (Pure.pure o : M Obj) (Pure.pure o) (QOq P) := pure fun _ => ⟨h.symm, hc⟩

theorem liftR_same (r : Grol.E.R α) : C.J learnt (liftR r) (liftR r) (fun a b => a = b) :=
  ⟨trStep.liftR r, fun _ _ _ hR => C.lift hR (RelR.same r)⟩

/-- a pure step of run T whose result run S has under `f` -/
theorem liftR {r : Grol.E.R β} {f : β → α} {Q : α → β → Prop} (hq : learnt → ∀ b, r = .ok b → Q (f b) b) :
    C.J learnt (liftR (r.map f)) (liftR r) Q :=
  ⟨trStep.liftR r, fun h _ _ hR => C.lift hR (RelR.of_map (hq h))⟩

/-- `if oerr.isError then pure oerr else pure v` -/
theorem errOr (oerr v : Obj) (hco : learnt → clean P oerr) (hcv : learnt → clean P v) :
    C.J learnt (if (ren P.σ oerr).isError = true then Pure.pure (ren P.σ oerr) else Pure.pure (ren P.σ v) : M Obj)
      (if oerr.isError = true then Pure.pure oerr else Pure.pure v) (QOq P) := by
  rw [ren_isError]
  exact ite (fun _ => pure fun h => ⟨rfl, hco h⟩) (fun _ => pure fun h => ⟨rfl, hcv h⟩)

end Calc.J

/-- `extendFunctionEnv` up to the new frame of the callee, `k` being what follows -/
def withCallFrame (f : FuncVal) (k : Nat → M α) : M α := do
  let cur ← curEnv
  let cf ← getFrame cur
  let same := sameFunction cf f
  let parent := if same then cur else f.env
  let pf ← getFrame parent
  let nenv ← newFrame { outer := some parent, cacheKey := f.key, depth := pf.depth + 1, function := some f,
                        localFunc := same && cf.localFunc }
  k nenv

theorem tr_withCallFrame {f : FuncVal} {k : Nat → M α} (hk : ∀ nenv, Tr (k nenv)) : Tr (withCallFrame f k) :=
  tr_bind trStep.curEnv fun _ => tr_bind trStep.getFrame fun _ => tr_bind trStep.getFrame fun _ =>
    tr_bind tr_newFrame hk

def renX (σ : Sh) : Except Obj Nat → Except Obj Nat
  | .ok n => .ok (sh σ n)
  | .error e => .error (ren σ e)

/-- a calculus with the leaves that do not depend on where the runs stand: dereferencing, the logs and the
cache, and the frame of a callee.  Run T numbers a frame opened since the runs were related `P.σ.n0` or above;
no value refers to such a frame yet, so the simulation may create bindings in it. -/
structure Leaves (P : Qp) extends Calc P where
  deref : toCalc.Deref
  noteHazard : ∀ {learnt : Prop} (c : Bool) (k n : String),
    toCalc.J learnt (noteHazard c k n) (noteHazard c k n) (fun _ _ => True)
  triggerNoCache : ∀ {learnt : Prop} (e : Nat),
    toCalc.J learnt (triggerNoCache (sh P.σ e)) (triggerNoCache e) (fun _ _ => True)
  writeOut : ∀ {learnt : Prop} (b : List UInt8), toCalc.J learnt (writeOut b) (writeOut b) (fun _ _ => True)
  cacheSet : ∀ {learnt : Prop} (key : String) (args : List Obj) (res : Obj) (output : List UInt8),
    toCalc.J learnt (cacheSet key (renL P.σ args) (ren P.σ res) output) (cacheSet key args res output)
      (fun _ _ => True)
  callFrame : ∀ {learnt : Prop} (f : FuncVal) {α : Type} {k k' : Nat → M α} {Q : α → α → Prop},
    (∀ nenv, toCalc.J (learnt ∧ P.σ.n0 ≤ nenv) (k (sh P.σ nenv)) (k' nenv) Q) →
    toCalc.J learnt (withCallFrame (renFn P.σ f) k) (withCallFrame f k') Q
  createIn : ∀ {learnt : Prop} (e : Nat) (name : String) (val : Obj), (learnt → P.σ.n0 ≤ e) →
    (learnt → clean P val) →
    toCalc.J learnt (createOrSet (sh P.σ e) name (ren P.σ val) true) (createOrSet e name val true) (QOq P)
  setNoChecksIn : ∀ {learnt : Prop} (e : Nat) (name : String) (val : Obj), (learnt → P.σ.n0 ≤ e) →
    (learnt → clean P val) →
    toCalc.J learnt (setNoChecks (sh P.σ e) name (ren P.σ val) true) (setNoChecks e name val true) (QOq P)

/-- the leaves of the tree walker: `Cur e` says that the simulation may read and write the bindings of frame
`e` of run T (in the C10 simulation any frame, in the quiet simulation the quiet frame) -/
structure Walk (P : Qp) extends Leaves P where
  Cur : Nat → Prop
  curOk : ∀ {s t}, R s t → Cur t.cur
  envGet : ∀ {learnt : Prop} (e : Nat) (name : String), (learnt → Cur e) →
    toCalc.J learnt (envGet (sh P.σ e) name) (envGet e name) (QOptq P)
  envSet : ∀ {learnt : Prop} (e : Nat) (name : String) (val : Obj), (learnt → Cur e) → (learnt → clean P val) →
    toCalc.J learnt (envSet (sh P.σ e) name (ren P.σ val)) (envSet e name val) (QOq P)
  createOrSet : ∀ {learnt : Prop} (e : Nat) (name : String) (val : Obj) (create : Bool), (learnt → Cur e) →
    (learnt → clean P val) →
    toCalc.J learnt (createOrSet (sh P.σ e) name (ren P.σ val) create) (createOrSet e name val create) (QOq P)
  refValue : ∀ {learnt : Prop} (e : Nat) (name : String), (learnt → ¬ P.D e name) →
    toCalc.J learnt (refValue (sh P.σ e) name) (refValue e name) (QOq P)

theorem Leaves.valueOf {P : Qp} (W : Leaves P) {learnt : Prop} (o : Obj) (hc : learnt → clean P o) :
    W.J learnt (valueOf (ren P.σ o)) (valueOf o) (fun a b => a = ren P.σ b ∧ notRef b = true ∧ clean P b) :=
  ⟨trStep.valueOf, fun h _ _ hR => W.deref o hR (hc h)⟩

end Grol.R
