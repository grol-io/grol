import GrolProofs.ParseSafe
/- `streamWFb` is what the C08 test driver (`Grol/ParseSuite.lean`) evaluates on the token streams of the real lexer;
where it answers `true`, `StreamWF` holds. -/
namespace Grol.Parser
open Grol.Generated

theorem tokWF_of_b {s : TokStream} {i : Nat} (h : tokWFb s i = true) : TokWF s i := by
  unfold tokWFb at h
  simp only [Bool.and_eq_true, decide_eq_true_eq] at h
  refine ⟨h.1, fun hl => ?_⟩
  have h2 := h.2
  rw [if_pos hl] at h2
  simp only [Bool.or_eq_true, decide_eq_true_eq] at h2
  rcases h2 with (h2 | h2) | h2
  · exact Or.inl h2
  · exact Or.inr (Or.inl h2)
  · exact Or.inr (Or.inr h2)

theorem streamWF_of_b {s : TokStream} (h : streamWFb s = true) : StreamWF s := by
  intro i
  unfold streamWFb at h
  rw [List.all_eq_true] at h
  by_cases hi : i ≤ s.toks.length
  · exact tokWF_of_b (h i (List.mem_range.mpr (by omega)))
  · have hl := tokWF_of_b (h s.toks.length (List.mem_range.mpr (by omega)))
    have e1 : s.get i = s.get s.toks.length := by
      rw [get_of_le s (by omega), get_of_le s (Nat.le_refl _)]
    have e2 : s.get (i + 1) = s.get (s.toks.length + 1) := by
      rw [get_of_le s (by omega), get_of_le s (by omega)]
    unfold TokWF at hl ⊢
    rw [e1, e2]
    exact hl

end Grol.Parser
