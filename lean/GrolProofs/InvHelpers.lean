import GrolProofs.InvOps
import GrolProofs.CallRun
/-
The non recursive helpers of lean/Grol/Eval/Eval.lean.
-/
namespace Grol.G
open Grol.E Grol.K

variable {P : Policy}

theorem Inv.update {st st' : St} (hI : Inv P st) (hf : st'.frames = st.frames) (hc : st'.cur < st.frames.size)
    (hr : st'.root = st.root) (hcache : ∀ c, c ∈ st'.cache → okObj P st.frames.size c.result = true) : Inv P st' := by
  constructor
  · rw [hf]; exact hc
  · rw [hf, hr]; exact hI.root
  · rw [hf]; exact hI.frames
  · rw [hf]; exact hcache

theorem post_writeOut {st : St} (hI : Inv P st) (b : List UInt8) :
    Post P (writeOut b) st (fun _ s => s.frames = st.frames ∧ s.cur = st.cur) := by
  unfold writeOut
  refine Post.modify ?_ ?_ ?_ ?_
  · split <;> exact hI.update rfl hI.cur rfl hI.cache
  · split <;> exact Nat.le_refl _
  · split <;> exact Kept.of_frames rfl
  · split <;> exact ⟨rfl, rfl⟩

theorem post_noteHazard {st : St} (hI : Inv P st) (c : Bool) (k n : String) :
    Post P (noteHazard c k n) st (fun _ s => s.frames = st.frames ∧ s.cur = st.cur) := by
  unfold noteHazard
  split
  · exact Post.modify (hI.update rfl hI.cur rfl hI.cache) (Nat.le_refl _) (Kept.of_frames rfl) ⟨rfl, rfl⟩
  · exact Post.pure hI ⟨rfl, rfl⟩

/-- instrumentation does not matter: continue from a state with the same frames -/
theorem noteHazard_bind {st : St} (hI : Inv P st) (c : Bool) (k n : String) {f : Unit → M β} {R : β → St → Prop}
    (h : ∀ s, Inv P s → s.frames.size = st.frames.size → Post P (f ()) s R) : Post P (noteHazard c k n >>= f) st R := by
  refine Post.bind (post_noteHazard hI c k n) ?_
  intro _ s hIs _ hs
  exact h s hIs (by rw [hs.1])

theorem post_evalIdentifier {st : St} (hI : Inv P st) (name : String) : Post P (evalIdentifier name) st (OkO P) := by
  unfold evalIdentifier
  refine Post.bind_read (runM_get st) ?_
  split
  · exact Post.pure hI rfl
  · refine Post.bind (post_envGet_ok hI hI.cur name) ?_
    intro r s hIs _ hr
    split
    · next v => exact Post.pure hIs (hr v rfl)
    · exact Post.pure hIs okObj_err

theorem okObj_incrValue {n : Nat} {v nv : Obj} {a : Int64} (h : incrValue v a = some nv) : okObj P n nv = true := by
  unfold incrValue at h
  split at h <;> first | (cases h; simp [okObj]) | cases h

theorem post_errOr {st : St} (hI : Inv P st) {oerr v : Obj} (h1 : okObj P st.frames.size oerr = true)
    (h2 : okObj P st.frames.size v = true) : Post P (if oerr.isError = true then pure oerr else pure v : M Obj) st (OkO P) := by
  split
  · exact Post.pure hI h1
  · exact Post.pure hI h2

theorem post_evalPrefixIncrDecr {st : St} (hI : Inv P st) (op : String) (node : Node) :
    Post P (evalPrefixIncrDecr op node) st (OkO P) := by
  unfold evalPrefixIncrDecr
  split
  · next id =>
    refine Post.bind_read (runM_curEnv st) ?_
    refine Post.bind (post_envGet_ok hI hI.cur id) ?_
    intro r s hIs hle hr
    split
    · exact Post.pure hIs okObj_err
    · next val =>
      refine Post.bind (post_valueOf hIs (hr val rfl)) ?_
      rintro v s' hIs' _ ⟨rfl, _, _⟩
      split
      · next nv hnv => exact post_envSet hIs' (by have := hI.cur; omega) id (okObj_incrValue hnv)
      · exact Post.pure hIs' okObj_err
  · exact Post.pure hI okObj_err

theorem post_evalPostfix {st : St} (hI : Inv P st) (op : String) (id : String) :
    Post P (evalPostfix op id) st (OkO P) := by
  unfold evalPostfix
  refine Post.bind_read (runM_curEnv st) ?_
  refine Post.bind (post_envGet_ok hI hI.cur id) ?_
  intro r s hIs hle hr
  split
  · exact Post.pure hIs okObj_err
  · next val =>
    refine Post.bind (post_valueOf hIs (hr val rfl)) ?_
    rintro v s' hIs' _ ⟨rfl, hv, _⟩
    dsimp only
    split
    · exact Post.pure hIs' okObj_err
    · split
      · exact Post.pure hIs' okObj_err
      · next nv hnv =>
        refine Post.bind (post_envSet hIs' (by have := hI.cur; omega) id (okObj_incrValue hnv)) ?_
        intro oerr s'' hIs'' hle' ho
        exact post_errOr hIs'' ho (okObj_mono hle' _ hv)

theorem post_evalIndexAssignment {st : St} (hI : Inv P st) (which : Node) {index value : Obj}
    (hi : okObj P st.frames.size index = true) (hv : okObj P st.frames.size value = true) :
    Post P (evalIndexAssignment which index value) st (OkO P) := by
  unfold evalIndexAssignment
  refine Post.bind (post_valueOf hI hi) ?_
  rintro index s0 hI0 _ ⟨rfl, hi, _⟩
  refine Post.bind (post_valueOf hI0 hv) ?_
  rintro value st hI _ ⟨rfl, hv, _⟩
  split
  · next id =>
    refine Post.bind_read (runM_curEnv st) ?_
    refine Post.bind (post_envGet_ok hI hI.cur id) ?_
    intro r s hIs hle hr
    have hcur : st.cur < s.frames.size := by have := hI.cur; omega
    have hi' := okObj_mono hle _ hi
    have hv' := okObj_mono hle _ hv
    split
    · exact Post.pure hIs okObj_err
    · next val =>
      refine Post.bind (post_valueOf hIs (hr val rfl)) ?_
      rintro v s' hIs' _ ⟨rfl, hval, _⟩
      split
      · next els =>
        simp only [okObj] at hval
        split
        · exact Post.pure hIs' okObj_err
        · dsimp only
          refine Post.ite (fun _ => Post.pure hIs' okObj_err) (fun _ => ?_)
          refine Post.bind_read (runM_get s') ?_
          refine noteHazard_bind hIs' _ _ _ ?_
          intro s2 hIs2 hsz2
          refine Post.bind (post_envSet hIs2 (by omega) id (val := newArray _)
            (by simp only [newArray, okObj]; rw [hsz2]; exact okList_set hval hv')) ?_
          intro oerr s'' hIs'' hle' ho
          exact post_errOr hIs'' ho (okObj_mono (by omega) _ hv')
      · next big kvs =>
        simp only [okObj] at hval
        refine Post.bind_read (runM_get s') ?_
        refine Post.bind (Q := fun res s'' => s'' = s' ∧ okPairs P s'.frames.size res.2 = true)
          (Post.liftR hIs' (mapSet_npr _ _ _ _ _) (fun res hres => ⟨rfl, mapSet_ok hval hi' hv' hres⟩)) ?_
        rintro ⟨big', kvs'⟩ s'' hIs'' _ ⟨rfl, hk⟩
        dsimp only
        refine noteHazard_bind hIs'' _ _ _ ?_
        intro s2 hIs2 hsz2
        refine Post.bind (post_envSet hIs2 (by omega) id (val := .map big' kvs') (by rw [hsz2]; simpa [okObj] using hk)) ?_
        intro oerr s3 hIs3 hle' ho
        exact post_errOr hIs3 ho (okObj_mono (by omega) _ hv')
      · exact Post.pure hIs' okObj_err
  · exact Post.pure hI okObj_err

theorem post_deleteMapEntry {st : St} (hI : Inv P st) (left : Node) (index : Obj) :
    Post P (deleteMapEntry left index) st (OkO P) := by
  unfold deleteMapEntry
  split
  · next id =>
    refine Post.bind_read (runM_curEnv st) ?_
    refine Post.bind (post_envGet_ok hI hI.cur id) ?_
    intro r s hIs hle hr
    have hcur : st.cur < s.frames.size := by have := hI.cur; omega
    split
    · exact Post.pure hIs rfl
    · next obj0 =>
      refine Post.bind (post_valueOf hIs (hr obj0 rfl)) ?_
      rintro obj s' hIs' _ ⟨rfl, hobj, _hnr⟩
      split
      · next big kvs =>
        simp only [okObj] at hobj
        refine Post.bind (Q := fun res s'' => s'' = s' ∧ ∀ k, res = some k → okPairs P s'.frames.size k = true)
          (Post.liftR hIs' (mapDelete_npr _ _) (fun res hres => ⟨rfl, fun k hk => by subst hk; exact mapDelete_ok hobj hres⟩)) ?_
        rintro res s'' hIs'' _ ⟨rfl, hk⟩
        split
        · exact Post.pure hIs'' rfl
        · next kvs' =>
          refine noteHazard_bind hIs'' _ _ _ ?_
          intro s2 hIs2 hsz2
          refine Post.bind (post_envSet hIs2 (by omega) id (val := .map big kvs') (by rw [hsz2]; simpa [okObj] using hk kvs' rfl)) ?_
          intro oerr s3 hIs3 hle' ho
          exact post_errOr hIs3 ho rfl
      · exact Post.pure hIs' okObj_err
  · exact Post.pure hI okObj_err

theorem post_derefList : ∀ (l : List Obj) {st : St} (_ : Inv P st) (_ : okList P st.frames.size l = true),
    Post P (derefList l) st (fun r s => s = st ∧ okList P st.frames.size r = true)
  | [], st, hI, _ => by
    unfold derefList
    exact Post.pure hI ⟨rfl, rfl⟩
  | x :: xs, st, hI, hl => by
    unfold derefList
    simp only [okList, Bool.and_eq_true] at hl
    refine Post.bind (post_valueOf hI hl.1) ?_
    rintro v s hIs _ ⟨rfl, hv, _⟩
    refine Post.bind (post_derefList xs hIs hl.2) ?_
    rintro vs s' hIs' _ ⟨rfl, hvs⟩
    exact Post.pure hIs' ⟨rfl, by simp [okList, hv, hvs]⟩

theorem cacheLookup_mem {st : St} {key : String} {args : List Obj} {v : Obj} {o : Grol.Wire.Bytes}
    (h : cacheLookup st key args = some (v, o)) : ∃ c, c ∈ st.cache ∧ c.result = v := by
  unfold cacheLookup at h
  split at h; · cases h
  split at h; · cases h
  split at h; · cases h
  split at h
  · next c hc => cases h; exact ⟨c, List.mem_of_find?_eq_some hc, rfl⟩
  · cases h

theorem post_cacheGet {st : St} (hI : Inv P st) (key : String) (args : List Obj) :
    Post P (cacheGet key args) st (fun r s => s = st ∧ ∀ v o, r = some (v, o) → okObj P st.frames.size v = true) := by
  refine Post.of_ok (run_cacheGet key args st) hI (.refl _) ⟨rfl, fun v o h => ?_⟩
  obtain ⟨c, hc, rfl⟩ := cacheLookup_mem h
  exact hI.cache c hc

theorem post_cacheSet {st : St} (hI : Inv P st) (key : String) (args : List Obj) {res : Obj}
    (hres : okObj P st.frames.size res = true) (output : List UInt8) :
    Post P (cacheSet key args res output) st (fun _ s => s.frames = st.frames ∧ s.cur = st.cur) := by
  unfold cacheSet
  refine Post.bind_read (runM_get st) ?_
  split
  · exact Post.pure hI ⟨rfl, rfl⟩
  · split
    · exact Post.pure hI ⟨rfl, rfl⟩
    · split
      · exact Post.pure hI ⟨rfl, rfl⟩
      · dsimp only
        refine Post.set (hI.update rfl hI.cur rfl ?_) (Nat.le_refl _) (Kept.of_frames rfl) ⟨rfl, rfl⟩
        intro c hc
        rcases List.mem_cons.1 hc with h | h
        · subst h; exact hres
        · exact hI.cache c (List.mem_filter.1 h).1


theorem post_finishCall {st : St} (hI : Inv P st) (f : FuncVal) (args : List Obj) {curState : Nat}
    (hcur : curState < st.frames.size) (before after : Nat) (cantCache : Bool) {res : Obj}
    (hres : okObj P st.frames.size res = true) (output : List UInt8) :
    Post P (finishCall f args curState before after cantCache res output) st (OkO P) := by
  unfold finishCall
  extract_lets _x jp
  have hjp : ∀ s', Inv P s' → st.frames.size ≤ s'.frames.size → Post P (jp ()) s' (OkO P) := by
    intro s' hIs' hle'
    have hres' : okObj P s'.frames.size res = true := okObj_mono hle' _ hres
    unfold jp
    refine Post.ite (fun _ => ?_) (fun _ => ?_)
    · refine Post.bind (post_triggerNoCache hIs' (by omega)) ?_
      intro _ s'' hIs'' hle'' _
      exact Post.pure hIs'' (okObj_mono hle'' _ hres')
    · refine Post.ite (fun _ => Post.pure hIs' hres') (fun _ => ?_)
      refine Post.ite (fun _ => Post.pure hIs' hres') (fun _ => ?_)
      refine Post.bind (post_cacheSet hIs' f.key args hres' output) ?_
      intro _ s'' hIs'' hle'' _
      exact Post.pure hIs'' (okObj_mono hle'' _ hres')
  refine Post.ite (fun _ => ?_) (fun _ => hjp st hI (Nat.le_refl _))
  refine Post.bind (post_writeOut hI output) ?_
  intro _ s5 hI5 hle5 _
  exact hjp s5 hI5 hle5

theorem post_newFrame {st : St} (hI : Inv P st) {nf : Frame}
    (ho : ∀ o, nf.outer = some o → o < st.frames.size ∧ ∀ fo, st.frames[o]? = some fo → fo.depth < nf.depth)
    (hf : ∀ fn, nf.function = some fn → fn.env < st.frames.size ∧ okFn P fn = true)
    (hs : nf.store = []) :
    Post P (newFrame nf) st (fun r s => r = st.frames.size ∧ s.frames.size = st.frames.size + 1 ∧ s.cur = st.cur) := by
  unfold newFrame
  refine Post.bind_read (runM_get st) ?_
  refine Post.bind (Q := fun _ s => s.frames.size = st.frames.size + 1 ∧ s.cur = st.cur)
    (Post.set (hI.push ho hf hs) (by simp) (Kept.push _) ⟨by simp, rfl⟩) ?_
  intro _ s hIs _ hs
  exact Post.pure hIs ⟨rfl, hs.1, hs.2⟩

theorem post_bindParams : ∀ (l : List (String × Obj)) {st : St} (_ : Inv P st) {nenv : Nat}
    (_ : nenv < st.frames.size) (_ : ∀ p a, (p, a) ∈ l → okObj P st.frames.size a = true),
    Post P (bindParams nenv l) st (OkOpt P)
  | [], st, hI, nenv, _, _ => by
    unfold bindParams
    exact Post.pure hI okOpt_none
  | (p, a) :: rest, st, hI, nenv, hn, hl => by
    unfold bindParams
    refine Post.bind (post_valueOf hI (hl p a List.mem_cons_self)) ?_
    rintro pval s hIs _ ⟨rfl, hpv, _⟩
    have hrest : ∀ s1, Inv P s1 → s.frames.size ≤ s1.frames.size → Post P (do
        let oerr ← createOrSet nenv p pval true
        if oerr.isError = true then pure (some oerr) else bindParams nenv rest) s1 (OkOpt P) := by
      intro s1 hI1 hle1
      refine Post.bind (post_createOrSet hI1 (by omega) p (okObj_mono hle1 _ hpv) true) ?_
      intro oerr s' hIs' hle ho
      split
      · exact Post.pure hIs' (fun v hv => by cases hv; exact ho)
      · exact post_bindParams rest hIs' (by omega)
          (fun p' a' h => okObj_mono (Nat.le_trans hle1 hle) _ (hl p' a' (List.mem_cons_of_mem _ h)))
    dsimp only
    split
    · refine Post.bind (post_triggerNoCache hIs hn) ?_
      intro _ s1 hI1 hle1 _
      exact hrest s1 hI1 hle1
    · exact hrest s hIs (Nat.le_refl _)

theorem splitArgs_ok {n : Nat} (f : FuncVal) {args : List Obj} (h : okList P n args = true) :
    okList P n (splitArgs f args).2.1 = true ∧ okList P n (splitArgs f args).2.2 = true := by
  unfold splitArgs
  have key : ∀ (A : List Obj) (k : Nat) (p : List String), okList P n A = true →
      okList P n (if A.length ≥ k then (p, A.take k, A.drop k) else (p, A, [])).2.1 = true ∧
      okList P n (if A.length ≥ k then (p, A.take k, A.drop k) else (p, A, [])).2.2 = true := by
    intro A k p hA
    split
    · exact ⟨okList_take hA, okList_drop hA⟩
    · exact ⟨hA, rfl⟩
  split
  · dsimp only
    split
    · next els hl =>
      have hm := List.mem_of_getLast? hl
      have := (okList_iff.1 h) _ hm
      simp only [okObj] at this
      refine key _ _ _ (okList_append ?_ this)
      rw [okList_iff]
      exact fun x hx => (okList_iff.1 h) x (List.dropLast_subset _ hx)
    · exact key _ _ _ h
  · exact ⟨h, rfl⟩

theorem post_extendFunctionEnv {st : St} (hI : Inv P st) {f : FuncVal} (hf : f.env < st.frames.size)
    (hfo : okFn P f = true)
    {args : List Obj} (hargs : okList P st.frames.size args = true) :
    Post P (extendFunctionEnv f args) st (fun r s =>
      (∀ nenv, r = .ok nenv → nenv < s.frames.size) ∧ (∀ e, r = .error e → okObj P s.frames.size e = true)) := by
  unfold extendFunctionEnv
  refine Post.bind_read (runM_curEnv st) ?_
  obtain ⟨cf, hcf⟩ := frame_exists hI.cur
  refine Post.bind_read (runM_getFrame hcf) ?_
  dsimp only
  have hp : (if (sameFunction cf f) = true then st.cur else f.env) < st.frames.size := by
    split
    · exact hI.cur
    · exact hf
  generalize (if (sameFunction cf f) = true then st.cur else f.env) = parent at hp
  obtain ⟨pf, hpf⟩ := frame_exists hp
  refine Post.bind_read (runM_getFrame hpf) ?_
  refine Post.bind (post_newFrame hI (nf := { outer := some parent, depth := pf.depth + 1, cacheKey := f.key, function := some f, localFunc := (sameFunction cf f && cf.localFunc) })
    ?_ ?_ rfl) ?_
  · intro o ho
    cases ho
    refine ⟨hp, ?_⟩
    intro fo hfo
    rw [hpf] at hfo; cases hfo
    exact Nat.lt_succ_self _
  · intro fn hfn
    cases hfn
    exact ⟨hf, hfo⟩
  · rintro nenv s hIs hle ⟨rfl, hsz, _⟩
    have hn : st.frames.size < s.frames.size := by omega
    have hrest : ∀ (args2 : List Obj) (s2 : St), Inv P s2 → s.frames.size ≤ s2.frames.size →
        okList P s.frames.size args2 = true →
        Post P (if ((splitArgs f args2).2.fst.length != (splitArgs f args2).fst.length) = true then
            pure (Except.error (err "wrong number of arguments"))
          else do
            let __do_lift ← bindParams st.frames.size ((splitArgs f args2).fst.zip (splitArgs f args2).2.fst)
            match __do_lift with
              | some oerr => pure (Except.error oerr)
              | none =>
                if f.variadic = true then do
                  let _ ← setNoChecks st.frames.size ".." (newArray (splitArgs f args2).2.snd) true
                  pure (Except.ok st.frames.size)
                else pure (Except.ok st.frames.size)) s2 (fun r s =>
          (∀ nenv, r = .ok nenv → nenv < s.frames.size) ∧ (∀ e, r = .error e → okObj P s.frames.size e = true)) := by
      intro args2 s2 hIs2 hle2 hargs2
      obtain ⟨ha, he⟩ := splitArgs_ok (n := s.frames.size) f hargs2
      generalize splitArgs f args2 = sp at ha he
      obtain ⟨params, args', extra⟩ := sp
      dsimp only at ha he ⊢
      split
      · exact Post.pure hIs2 ⟨fun _ h => (by cases h), fun e h => (by cases h; exact okObj_err)⟩
      · refine Post.bind (post_bindParams (params.zip args') hIs2 (by omega) ?_) ?_
        · intro p a hpa
          exact okObj_mono (by omega) _ ((okList_iff.1 ha) a (List.of_mem_zip hpa).2)
        · intro r s' hIs' hle' hr
          split
          · next oerr => exact Post.pure hIs' ⟨fun _ h => (by cases h), fun e h => (by cases h; exact hr oerr rfl)⟩
          · have hfin : ∀ s3 : St, Inv P s3 → s'.frames.size ≤ s3.frames.size →
                Post P (pure (Except.ok st.frames.size) : M (Except Obj Nat)) s3 (fun r s =>
                  (∀ nenv, r = .ok nenv → nenv < s.frames.size) ∧ (∀ e, r = .error e → okObj P s.frames.size e = true)) := by
              intro s3 hIs3 hle3
              exact Post.pure hIs3 ⟨fun _ h => (by cases h; omega), fun e h => (by cases h)⟩
            split
            · refine Post.bind (post_setNoChecks hIs' (by omega) ".." (val := newArray extra) ?_ true
                (SetOk.of_unprot (P.unprot_of_not_const (by decide)))) ?_
              · simp only [newArray, okObj]
                exact okList_mono (by omega) _ he
              · intro _ s3 hIs3 hle3 _
                exact hfin s3 hIs3 hle3
            · exact hfin s' hIs' (Nat.le_refl _)
    refine Post.ite (fun _ => ?_) (fun _ => ?_)
    · split
      · next last hl =>
        have hlast : okObj P st.frames.size last = true := (okList_iff.1 hargs) _ (List.mem_of_getLast? hl)
        refine Post.bind (post_valueOf hIs (okObj_mono hle _ hlast)) ?_
        rintro v s1 hIs1 _ ⟨rfl, hv, _⟩
        refine Post.bind_read (runM_pure _ s1) ?_
        refine hrest _ s1 hIs1 (Nat.le_refl _) ?_
        refine okList_append ?_ (by simp [okList, hv])
        rw [okList_iff]
        exact fun x hx => okObj_mono hle _ ((okList_iff.1 hargs) x (List.dropLast_subset _ hx))
      · refine Post.bind_read (runM_pure _ s) ?_
        exact hrest _ s hIs (Nat.le_refl _) (okList_mono hle _ hargs)
    · refine Post.bind_read (runM_pure _ s) ?_
      exact hrest _ s hIs (Nat.le_refl _) (okList_mono hle _ hargs)

end Grol.G
