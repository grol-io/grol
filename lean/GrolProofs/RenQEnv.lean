import GrolProofs.RenQBase
/-
C04, the quiet simulation: the environment operations (lean/Grol/Eval/Env.lean) in the two runs of the
quiet simulation.  Reads of a binding go through `FrQ.lk`, which needs the binding not to be dirty:
a clean reference never points to a dirty binding, a name looked up from a new frame that is
all-caps is never dirty, and a lookup of another name that finds a dirty binding moves the counter
of the frame the lookup works for (`Loud`), which the hypothesis of `SimQ` excludes.
-/
namespace Grol.R
open Grol.E

/-! ### frames of the two runs -/

theorem StRq.none {P : Qp} {s t : St} (hR : StRq P s t) {e : Nat} (h : t.frames[e]? = none) :
    s.frames[sh P.σ e]? = none := by
  have h1 : t.frames.size ≤ e := by
    rcases Nat.lt_or_ge e t.frames.size with h2 | h2
    · rw [Array.getElem?_eq_getElem h2] at h; cases h
    · exact h2
  apply Array.getElem?_eq_none
  rw [hR.size, sh_of_ge P.σ (Nat.le_trans hR.n0 h1)]
  omega

/-- `getFrame` on both sides: run T panics (nothing to show), or both continue with related frames -/
theorem qsim_getFrame_bind {P : Qp} {s t : St} (hR : StRq P s t) (e : Nat) {f : Frame → M α} {g : Frame → M β}
    {Q : α → β → Prop}
    (h : ∀ fs ft, t.frames[e]? = some ft → s.frames[sh P.σ e]? = some fs → FrQ P e fs ft →
      SimQ P (f fs) (g ft) s t Q) :
    SimQ P (getFrame (sh P.σ e) >>= f) (getFrame e >>= g) s t Q := by
  cases hte : t.frames[e]? with
  | none =>
    intro b t' hy _
    rw [runM_bind, runM_getFrame_none hte] at hy
    cases hy
  | some ft =>
    obtain ⟨fs, hfs, hfr⟩ := hR.frames e ft hte
    exact SimQ.bind_read (runM_getFrame hfs) (runM_getFrame hte) (h fs ft hte hfs hfr)

/-- replacing related frames by related frames -/
theorem StRq.setFrame {P : Qp} {s t : St} (hR : StRq P s t) {e : Nat} {ft : Frame} (hte : t.frames[e]? = some ft)
    {fs' ft' : Frame} (hfr : FrQ P e fs' ft') (hdec : FrameDec e ft') :
    StRq P { s with frames := s.frames.setIfInBounds (sh P.σ e) fs' }
      { t with frames := t.frames.setIfInBounds e ft' } := by
  have hlt := lt_of_frame hte
  obtain ⟨fs, hfs, _⟩ := hR.frames e ft hte
  have hlts := lt_of_frame hfs
  refine { hR with size := ?_, n0 := ?_, frames := ?_, dec := ?_ }
  · simp only [Array.size_setIfInBounds]; exact hR.size
  · simp only [Array.size_setIfInBounds]; exact hR.n0
  · intro i fi hi
    simp only [Array.getElem?_setIfInBounds] at hi ⊢
    by_cases hei : e = i
    · subst hei
      simp only [hlt, if_true] at hi
      cases hi
      exact ⟨fs', by simp [hlts], hfr⟩
    · simp only [hei, if_false] at hi
      obtain ⟨fsi, hfsi, hfri⟩ := hR.frames i fi hi
      refine ⟨fsi, ?_, hfri⟩
      have : sh P.σ e ≠ sh P.σ i := fun h => hei (sh_inj P.σ h)
      simp only [this, if_false]
      exact hfsi
  · intro i fi hi
    simp only [Array.getElem?_setIfInBounds] at hi
    by_cases hei : e = i
    · subst hei
      simp only [hlt, if_true] at hi
      cases hi
      exact hdec
    · simp only [hei, if_false] at hi
      exact hR.dec i fi hi

theorem qsim_modifyFrame {P : Qp} {s t : St} (hR : StRq P s t) (e : Nat) {g' g : Frame → Frame}
    (hg : ∀ fs ft, t.frames[e]? = some ft → FrQ P e fs ft → FrQ P e (g' fs) (g ft) ∧ FrameDec e (g ft)) :
    SimQ P (modifyFrame (sh P.σ e) g') (modifyFrame e g) s t (fun _ _ => True) := by
  cases hte : t.frames[e]? with
  | none =>
    intro b t' hy _
    unfold modifyFrame at hy
    rw [runM_bind, runM_getFrame_none hte] at hy
    cases hy
  | some ft =>
    obtain ⟨fs, hfs, hfr⟩ := hR.frames e ft hte
    obtain ⟨h1, h2⟩ := hg fs ft hte hfr
    intro b t' hy _
    rw [runM_modifyFrame hte] at hy
    cases hy
    exact ⟨(), _, runM_modifyFrame hfs _, hR.setFrame hte h1 h2, trivial⟩

/-- the miss counter goes up by one on both sides -/
theorem qsim_bump {P : Qp} {s t : St} (hR : StRq P s t) (e : Nat) {g : Frame → Frame}
    (hg : ∀ f, (g f).store = f.store ∧ (g f).outer = f.outer ∧ (g f).depth = f.depth ∧
      (g f).cacheKey = f.cacheKey ∧ (g f).function = f.function ∧ (g f).getMiss = f.getMiss + 1)
    (hc : ∀ fs ft : Frame, fs.cantCache = ft.cantCache → (g fs).cantCache = (g ft).cantCache)
    (hl : ∀ f, (g f).localFunc = f.localFunc := by intro f; rfl) :
    SimQ P (modifyFrame (sh P.σ e) g) (modifyFrame e g) s t (fun _ _ => True) := by
  refine qsim_modifyFrame hR e ?_
  intro fs ft hte hfr
  obtain ⟨a1, a2, a3, a4, a5, a6⟩ := hg fs
  obtain ⟨b1, b2, b3, b4, b5, b6⟩ := hg ft
  refine ⟨⟨by rw [a2, b2]; exact hfr.outer, by rw [a3, b3]; exact hfr.depth,
    by rw [a4, b4]; exact hfr.cacheKey, by rw [a5, b5]; exact hfr.function,
    by rw [a1, b1]; exact hfr.lk, by rw [b1]; exact hfr.cl, by rw [b1, b3]; exact hfr.dirty, ?_, ?_,
    by rw [hl fs, hl ft]; exact hfr.localFunc, by rw [a1, b3]; exact hfr.dirtyS⟩, ?_⟩
  · intro h
    obtain ⟨h1, h2⟩ := hfr.missNew h
    exact ⟨by rw [a6, b6, h1], hc fs ft h2⟩
  · intro h
    have := hfr.missOld h
    rw [a6, b6]; omega
  · have := hR.dec e ft hte
    exact ⟨by rw [b2]; exact this.1, by rw [b1]; exact this.2⟩

theorem qsim_bumpMiss {P : Qp} {s t : St} (hR : StRq P s t) (e : Nat) :
    SimQ P (modifyFrame (sh P.σ e) fun f => { f with getMiss := f.getMiss + 1 })
      (modifyFrame e fun f => { f with getMiss := f.getMiss + 1 }) s t (fun _ _ => True) :=
  qsim_bump hR e (fun f => ⟨rfl, rfl, rfl, rfl, rfl, rfl⟩) (fun _ _ h => h)

theorem qsim_triggerNoCache {P : Qp} {s t : St} (hR : StRq P s t) (e : Nat) :
    SimQ P (triggerNoCache (sh P.σ e)) (triggerNoCache e) s t (fun _ _ => True) := by
  unfold triggerNoCache
  exact qsim_bump hR e (fun f => ⟨rfl, rfl, rfl, rfl, rfl, rfl⟩) (fun _ _ _ => rfl)

/-! ### references -/

/-- `refValue` of a binding that is not dirty -/
theorem qsim_refValue {P : Qp} {s t : St} (hR : StRq P s t) (env : Nat) (name : String) (hnd : ¬ P.D env name) :
    SimQ P (refValue (sh P.σ env) name) (refValue env name) s t
      (fun a b => a = ren P.σ b ∧ clean P b ∧ ∀ e' n', b = Obj.ref e' n' → e' < env) := by
  unfold refValue
  refine qsim_getFrame_bind hR env ?_
  intro fs ft hte hfs hfr
  rw [hfr.lk name hnd]
  cases hl : lookupStore ft.store name with
  | none => exact SimQ.pure hR ⟨rfl, trivial, fun _ _ h => by cases h⟩
  | some v =>
    have hcv := hfr.cl name v hnd hl
    obtain ⟨k, hk⟩ := lookupStore_mem hl
    cases v with
    | ref e n =>
      have hlt : e < env := (hR.dec env ft hte).2 k e n hk
      simp only [Option.map, ren]
      have h1 : (e == env && n == name) = false := by
        have : (e == env) = false := by simp; omega
        simp [this]
      have h2 : (sh P.σ e == sh P.σ env && n == name) = false := by
        have : (sh P.σ e == sh P.σ env) = false := by
          have := sh_lt P.σ hlt
          simp; omega
        simp [this]
      simp only [h1, h2]
      exact SimQ.pure hR ⟨rfl, hcv, fun e' n' h => by cases h; exact hlt⟩
    | _ => exact SimQ.pure hR ⟨rfl, hcv, fun _ _ h => by cases h⟩

theorem qsim_refAlive {P : Qp} {s t : St} (hR : StRq P s t) (env : Nat) (name : String) (hnd : ¬ P.D env name) :
    SimQ P (refAlive (sh P.σ env) name) (refAlive env name) s t (fun a b => a = b) := by
  unfold refAlive
  refine qsim_getFrame_bind hR env ?_
  intro fs ft hte hfs hfr
  rw [hfr.lk name hnd]
  refine SimQ.pure hR ?_
  cases lookupStore ft.store name <;> rfl

/-- dereferencing a clean value, with any fuels that cover the chain -/
theorem qsim_valueOf_go {P : Qp} :
    ∀ (n m : Nat) (o : Obj) (s t : St), StRq P s t → clean P o → (∀ e nm, o = Obj.ref e nm → e < n ∧ sh P.σ e < m) →
      SimQ P (valueOf.go m (ren P.σ o)) (valueOf.go n o) s t
        (fun a b => a = ren P.σ b ∧ notRef b = true ∧ clean P b) := by
  intro n
  induction n with
  | zero =>
    intro m o s t hR hco ho
    cases ho' : notRef o with
    | false =>
      cases o with
      | ref e nm => exact absurd (ho e nm rfl).1 (Nat.not_lt_zero _)
      | _ => simp [notRef] at ho'
    | true =>
      rw [go_notRef ho', go_notRef (ren_notRef P.σ ho')]
      exact SimQ.pure hR ⟨rfl, ho', hco⟩
  | succ n ih =>
    intro m o s t hR hco ho
    cases ho' : notRef o with
    | true =>
      rw [go_notRef ho', go_notRef (ren_notRef P.σ ho')]
      exact SimQ.pure hR ⟨rfl, ho', hco⟩
    | false =>
      cases o with
      | ref e nm =>
        obtain ⟨hen, hem⟩ := ho e nm rfl
        obtain ⟨m', rfl⟩ : ∃ m', m = m' + 1 := ⟨m - 1, by omega⟩
        simp only [ren]
        unfold valueOf.go
        refine SimQ.bind (qsim_refValue hR e nm hco) ?_
          trStep.refValue (by closed_by trStep using trStep.getFrame, trStep.valueOf_go)
        rintro a b s' t' hR' ⟨hab, hcb, hb⟩
        subst hab
        have hnext : ∀ s2 t2, StRq P s2 t2 →
            SimQ P (valueOf.go m' (ren P.σ b)) (valueOf.go n b) s2 t2
              (fun a b => a = ren P.σ b ∧ notRef b = true ∧ clean P b) := by
          intro s2 t2 hR2
          refine ih m' b s2 t2 hR2 hcb ?_
          intro e' n' hbe
          have := hb e' n' hbe
          have h2 := sh_lt P.σ this
          exact ⟨by omega, by omega⟩
        dsimp only
        cases b with
        | ref e' n' =>
          simp only [ren]
          refine qsim_getFrame_bind hR' e' ?_
          intro fs1 ft1 _ _ hfr1
          refine qsim_getFrame_bind hR' e ?_
          intro fs2 ft2 _ _ hfr2
          rw [hfr1.depth, hfr2.depth]
          exact SimQ.ite (fun _ => SimQ.stop_bind) (fun _ => hnext _ _ hR')
        | _ => all_goals exact hnext _ _ hR'
      | _ => simp [notRef] at ho'

theorem qsim_valueOf {P : Qp} {s t : St} (hR : StRq P s t) (o : Obj) (hco : clean P o) :
    SimQ P (valueOf (ren P.σ o)) (valueOf o) s t (fun a b => a = ren P.σ b ∧ notRef b = true ∧ clean P b) := by
  unfold valueOf
  refine SimQ.bind_read (runM_get s) (runM_get t) ?_
  cases o with
  | ref e nm =>
    by_cases he : e < t.frames.size
    · refine qsim_valueOf_go _ _ _ s t hR hco ?_
      intro e' nm' h
      cases h
      have h1 := sh_lt P.σ he
      have h2 : sh P.σ t.frames.size = t.frames.size + P.σ.d := sh_of_ge P.σ hR.n0
      rw [hR.size]
      exact ⟨by omega, by omega⟩
    · -- out of range: run T panics
      simp only [ren]
      unfold valueOf.go
      have hte : t.frames[e]? = none := Array.getElem?_eq_none (by omega)
      intro b t' hy _
      unfold refValue at hy
      rw [runM_bind, runM_bind, runM_getFrame_none hte] at hy
      cases hy
  | _ =>
    all_goals
      refine qsim_valueOf_go _ _ _ s t hR hco ?_
      intro e nm h; cases h

/-! ### stores -/

theorem lookupStore_setStore (st : List (String × Obj)) (n m : String) (v : Obj) :
    lookupStore (setStore st n v) m = if m = n then some v else lookupStore st m := by
  by_cases h : m = n
  · subst h; simp only [if_true]; exact lookupStore_setStore_eq st m v
  · simp only [h, if_false]; exact lookupStore_setStore_ne st n m v h

theorem lookupStore_delStore (st : List (String × Obj)) (n m : String) :
    lookupStore (delStore st n) m = if m = n then none else lookupStore st m := by
  by_cases h : m = n
  · subst h; simp only [if_true]; exact lookupStore_delStore_self st m
  · simp only [h, if_false]; exact lookupStore_delStore_ne st n m h

/-- storing a clean value under a name that is not dirty -/
theorem FrQ.setStore {P : Qp} {i : Nat} {fs ft fs' ft' : Frame} (h : FrQ P i fs ft) (name : String) {v : Obj}
    (hnd : ¬ P.D i name) (hc : clean P v)
    (hs : fs'.store = setStore fs.store name (ren P.σ v) ∧ fs'.outer = fs.outer ∧ fs'.depth = fs.depth ∧
      fs'.cacheKey = fs.cacheKey ∧ fs'.function = fs.function ∧ fs'.getMiss = fs.getMiss ∧ fs'.cantCache = fs.cantCache)
    (ht : ft'.store = setStore ft.store name v ∧ ft'.outer = ft.outer ∧ ft'.depth = ft.depth ∧
      ft'.cacheKey = ft.cacheKey ∧ ft'.function = ft.function ∧ ft'.getMiss = ft.getMiss ∧ ft'.cantCache = ft.cantCache)
    (hl : fs'.localFunc = ft'.localFunc) :
    FrQ P i fs' ft' := by
  obtain ⟨a1, a2, a3, a4, a5, a6, a7⟩ := hs
  obtain ⟨b1, b2, b3, b4, b5, b6, b7⟩ := ht
  refine ⟨by rw [a2, b2]; exact h.outer, by rw [a3, b3]; exact h.depth, by rw [a4, b4]; exact h.cacheKey,
    by rw [a5, b5]; exact h.function, ?_, ?_, ?_, ?_, ?_, hl, ?_⟩
  · intro n hn
    rw [a1, b1, lookupStore_setStore, lookupStore_setStore]
    by_cases hnn : n = name
    · simp only [hnn, if_true]; rfl
    · simp only [hnn, if_false]; exact h.lk n hn
  · intro n w hn hl
    rw [b1, lookupStore_setStore] at hl
    by_cases hnn : n = name
    · simp only [hnn, if_true] at hl; cases hl; exact hc
    · simp only [hnn, if_false] at hl; exact h.cl n w hn hl
  · intro n hn
    have hnn : n ≠ name := fun hh => hnd (hh ▸ hn)
    rw [b1, b3, lookupStore_setStore]
    simp only [hnn, if_false]
    exact h.dirty n hn
  · intro hi
    rw [a6, a7, b6, b7]; exact h.missNew hi
  · intro hi
    rw [a6, b6]; exact h.missOld hi
  · intro n hn w hw
    have hnn : n ≠ name := fun hh => hnd (hh ▸ hn)
    rw [a1, lookupStore_setStore] at hw
    simp only [hnn, if_false] at hw
    rw [b3]
    exact h.dirtyS n hn w hw

/-- deleting a name that is not dirty -/
theorem FrQ.delStore {P : Qp} {i : Nat} {fs ft : Frame} (h : FrQ P i fs ft) (name : String) (hnd : ¬ P.D i name) :
    FrQ P i { fs with store := delStore fs.store name } { ft with store := delStore ft.store name } := by
  refine ⟨h.outer, h.depth, h.cacheKey, h.function, ?_, ?_, ?_, h.missNew, h.missOld, h.localFunc, ?_⟩
  · intro n hn
    simp only [lookupStore_delStore]
    by_cases hnn : n = name
    · simp only [hnn, if_true]; rfl
    · simp only [hnn, if_false]; exact h.lk n hn
  · intro n w hn hl
    simp only [lookupStore_delStore] at hl
    by_cases hnn : n = name
    · simp only [hnn, if_true] at hl; cases hl
    · simp only [hnn, if_false] at hl; exact h.cl n w hn hl
  · intro n hn
    have hnn : n ≠ name := fun hh => hnd (hh ▸ hn)
    simp only [lookupStore_delStore, hnn, if_false]
    exact h.dirty n hn
  · intro n hn w hw
    have hnn : n ≠ name := fun hh => hnd (hh ▸ hn)
    simp only [lookupStore_delStore, hnn, if_false] at hw
    exact h.dirtyS n hn w hw

theorem clean_refTo {P : Qp} (o : Nat) (name : String) (obj : Obj) (hnd : ¬ P.D o name) (hc : clean P obj) :
    clean P (refTo o name obj) := by
  cases obj <;> first | exact hnd | exact hc

/-! ### makeRef -/

theorem runM_bind_getFrame_pure {st : St} {e : Nat} {f : Frame} (h : st.frames[e]? = some f) :
    runM (do let __do_lift ← getFrame e; pure __do_lift.depth : M Nat) st = (.ok f.depth, st) := by
  rw [runM_bind, runM_getFrame h]
  rfl

theorem SimQ.congr_run {P : Qp} {x x' : M α} {y y' : M β} {s t : St} {Q : α → β → Prop}
    (hx : run x s = run x' s) (hy : run y t = run y' t) (h : SimQ P x' y' s t Q) : SimQ P x y s t Q := by
  intro b t' hr hq
  obtain ⟨a, s', h1, h2⟩ := h b t' ((show runM y' t = runM y t from hy.symm).trans hr) hq
  exact ⟨a, s', (show runM x s = runM x' s from hx).trans h1, h2⟩

/-- a walk of run T that ends normally, and not at a dirty binding, goes the same way in run S (the frames passed on
the way do not bind the name at all, so not to a dirty value either) -/
theorem makeRefWalk_renq {P : Qp} {s t : St} (hR : StRq P s t) (name : String) :
    ∀ (n m e : Nat) (r : Option (Nat × Obj)), e < n → sh P.σ e < m → makeRefWalk t.frames name n e = .ok r →
      (∀ o obj, r = some (o, obj) → ¬ P.D o name) →
      makeRefWalk s.frames name m (sh P.σ e) = .ok (r.map fun p => (sh P.σ p.1, ren P.σ p.2)) := by
  intro n
  induction n with
  | zero => intro m e r h; exact absurd h (Nat.not_lt_zero _)
  | succ n ih =>
    intro m e r hen hem hw hnd
    obtain ⟨m', rfl⟩ : ∃ m', m = m' + 1 := ⟨m - 1, by omega⟩
    unfold makeRefWalk at hw ⊢
    cases hte : t.frames[e]? with
    | none => rw [hte] at hw; cases hw
    | some ft =>
      obtain ⟨fs, hfs, hfr⟩ := hR.frames e ft hte
      rw [hte] at hw
      rw [hfs]
      dsimp only at hw ⊢
      rw [hfr.outer]
      cases hout : ft.outer with
      | none => rw [hout] at hw; cases hw; rfl
      | some o =>
        have hoe : o < e := (hR.dec e ft hte).1 o hout
        rw [hout] at hw
        dsimp only [Option.map] at hw ⊢
        cases hto : t.frames[o]? with
        | none => rw [hto] at hw; cases hw
        | some fto =>
          obtain ⟨fso, hfso, hfro⟩ := hR.frames o fto hto
          rw [hto] at hw
          rw [hfso]
          dsimp only at hw ⊢
          have hd : ¬ P.D o name := by
            intro hd
            obtain ⟨_, v, hv, _⟩ := hfro.dirty name hd
            rw [hv] at hw
            cases hw
            exact hnd o v rfl hd
          rw [hfro.lk name hd]
          cases hl : lookupStore fto.store name with
          | none =>
            rw [hl] at hw
            have := sh_lt P.σ hoe
            exact ih m' o r (by omega) (by omega) hw hnd
          | some obj => rw [hl] at hw; cases hw; rfl

/-- caching a reference to a dirty binding (not an all-caps name, not a reference, not a function of a depth-0 frame)
moves the counter of the frame that asked -/
theorem loudAt_makeRefFound {e : Nat} {t : St} {name : String} {o : Nat} {obj : Obj} {fto : Frame}
    (hto : t.frames[o]? = some fto) (hne : e ≠ o) (hnc : isConstant name = false) (hvr : notRef obj = true)
    (hvf : isFuncObj obj = false ∨ fto.depth ≠ 0) : LoudAt e (makeRefFound e name o obj) t := by
  unfold makeRefFound
  dsimp only
  have hrt : refTo o name obj = Obj.ref o name := by
    cases obj <;> first | rfl | (simp [notRef] at hvr)
  rw [hrt]
  dsimp only
  refine LoudAt.modifyFrame_bind (fun f => Nat.le_refl _) ?_
  intro forig hforig
  have hfo1 : ∀ fr' : Frame, ({ t with frames := t.frames.setIfInBounds e fr' } : St).frames[o]? = some fto := by
    intro fr'
    show (t.frames.setIfInBounds e fr')[o]? = some fto
    rw [Array.getElem?_setIfInBounds]
    simp only [hne, if_false]
    exact hto
  refine LoudAt.bind_read (runM_getFrame (hfo1 _)) ?_
  refine LoudAt.bind_read (runM_pure _ _) ?_
  have hc : (!(isConstant name && fto.depth == 0) && !(isFuncObj obj && fto.depth == 0)) = true := by
    rw [hnc]
    rcases hvf with h | h
    · rw [h]; rfl
    · have : (fto.depth == 0) = false := by simpa using h
      rw [this]; simp
  simp only [hc, if_true]
  exact (Loud.bind_left (Loud.modifyFrame (fun f => Nat.lt_succ_self _)) (fun _ => tr_pure _)).at _

/-- caching a reference to a binding that is not dirty -/
theorem qsim_makeRefFound {P : Qp} {s t : St} (hR : StRq P s t) {orig : Nat} (name : String) {o : Nat} {obj : Obj}
    {fto : Frame} (hto : t.frames[o]? = some fto) (hl : lookupStore fto.store name = some obj) (hoo : o < orig)
    (ho : P.σ.n0 ≤ orig) (hd : ¬ P.D o name) (hco : clean P obj) :
    SimQ P (makeRefFound (sh P.σ orig) name (sh P.σ o) (ren P.σ obj)) (makeRefFound orig name o obj) s t (QOptq P) := by
  unfold makeRefFound
  obtain ⟨e', n', hrt, hlt⟩ := refTo_lt hR.dec hto hl hoo
  dsimp only
  rw [refTo_ren, isFuncObj_ren]
  have hcr : clean P (Obj.ref e' n') := hrt ▸ clean_refTo o name obj hd hco
  have hres : QOptq P (some (ren P.σ (Obj.ref e' n'))) (some (Obj.ref e' n')) := ⟨rfl, fun v h => by cases h; exact hcr⟩
  have hnd0 : ¬ P.D orig name := fun h => absurd (hR.dlt orig name h) (by omega)
  rw [hrt]
  refine SimQ.bind (Q := fun _ _ => True) ?_ ?_
    (tr_modifyFrame fun _ => Nat.le_refl _) (by closed_by trStep using trStep.getFrame)
  · refine qsim_modifyFrame hR orig ?_
    intro fs1 ft1 hte1 hfr1
    exact ⟨hfr1.setStore name hnd0 hcr ⟨rfl, rfl, rfl, rfl, rfl, rfl, rfl⟩ ⟨rfl, rfl, rfl, rfl, rfl, rfl, rfl⟩ hfr1.localFunc,
      frameDec_setStore (hR.dec orig ft1 hte1) name (fun _ _ h => by cases h; exact hlt)⟩
  · intro _ _ s1 t1 hR1 _
    simp only [ren]
    refine qsim_getFrame_bind hR1 e' ?_
    intro fs3 ft3 _ _ hfr3
    refine SimQ.bind_read (runM_pure _ s1) (runM_pure _ t1) ?_
    rw [hfr3.depth]
    refine SimQ.ite (fun _ => ?_) (fun _ => SimQ.pure hR1 hres)
    exact SimQ.bind (Q := fun _ _ => True) (qsim_bumpMiss hR1 orig) (fun _ _ s2 t2 hR2 _ => SimQ.pure hR2 hres)
      (tr_modifyFrame fun _ => Nat.le_succ _) fun _ => tr_pure _

/-- the walk of `makeRef` for frame `orig`, a new frame.  When the name is all-caps the binding found cannot be
dirty; otherwise `orig` is the quiet frame and finding a dirty binding moves its counter. -/
theorem qsim_makeRef_go {P : Qp} (orig : Nat) (name : String) (ho : P.σ.n0 ≤ orig)
    (hq : isConstant name = true ∨ orig = P.e) :
    ∀ (n m e : Nat) (s t : St), StRq P s t → e < t.frames.size → e < n → sh P.σ e < m → e ≤ orig →
      orig < t.frames.size →
      SimQ P (makeRef.go (sh P.σ orig) name m (sh P.σ e)) (makeRef.go orig name n e) s t (QOptq P) := by
  intro n m e s t hR _ hen hem heo _
  refine SimQ.congr_run (run_makeRef_go ..) (run_makeRef_go ..) ?_
  cases hw : makeRefWalk t.frames name n e with
  | error err => exact SimQ.stop
  | ok r =>
    have hs := makeRefWalk_renq hR name n m e r hen hem hw
    cases r with
    | none =>
      rw [hs (fun _ _ h => by cases h)]
      exact SimQ.pure hR ⟨rfl, fun _ h => by cases h⟩
    | some p =>
      obtain ⟨o, obj⟩ := p
      obtain ⟨hoe, fto, hto, hl⟩ := makeRefWalk_found (fun i f o hf => (hR.dec i f hf).1 o) hw
      obtain ⟨fso, _, hfro⟩ := hR.frames o fto hto
      by_cases hd : P.D o name
      · obtain ⟨hnc, v, hv, hvr, hvf⟩ := hfro.dirty name hd
        rw [hl] at hv; cases hv
        rcases hq with hq | hq
        · rw [hnc] at hq; cases hq
        · subst hq
          exact SimQ.loudAt (loudAt_makeRefFound hto (by omega) hnc hvr hvf)
      · rw [hs (fun _ _ h => by cases h; exact hd)]
        exact qsim_makeRefFound hR name hto hl (by omega) ho hd (hfro.cl name obj hd hl)

theorem qsim_makeRef {P : Qp} {s t : St} (hR : StRq P s t) (orig : Nat) (name : String) (ho : P.σ.n0 ≤ orig)
    (hq : isConstant name = true ∨ orig = P.e) :
    SimQ P (makeRef (sh P.σ orig) name) (makeRef orig name) s t (QOptq P) := by
  unfold makeRef
  refine SimQ.bind_read (runM_get s) (runM_get t) ?_
  have h2 : sh P.σ t.frames.size = t.frames.size + P.σ.d := sh_of_ge P.σ hR.n0
  by_cases hot : orig < t.frames.size
  · have h1 := sh_lt P.σ hot
    exact qsim_makeRef_go orig name ho hq _ _ orig s t hR hot hot (by rw [hR.size]; omega) (Nat.le_refl _) hot
  · -- out of range: run T panics
    have hpos := hR.pos
    have hn0 := hR.n0
    obtain ⟨k, hk⟩ : ∃ k, t.frames.size = k + 1 := ⟨t.frames.size - 1, by omega⟩
    rw [hk]
    unfold makeRef.go
    have hte : t.frames[orig]? = none := Array.getElem?_eq_none (by omega)
    intro b t' hy _
    rw [runM_bind, runM_getFrame_none hte] at hy
    cases hy

/-! ### envGet -/

theorem qsim_envGet {P : Qp} {s t : St} (hR : StRq P s t) (e : Nat) (name : String) (he : P.σ.n0 ≤ e)
    (hq : isConstant name = true ∨ e = P.e) :
    SimQ P (envGet (sh P.σ e) name) (envGet e name) s t (QOptq P) := by
  unfold envGet
  dsimp only
  refine SimQ.ite (fun _ => SimQ.stop_bind) (fun _ => ?_)
  refine qsim_getFrame_bind hR e ?_
  intro fs ft hte hfs hfr
  have het := lt_of_frame hte
  have hnd : ¬ P.D e name := fun h => absurd (hR.dlt e name h) (by omega)
  have hnone : QOptq P none none := ⟨rfl, fun _ h => by cases h⟩
  have hrest : SimQ P (envGetStored (sh P.σ e) name fs) (envGetStored e name ft) s t (QOptq P) := by
    unfold envGetStored
    rw [hfr.lk name hnd, hfr.outer]
    cases hl : lookupStore ft.store name with
    | none =>
      simp only [Option.map]
      cases ft.outer with
      | none => exact SimQ.pure hR hnone
      | some o => exact qsim_makeRef hR e name he hq
    | some obj =>
      have hco := hfr.cl name obj hnd hl
      cases obj with
      | ref re rn =>
        have hndr : ¬ P.D re rn := hco
        have hres : QOptq P (some (Obj.ref (sh P.σ re) rn)) (some (Obj.ref re rn)) := ⟨rfl, fun v h => by cases h; exact hco⟩
        simp only [Option.map, ren]
        refine SimQ.bind (qsim_refAlive hR re rn hndr) ?_
          trStep.refAlive (by closed_by trStep using trStep.makeRef, trStep.refValue, trStep.getFrame)
        rintro a b s1 t1 hR1 rfl
        refine SimQ.ite (fun _ => ?_) (fun _ => ?_)
        · refine SimQ.bind (Q := fun _ _ => True) ?_ ?_
            (tr_modifyFrame fun _ => Nat.le_refl _) (by closed_by trStep using trStep.makeRef)
          · refine qsim_modifyFrame hR1 e ?_
            intro fs1 ft1 hte1 hfr1
            exact ⟨hfr1.delStore name hnd, frameDec_delStore (hR1.dec e ft1 hte1) name⟩
          · intro _ _ s2 t2 hR2 _
            cases ft.outer with
            | none => exact SimQ.pure hR2 hnone
            | some o =>
              exact qsim_makeRef hR2 e name he hq
        · refine SimQ.bind (qsim_refValue hR1 re rn hndr) ?_ trStep.refValue (by closed_by trStep using trStep.getFrame)
          rintro tgs tgt s2 t2 hR2 ⟨rfl, _, _⟩
          refine qsim_getFrame_bind hR2 re ?_
          intro fs3 ft3 _ _ hfr3
          rw [hfr3.depth, isFuncObj_ren]
          refine SimQ.ite (fun _ => ?_) (fun _ => SimQ.pure hR2 hres)
          exact SimQ.bind (Q := fun _ _ => True) (qsim_bumpMiss hR2 e) (fun _ _ s3 t3 hR3 _ => SimQ.pure hR3 hres)
            (tr_modifyFrame fun _ => Nat.le_succ _) fun _ => tr_pure _
      | _ => all_goals exact SimQ.pure hR ⟨rfl, fun v h => by cases h; exact hco⟩
  refine SimQ.ite (fun _ => ?_) (fun _ => ?_)
  · rw [hfr.function]
    cases ft.function with
    | none => exact SimQ.pure hR hnone
    | some fn => exact SimQ.pure hR ⟨rfl, fun v h => by cases h; trivial⟩
  · rw [hfr.function]
    cases ft.function with
    | none => exact hrest
    | some fn =>
      simp only [Option.map]
      refine SimQ.ite' (by simp [renFn]) (fun _ => SimQ.pure hR ⟨rfl, fun v h => by cases h; trivial⟩) (fun _ => hrest)

/-! ### writes -/

theorem qsim_functionChanged {P : Qp} {s t : St} (hR : StRq P s t) (w : Nat) (old : Option Obj) :
    SimQ P (functionChanged (sh P.σ w) (old.map (ren P.σ))) (functionChanged w old) s t (fun _ _ => True) := by
  unfold functionChanged
  cases old with
  | none => exact SimQ.pure hR trivial
  | some o =>
    simp only [Option.map, isFuncObj_ren]
    refine SimQ.ite (fun _ => ?_) (fun _ => SimQ.pure hR trivial)
    refine SimQ.bind (Q := fun _ _ => True) (qsim_bumpMiss hR w) ?_
      (tr_modifyFrame fun _ => Nat.le_succ _) fun _ => tr_modify fun _ => rfl
    intro _ _ s1 t1 hR1 _
    intro b t' hy _
    rw [runM_modify] at hy
    cases hy
    exact ⟨(), _, runM_modify _ _, { hR1 with }, trivial⟩

/-- the frame update of `create`, `update` and the reference path of `SetNoChecks` -/
theorem qsim_storeSet {P : Qp} {s t : St} (hR : StRq P s t) (e : Nat) (name : String) {v : Obj}
    (hnd : ¬ P.D e name) (hnr : notRef v = true) (hc : clean P v) (g' g : Frame → Frame)
    (hg' : ∀ f, (g' f).store = setStore f.store name (ren P.σ v) ∧ (g' f).outer = f.outer ∧ (g' f).depth = f.depth ∧
      (g' f).cacheKey = f.cacheKey ∧ (g' f).function = f.function ∧ (g' f).getMiss = f.getMiss ∧
      (g' f).cantCache = f.cantCache)
    (hg : ∀ f, (g f).store = setStore f.store name v ∧ (g f).outer = f.outer ∧ (g f).depth = f.depth ∧
      (g f).cacheKey = f.cacheKey ∧ (g f).function = f.function ∧ (g f).getMiss = f.getMiss ∧
      (g f).cantCache = f.cantCache)
    (hl : ∀ fs ft : Frame, fs.depth = ft.depth → fs.localFunc = ft.localFunc → (g' fs).localFunc = (g ft).localFunc := by
      intro fs ft h1 h2; simp only [noteLocal, h1, h2, isFuncObj_ren]) :
    SimQ P (modifyFrame (sh P.σ e) g') (modifyFrame e g) s t (fun _ _ => True) := by
  refine qsim_modifyFrame hR e ?_
  intro fs ft hte hfr
  refine ⟨hfr.setStore name hnd hc (hg' fs) (hg ft) (hl fs ft hfr.depth hfr.localFunc), ?_⟩
  obtain ⟨b1, b2, _⟩ := hg ft
  have := hR.dec e ft hte
  refine ⟨by rw [b2]; exact this.1, ?_⟩
  rw [b1]
  intro k e' n' hm
  rcases mem_setStore hm with h1 | h1
  · exact this.2 k e' n' h1
  · subst h1; simp [notRef] at hnr

/-- both runs see the same answer to "the top level frame binds `name` to a function" -/
theorem rootFnOf_q {P : Qp} {s t : St} (hR : StRq P s t) (name : String) : rootFnOf s name = rootFnOf t name := by
  unfold rootFnOf
  rw [hR.root]
  cases hte : t.frames[t.root]? with
  | none => rw [hR.none hte]
  | some ft =>
    obtain ⟨fs, hfs, hfr⟩ := hR.frames t.root ft hte
    rw [hfs]
    dsimp only
    rw [hfr.depth]
    by_cases hd : P.D t.root name
    · obtain ⟨_, v, hv, _, hvf⟩ := hfr.dirty name hd
      rw [hv]
      have ht : (isFuncObj v && ft.depth == 0) = false := by
        rcases hvf with h | h
        · rw [h]; rfl
        · have : (ft.depth == 0) = false := by simpa using h
          rw [this]; simp
      cases hls : lookupStore fs.store name with
      | none => simp only [ht]
      | some w =>
        have hs : (isFuncObj w && ft.depth == 0) = false := by
          rcases hfr.dirtyS name hd w hls with h | h
          · rw [h]; rfl
          · have : (ft.depth == 0) = false := by simpa using h
            rw [this]; simp
        simp only [ht, hs]
    · rw [hfr.lk name hd]
      cases lookupStore ft.store name with
      | none => rfl
      | some o => simp only [Option.map, isFuncObj_ren]

theorem qsim_rootBindsFunc_bind {P : Qp} {s t : St} (hR : StRq P s t) (name : String) {f g : Bool → M α}
    {Q : α → α → Prop} (h : SimQ P (f (rootFnOf t name)) (g (rootFnOf t name)) s t Q) :
    SimQ P (rootBindsFunc name >>= f) (rootBindsFunc name >>= g) s t Q := by
  refine SimQ.bind_read (runM_rootBindsFunc name s) (runM_rootBindsFunc name t) ?_
  rw [rootFnOf_q hR]; exact h

theorem qsim_envCreate {P : Qp} {s t : St} (hR : StRq P s t) (e : Nat) (name : String) (val : Obj)
    (hnd : ¬ P.D e name) (hcv : clean P val) :
    SimQ P (envCreate (sh P.σ e) name (ren P.σ val)) (envCreate e name val) s t (QOq P) := by
  unfold envCreate
  refine SimQ.bind (qsim_valueOf hR val hcv) ?_ trStep.valueOf (by closed_by trStep using trStep.rootBindsFunc)
  rintro a v s1 t1 hR1 ⟨rfl, hnr, hc⟩
  refine qsim_rootBindsFunc_bind hR1 name ?_
  refine SimQ.bind (Q := fun _ _ => True) ?_ (fun _ _ s2 t2 hR2 _ => SimQ.pure hR2 ⟨rfl, hc⟩)
    (tr_modifyFrame fun _ => Nat.le_refl _) fun _ => tr_pure _
  exact qsim_storeSet hR1 e name hnd hnr hc _ _ (fun f => ⟨rfl, rfl, rfl, rfl, rfl, rfl, rfl⟩)
    (fun f => ⟨rfl, rfl, rfl, rfl, rfl, rfl, rfl⟩)

theorem qsim_envStoreAt {P : Qp} {s t : St} (hR : StRq P s t) (w e : Nat) (name : String) {v : Obj}
    (hnd : ¬ P.D e name) (hnr : notRef v = true) (hc : clean P v) :
    SimQ P (envStoreAt (sh P.σ w) (sh P.σ e) name (ren P.σ v)) (envStoreAt w e name v) s t (QOq P) := by
  unfold envStoreAt
  refine qsim_getFrame_bind hR e ?_
  intro fs ft hte hfs hfr
  rw [hfr.lk name hnd]
  refine SimQ.bind (qsim_functionChanged hR w _) ?_ trStep.functionChanged (by closed_by trStep using trStep.rootBindsFunc)
  intro _ _ s1 t1 hR1 _
  refine qsim_rootBindsFunc_bind hR1 name ?_
  refine SimQ.bind (Q := fun _ _ => True) ?_ (fun _ _ s2 t2 hR2 _ => SimQ.pure hR2 ⟨rfl, hc⟩)
    (tr_modifyFrame fun _ => Nat.le_refl _) fun _ => tr_pure _
  exact qsim_storeSet hR1 e name hnd hnr hc _ _ (fun f => ⟨rfl, rfl, rfl, rfl, rfl, rfl, rfl⟩)
    (fun f => ⟨rfl, rfl, rfl, rfl, rfl, rfl, rfl⟩)

theorem qsim_envUpdate {P : Qp} {s t : St} (hR : StRq P s t) (e : Nat) (name : String) (found val : Obj)
    (hnd : ¬ P.D e name) (hcf : clean P found) (hcv : clean P val) :
    SimQ P (envUpdate (sh P.σ e) name (ren P.σ found) (ren P.σ val)) (envUpdate e name found val) s t (QOq P) := by
  unfold envUpdate
  rw [updTarget_ren]
  have hndt : ¬ P.D (updTarget e name found).1 (updTarget e name found).2 := by
    cases found <;> first | exact hnd | exact hcf
  have hrest : ∀ (a v : Obj) s1 t1, StRq P s1 t1 → a = ren P.σ v → notRef v = true → clean P v →
      SimQ P (envStoreAt (sh P.σ e) (sh P.σ (updTarget e name found).1) (updTarget e name found).2 a)
        (envStoreAt e (updTarget e name found).1 (updTarget e name found).2 v) s1 t1 (QOq P) := by
    intro a v s1 t1 hR1 ha hnr hc
    subst ha
    exact qsim_envStoreAt hR1 e _ _ hndt hnr hc
  cases val with
  | ref re rn =>
    simp only [ren]
    have := qsim_valueOf hR (.ref re rn) hcv
    simp only [ren] at this
    refine SimQ.bind this ?_ trStep.valueOf fun _ => trStep.envStoreAt
    rintro a v s1 t1 hR1 ⟨rfl, hnr, hc⟩
    exact hrest _ v s1 t1 hR1 rfl hnr hc
  | _ =>
    all_goals
      simp only [ren]
      refine SimQ.bind_read (runM_pure _ s) (runM_pure _ t) ?_
      exact hrest _ _ s t hR (by simp only [ren]) rfl hcv

theorem qsim_setNoChecks {P : Qp} {s t : St} (hR : StRq P s t) (e : Nat) (name : String) (val : Obj) (create : Bool)
    (he : P.σ.n0 ≤ e) (hq : create = true ∨ isConstant name = true ∨ e = P.e) (hcv : clean P val) :
    SimQ P (setNoChecks (sh P.σ e) name (ren P.σ val) create) (setNoChecks e name val create) s t (QOq P) := by
  have hnd : ¬ P.D e name := fun h => absurd (hR.dlt e name h) (by omega)
  unfold setNoChecks
  refine SimQ.ite (fun _ => qsim_envCreate hR e name val hnd hcv) (fun hcr => ?_)
  have hq' : isConstant name = true ∨ e = P.e := by
    rcases hq with h | h
    · exact absurd h hcr
    · exact h
  refine qsim_getFrame_bind hR e ?_
  intro fs ft hte hfs hfr
  rw [hfr.lk name hnd]
  cases hl : lookupStore ft.store name with
  | some r =>
    simp only [Option.map]
    exact qsim_envUpdate hR e name r val hnd (hfr.cl name r hnd hl) hcv
  | none =>
    simp only [Option.map]
    refine SimQ.bind (qsim_makeRef hR e name he hq') ?_
      trStep.makeRef (by closed_by trStep using trStep.valueOf, trStep.getFrame,
        trStep.functionChanged, trStep.rootBindsFunc, trStep.envCreate)
    rintro a b s1 t1 hR1 ⟨rfl, hcb⟩
    cases b with
    | none => exact qsim_envCreate hR1 e name val hnd hcv
    | some r =>
      have hcr := hcb r rfl
      cases r with
      | ref re rn =>
        have hndr : ¬ P.D re rn := hcr
        simp only [Option.map, ren]
        refine SimQ.bind (qsim_valueOf hR1 val hcv) ?_
          trStep.valueOf (by closed_by trStep using trStep.getFrame, trStep.functionChanged, trStep.rootBindsFunc)
        rintro a v s2 t2 hR2 ⟨rfl, hnr, hc⟩
        refine qsim_getFrame_bind hR2 re ?_
        intro fs3 ft3 _ _ hfr3
        rw [hfr3.lk rn hndr]
        refine SimQ.bind (qsim_functionChanged hR2 e _) ?_
          trStep.functionChanged (by closed_by trStep using trStep.rootBindsFunc)
        intro _ _ s3 t3 hR3 _
        refine qsim_rootBindsFunc_bind hR3 rn ?_
        refine SimQ.bind (Q := fun _ _ => True) ?_ (fun _ _ s4 t4 hR4 _ => SimQ.pure hR4 ⟨rfl, hcv⟩)
          (tr_modifyFrame fun _ => Nat.le_refl _) fun _ => tr_pure _
        exact qsim_storeSet hR3 re rn hndr hnr hc _ _ (fun f => ⟨rfl, rfl, rfl, rfl, rfl, rfl, rfl⟩)
          (fun f => ⟨rfl, rfl, rfl, rfl, rfl, rfl, rfl⟩)
      | _ => all_goals exact qsim_envCreate hR1 e name val hnd hcv

theorem qj_createOrSet {P : Qp} {learnt : Prop} (e : Nat) (name : String) (val : Obj) (create : Bool)
    (he : learnt → P.σ.n0 ≤ e) (hq : learnt → create = true ∨ e = P.e) (hcv : learnt → clean P val) :
    JQ P learnt (createOrSet (sh P.σ e) name (ren P.σ val) create) (createOrSet e name val create) (QOq P) := by
  unfold createOrSet
  dsimp only
  have herr : ∀ {learnt : Prop} msg, JQ P learnt (pure (Obj.error msg) : M Obj) (pure (Obj.error msg)) (QOq P) :=
    fun _ => Calc.J.pure fun _ => ⟨rfl, trivial⟩
  have hrest : ∀ {learnt' : Prop}, (learnt' → learnt) →
      JQ P learnt' (do
          let st ← get
          if st.extNames.contains name = true then pure (Obj.error ("attempt to change internal function " ++ name))
            else setNoChecks (sh P.σ e) name (ren P.σ val) create)
        (do
          let st ← get
          if st.extNames.contains name = true then pure (Obj.error ("attempt to change internal function " ++ name))
            else setNoChecks e name val create) (QOq P) := by
    intro learnt' hp
    refine Calc.J.getCfg_bind fun s t _ hx => ?_
    rw [hx]
    exact Calc.J.ite (fun _ => herr _) (fun _ => ⟨trStep.setNoChecks, fun h _ _ hR =>
      qsim_setNoChecks hR e name val create (he (hp h)) ((hq (hp h)).imp_right Or.inr) (hcv (hp h))⟩)
  refine Calc.J.ite (fun hcn => ?_) (fun _ => hrest id)
  refine Calc.J.bind ⟨trStep.envGet, fun h _ _ hR => qsim_envGet hR e name (he h) (Or.inl hcn)⟩ fun b => ?_
  cases b with
  | none => exact hrest fun h => h.1
  | some old =>
    simp only [Option.map, ren_typeNum]
    have hfin : ∀ {learnt' : Prop} (same : Bool), (learnt' → learnt) →
        JQ P learnt' (if (!same) = true then pure (Obj.error ("attempt to change constant " ++ name)) else do
            let st ← get
            if st.extNames.contains name = true then pure (Obj.error ("attempt to change internal function " ++ name))
              else setNoChecks (sh P.σ e) name (ren P.σ val) create)
          (if (!same) = true then pure (Obj.error ("attempt to change constant " ++ name)) else do
            let st ← get
            if st.extNames.contains name = true then pure (Obj.error ("attempt to change internal function " ++ name))
              else setNoChecks e name val create) (QOq P) :=
      fun same hp => Calc.J.ite (fun _ => herr _) (fun _ => hrest hp)
    refine Calc.J.ite (fun _ => Calc.J.pure_bind (hfin false fun h => h.1)) (fun _ => ?_)
    refine Calc.J.bind ⟨trStep.valueOf, fun h _ _ hR => qsim_valueOf hR old (h.2 old rfl)⟩ fun o => ?_
    refine Calc.J.bind ⟨trStep.valueOf, fun h _ _ hR => qsim_valueOf hR val (hcv h.1.1)⟩ fun v => ?_
    rw [cmp_ren, sameTypes_ren]
    refine Calc.J.bind_eq ⟨trStep.liftR _, fun _ _ _ hR =>
      SimQ.liftR hR (RelR.of_eq (f := id) (by cases cmp o v <;> rfl) (fun _ => rfl))⟩ fun c => ?_
    exact Calc.J.pure_bind (hfin _ fun h => h.1.1.1)

theorem qsim_createOrSet {P : Qp} {s t : St} (hR : StRq P s t) (e : Nat) (name : String) (val : Obj) (create : Bool)
    (he : P.σ.n0 ≤ e) (hq : create = true ∨ e = P.e) (hcv : clean P val) :
    SimQ P (createOrSet (sh P.σ e) name (ren P.σ val) create) (createOrSet e name val create) s t (QOq P) :=
  (qj_createOrSet (learnt := True) e name val create (fun _ => he) (fun _ => hq) fun _ => hcv).sim trivial s t hR

theorem qsim_envSet {P : Qp} {s t : St} (hR : StRq P s t) (e : Nat) (name : String) (val : Obj)
    (he : P.σ.n0 ≤ e) (hq : e = P.e) (hcv : clean P val) :
    SimQ P (envSet (sh P.σ e) name (ren P.σ val)) (envSet e name val) s t (QOq P) :=
  qsim_createOrSet hR e name val false he (Or.inr hq) hcv

end Grol.R
