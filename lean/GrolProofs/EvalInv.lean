import GrolProofs.EnvRun
/-
The evaluator invariant and the Hoare-style predicate `Post` that C07 (no evaluation ends in a Go panic)
is stated with.  The proofs are in the development over a policy (InvBase.lean … InvMain.lean), of which
these are the instance at `polE` (EvalSafeMain.lean).
-/
namespace Grol.E

/-! ### well-scoped values: every frame index occurring in a value is below `n` -/

mutual
def okObj (n : Nat) : Obj → Bool
  | .array els => okList n els
  | .map _ kvs => okPairs n kvs
  | .func f => decide (f.env < n)
  | .ret v _ => okObj n v
  | .ref e _ => decide (e < n)
  | _ => true
def okList (n : Nat) : List Obj → Bool
  | [] => true
  | x :: xs => okObj n x && okList n xs
def okPairs (n : Nat) : List (Obj × Obj) → Bool
  | [] => true
  | (k, v) :: xs => okObj n k && okObj n v && okPairs n xs
end

theorem okList_eq (n : Nat) (l : List Obj) : okList n l = l.all (okObj n) := by
  induction l with
  | nil => simp [okList]
  | cons x xs ih => simp [okList, ih]

theorem okPairs_eq (n : Nat) (l : List (Obj × Obj)) :
    okPairs n l = l.all (fun kv => okObj n kv.1 && okObj n kv.2) := by
  induction l with
  | nil => simp [okPairs]
  | cons x xs ih => obtain ⟨k, v⟩ := x; simp [okPairs, ih]

/-- `i`, `d`: index and depth of the frame the store belongs to -/
def StoreOk (frames : Array Frame) (i d : Nat) (store : List (String × Obj)) : Prop :=
  ∀ k v, (k, v) ∈ store → okObj frames.size v = true ∧
    ∀ e nm, v = Obj.ref e nm → e < i ∧ ∀ fe, frames[e]? = some fe → fe.depth < d

structure FrameOk (frames : Array Frame) (i : Nat) (f : Frame) : Prop where
  outer : ∀ o, f.outer = some o → o < i ∧ ∀ fo, frames[o]? = some fo → fo.depth < f.depth
  func : ∀ fn, f.function = some fn → fn.env < frames.size
  store : StoreOk frames i f.depth f.store

structure Inv (st : St) : Prop where
  cur : st.cur < st.frames.size
  root : st.root < st.frames.size
  frames : ∀ i f, st.frames[i]? = some f → FrameOk st.frames i f
  cache : ∀ c, c ∈ st.cache → okObj st.frames.size c.result = true

def runM (x : M α) (st : St) : Except Stop α × St := x.run st |>.run

theorem outcome_eq (x : M α) (st : St) : outcome x st = (runM x st).1 := rfl
theorem stateAfter_eq (x : M α) (st : St) : stateAfter x st = (runM x st).2 := rfl

/-- `Post x st Q`: running `x` from `st` does not end in a Go panic; the final state satisfies the
invariant again (also after an abnormal stop) and has at least as many frames; a normal result
satisfies `Q` -/
def Post (x : M α) (st : St) (Q : α → St → Prop) : Prop :=
  match runM x st with
  | (.ok a, st') => Inv st' ∧ st.frames.size ≤ st'.frames.size ∧ Q a st'
  | (.error (.goPanic _), _) => False
  | (.error _, st') => Inv st' ∧ st.frames.size ≤ st'.frames.size

/- `runM x st` is `run x st` (EvalOps.lean) by `rfl`: the equations of EvalOps.lean / EnvRun.lean under the
name they have in statements about `Post`. -/
theorem runM_pure (a : α) (st : St) : runM (pure a : M α) st = (.ok a, st) := run_pure a st

theorem runM_bind (x : M α) (f : α → M β) (st : St) :
    runM (x >>= f) st =
      match runM x st with
      | (.ok a, st') => runM (f a) st'
      | (.error e, st') => (.error e, st') := run_bind x f st

theorem runM_get (st : St) : runM (get : M St) st = (.ok st, st) := run_get st
theorem runM_curEnv (st : St) : runM curEnv st = (.ok st.cur, st) := rfl
theorem runM_set (s st : St) : runM (set s : M Unit) st = (.ok (), s) := run_set s st
theorem runM_modify (g : St → St) (st : St) : runM (modify g : M Unit) st = (.ok (), g st) := run_modify g st
theorem runM_stop (e : Stop) (st : St) : runM (stop e : M α) st = (.error e, st) := run_stop e st
theorem runM_throw (e : Stop) (st : St) : runM (throw e : M α) st = (.error e, st) := run_throw e st

theorem run_inj {x : M α} {st s1 s2 : St} {a b : α} (h1 : runM x st = (.ok a, s1)) (h2 : runM x st = (.ok b, s2)) :
    a = b := by
  rw [h1] at h2; cases h2; rfl

def NPR (r : R α) : Prop := ∀ s, r ≠ .error (.goPanic s)

theorem NPR.pure (a : α) : NPR (pure a : R α) := fun _ h => by cases h
theorem NPR.ok (a : α) : NPR (.ok a : R α) := fun _ h => by cases h

theorem NPR.bind {x : R α} {f : α → R β} (hx : NPR x) (hf : ∀ a, x = .ok a → NPR (f a)) : NPR (x >>= f) := by
  cases x with
  | ok a => exact hf a rfl
  | error e => intro s h; exact hx s (by cases h; rfl)

theorem NPR.throw_unmodelled (w : String) : NPR (throw (.unmodelled w) : R α) := fun _ h => by cases h

theorem NPR.ite {c : Prop} [Decidable c] {a b : R α} (ha : NPR a) (hb : NPR b) : NPR (if c then a else b) := by
  split <;> assumption

end Grol.E
