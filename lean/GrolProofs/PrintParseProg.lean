import GrolProofs.PrintParseBlocks
/-
C02, positive half: programs — `parseProgram` on the rendering of a program of the fragment returns that program.
-/
set_option linter.unusedVariables false
set_option linter.unusedSimpArgs false
namespace Grol.RT
open Grol Grol.Wire Grol.Generated Grol.Parser Grol.Printer Grol.PrintTokens
variable {s : TokStream} {c ap : Bool}

/-- the statement loop of `ParseProgram` on the rendering of a statement list -/
theorem prog_loop (l : NList) (hf : fragS c ap false true l = true) (hp : SPL s c ap l)
    (hseg : Seg s 0 (stmtsToks c ap false true l ++ [eofTok])) :
    Ev (fun f => parseProgramLoop s f [] (stAt s 0) = .ok ([] ++ l, stAt s (0 + (stmtsToks c ap false true l).length))) :=
  stmts_loop (L := parseProgramLoop s) (wrap := id) (Or.inl rfl) (fun f acc i hk => parseProgramLoop_stop (seg_type hk))
    (fun f acc i j n hst hp => by
      have hsf := startTyS_facts _ hst
      rw [parseProgramLoop_step hsf.2.1 hsf.2.2.1 hp, advance_stAt]) l [] true 0 hf hp hseg

theorem seg_of_get : ∀ (l : List Tok) (i : Nat), (∀ k (h : k < l.length), key (s.get (i + k)) = key l[k]) → Seg s i l
  | [], _, _ => trivial
  | x :: r, i, h => by
    refine ⟨h 0 (by simp), seg_of_get r (i + 1) (fun k hk => ?_)⟩
    have := h (k + 1) (by simp; omega)
    rw [show i + (k + 1) = i + 1 + k by omega] at this
    exact this

theorem seg_of_keys {l : List Tok} (h : s.toks.map key = l.map key) : Seg s 0 l := by
  have hlen : s.toks.length = l.length := by simpa using congrArg List.length h
  refine seg_of_get l 0 (fun k hk => ?_)
  have hk' : k < s.toks.length := by omega
  have e : s.get (0 + k) = s.toks[k] := by
    simp [TokStream.get, List.getElem?_eq_getElem hk']
  rw [e]
  have := congrArg (fun m => m[k]?) h
  simpa [List.getElem?_map, List.getElem?_eq_getElem hk, List.getElem?_eq_getElem hk'] using this

/-- **Round trip, token level.**  On any stream showing the rendering of a program of the fragment, followed by
the end marker, `ParseProgram` returns that program, without errors, for every sufficiently large fuel. -/
theorem parse_rendered (c ap : Bool) (prog : NList) (hf : fragProg c ap prog = true) (s : TokStream)
    (hs : s.toks.map key = progKeys c ap prog) :
    Ev (fun f => parseProgram s f = .ok { program := prog, errors := 0, cont := false }) := by
  have hseg : Seg s 0 (stmtsToks c ap false true prog ++ [eofTok]) :=
    seg_of_keys (by rw [hs]; simp [progKeys, progToks])
  have h := prog_loop (s := s) prog hf (gp_stmts s c ap prog false true hf) hseg
  refine h.mono (fun f hf' => ?_)
  unfold parseProgram
  rw [init_eq, hf']
  rfl

end Grol.RT
