import Grol.CmpTotal
/-
Generic lemmas about three-way comparison functions `c : α → α → Int` (results −1/0/1):
the laws of a total preorder stated pointwise in the first argument (`PW c a`), and how they
lift through lexicographic comparison of lists, pairs, "shorter first" and a partition into
ordered classes.  Of the model (`Grol/CmpTotal.lean`) only the two base comparisons `cmpZ` (integers) and
`cmpO` (`Option Int`, `none` = NaN least) occur, with their laws (`cmpZ_PW`, `cmpO_PW`); nothing about objects.
-/
namespace Grol.Ord

/-- the laws of a total preorder for the comparisons whose first operand is `a` -/
structure PW {α : Type} (c : α → α → Int) (a : α) : Prop where
  sign : ∀ b, c a b = -1 ∨ c a b = 0 ∨ c a b = 1
  refl : c a a = 0
  anti : ∀ b, c b a = -(c a b)
  eqL : ∀ b d, c a b = 0 → c a d = c b d
  eqR : ∀ b d, c b d = 0 → c a b = c a d
  lt : ∀ b d, c a b = -1 → c b d = -1 → c a d = -1

/-- the same laws with the other operands restricted to a set `S` (which contains `a`) -/
structure PWon {α : Type} (S : α → Prop) (c : α → α → Int) (a : α) : Prop where
  sign : ∀ b, S b → (c a b = -1 ∨ c a b = 0 ∨ c a b = 1)
  refl : c a a = 0
  anti : ∀ b, S b → c b a = -(c a b)
  eqL : ∀ b d, S b → S d → c a b = 0 → c a d = c b d
  eqR : ∀ b d, S b → S d → c b d = 0 → c a b = c a d
  lt : ∀ b d, S b → S d → c a b = -1 → c b d = -1 → c a d = -1

section
variable {α : Type} {c : α → α → Int} (h : ∀ a, PW c a)
include h

theorem le_trans' (a b d : α) (h1 : c a b ≤ 0) (h2 : c b d ≤ 0) : c a d ≤ 0 := by
  have sab := (h a).sign b
  have sbd := (h b).sign d
  rcases sab with e1 | e1 | e1
  · rcases sbd with e2 | e2 | e2
    · have := (h a).lt b d e1 e2; omega
    · have := (h a).eqR b d e2; omega
    · omega
  · have := (h a).eqL b d e1; omega
  · omega

theorem gt_trans' (a b d : α) (h1 : c a b = 1) (h2 : c b d = 1) : c a d = 1 := by
  have a1 := (h a).anti b
  have a2 := (h b).anti d
  have a3 := (h a).anti d
  have := (h d).lt b a (by omega) (by omega)
  omega

theorem total' (a b : α) : c a b ≤ 0 ∨ c b a ≤ 0 := by
  have := (h a).anti b
  have := (h a).sign b
  omega
end

theorem PW.comap {α β : Type} {c : β → β → Int} (f : α → β) (a : α) (h : PW c (f a)) :
    PW (fun x y => c (f x) (f y)) a :=
  ⟨fun b => h.sign (f b), h.refl, fun b => h.anti (f b), fun b d => h.eqL (f b) (f d),
   fun b d => h.eqR (f b) (f d), fun b d => h.lt (f b) (f d)⟩

/-- the laws for `c'` at the content `un a` are the laws for `c` at `a` on a set where `c`
compares contents by `c'` -/
theorem PW.onComap {α β : Type} {c' : β → β → Int} {c : α → α → Int} {S : α → Prop} {a : α}
    (un : α → β) (h : PW c' (un a)) (ha : S a) (e : ∀ x y, S x → S y → c x y = c' (un x) (un y)) :
    PWon S c a := by
  refine ⟨fun b hb => ?_, ?_, fun b hb => ?_, fun b d hb hd => ?_, fun b d hb hd => ?_, fun b d hb hd => ?_⟩
  · rw [e a b ha hb]; exact h.sign _
  · rw [e a a ha ha]; exact h.refl
  · rw [e b a hb ha, e a b ha hb]; exact h.anti _
  · rw [e a b ha hb, e a d ha hd, e b d hb hd]; exact h.eqL _ _
  · rw [e a b ha hb, e a d ha hd, e b d hb hd]; exact h.eqR _ _
  · rw [e a b ha hb, e a d ha hd, e b d hb hd]; exact h.lt _ _

theorem cmpZ_spec (a b : Int) : (a < b ∧ cmpZ a b = -1) ∨ (a = b ∧ cmpZ a b = 0) ∨ (b < a ∧ cmpZ a b = 1) := by
  unfold cmpZ
  by_cases h1 : a < b
  · rw [if_pos h1]; exact .inl ⟨h1, rfl⟩
  · by_cases h2 : b < a
    · rw [if_neg h1, if_pos h2]; exact .inr (.inr ⟨h2, rfl⟩)
    · rw [if_neg h1, if_neg h2]; exact .inr (.inl ⟨by omega, rfl⟩)

theorem cmpZ_PW (a : Int) : PW cmpZ a := by
  refine ⟨fun b => ?_, ?_, fun b => ?_, fun b d => ?_, fun b d => ?_, fun b d => ?_⟩
  · have := cmpZ_spec a b; omega
  · have := cmpZ_spec a a; omega
  · have := cmpZ_spec a b; have := cmpZ_spec b a; omega
  · intro h
    have : a = b := by have := cmpZ_spec a b; omega
    rw [this]
  · intro h
    have : b = d := by have := cmpZ_spec b d; omega
    rw [this]
  · intro h1 h2
    have : a < b := by have := cmpZ_spec a b; omega
    have : b < d := by have := cmpZ_spec b d; omega
    exact if_pos (by omega)

theorem cmpO_PW (a : Option Int) : PW cmpO a := by
  refine ⟨fun b => ?_, ?_, fun b => ?_, fun b d => ?_, fun b d => ?_, fun b d => ?_⟩
  · cases a <;> cases b <;> simp [cmpO]; exact (cmpZ_PW _).sign _
  · cases a <;> simp [cmpO]; exact (cmpZ_PW _).refl
  · cases a <;> cases b <;> simp [cmpO]; exact (cmpZ_PW _).anti _
  · cases a <;> cases b <;> cases d <;> simp [cmpO]; exact (cmpZ_PW _).eqL _ _
  · cases a <;> cases b <;> cases d <;> simp [cmpO]; exact (cmpZ_PW _).eqR _ _
  · cases a <;> cases b <;> cases d <;> simp [cmpO]; exact (cmpZ_PW _).lt _ _

/-! ### one comparison, then another among what the first leaves equal -/

def thenI {α : Type} (c₁ c₂ : α → α → Int) (x y : α) : Int :=
  if c₁ x y = 0 then c₂ x y else c₁ x y

section
variable {α : Type} {c₁ c₂ : α → α → Int} {x y x' y' : α}

theorem thenI_zero (e : c₁ x y = 0) : thenI c₁ c₂ x y = c₂ x y := if_pos e

theorem thenI_ne (e : c₁ x y ≠ 0) : thenI c₁ c₂ x y = c₁ x y := if_neg e

theorem thenI_eq_zero (h : thenI c₁ c₂ x y = 0) : c₁ x y = 0 ∧ c₂ x y = 0 := by
  by_cases e : c₁ x y = 0
  · exact ⟨e, by rwa [thenI_zero e] at h⟩
  · exact absurd (by rwa [thenI_ne e] at h) e

theorem thenI_congr (e₁ : c₁ x y = c₁ x' y') (e₂ : c₁ x' y' = 0 → c₂ x y = c₂ x' y') :
    thenI c₁ c₂ x y = thenI c₁ c₂ x' y' := by
  unfold thenI; rw [e₁]
  by_cases e : c₁ x' y' = 0
  · rw [if_pos e, if_pos e, e₂ e]
  · rw [if_neg e, if_neg e]
end

/-- `c₂` need only be an order among the elements that `c₁` puts level with `a` -/
theorem PW.thenI {α : Type} {c₁ c₂ : α → α → Int} {a : α} {S : α → Prop} (h₁ : PW c₁ a)
    (hS : ∀ b, c₁ a b = 0 → S b) (h₂ : PWon S c₂ a) : PW (thenI c₁ c₂) a := by
  refine ⟨fun b => ?_, ?_, fun b => ?_, fun b d h => ?_, fun b d h => ?_, fun b d hab hbd => ?_⟩
  · by_cases e : c₁ a b = 0
    · rw [thenI_zero e]; exact h₂.sign b (hS b e)
    · rw [thenI_ne e]; exact h₁.sign b
  · rw [thenI_zero h₁.refl]; exact h₂.refl
  · have := h₁.anti b
    by_cases e : c₁ a b = 0
    · rw [thenI_zero e, thenI_zero (by omega)]; exact h₂.anti b (hS b e)
    · rw [thenI_ne e, thenI_ne (by omega)]; exact this
  · have ⟨e, e'⟩ := thenI_eq_zero h
    have ed := h₁.eqL b d e
    exact thenI_congr ed fun e0 => h₂.eqL b d (hS b e) (hS d (ed.trans e0)) e'
  · have ⟨e, e'⟩ := thenI_eq_zero h
    have ed := h₁.eqR b d e
    exact thenI_congr ed fun e0 => h₂.eqR b d (hS b (ed.trans e0)) (hS d e0) e'
  · by_cases e : c₁ a b = 0
    · have ed := h₁.eqL b d e
      rw [thenI_zero e] at hab
      by_cases e' : c₁ b d = 0
      · rw [thenI_zero e'] at hbd
        rw [thenI_zero (ed.trans e')]
        exact h₂.lt b d (hS b e) (hS d (ed.trans e')) hab hbd
      · rw [thenI_ne e'] at hbd
        rw [thenI_ne (ed ▸ e'), ed]; exact hbd
    · rw [thenI_ne e] at hab
      have : c₁ a d = -1 := by
        by_cases e' : c₁ b d = 0
        · rw [← h₁.eqR b d e']; exact hab
        · rw [thenI_ne e'] at hbd; exact h₁.lt b d hab hbd
      rw [thenI_ne (by omega)]; exact this

/-! ### ordered classes -/

theorem cls_PW {α : Type} (cls : α → Nat) (c : α → α → Int)
    (hc : ∀ x y, c x y = if cls x < cls y then -1 else if cls y < cls x then 1 else c x y)
    (a : α) (h : PWon (fun b => cls b = cls a) c a) : PW c a := by
  have e : c = thenI (fun x y => cmpZ (cls x) (cls y)) c := by
    funext x y
    show c x y = if cmpZ (cls x) (cls y) = 0 then c x y else cmpZ (cls x) (cls y)
    rcases cmpZ_spec (cls x) (cls y) with ⟨l, e⟩ | ⟨_, e⟩ | ⟨l, e⟩
    · rw [e, if_neg (by decide), hc, if_pos (by omega)]
    · rw [e, if_pos rfl]
    · rw [e, if_neg (by decide), hc, if_neg (by omega), if_pos (by omega)]
  rw [e]
  refine (PW.comap (c := cmpZ) (fun x => (cls x : Int)) a (cmpZ_PW _)).thenI (fun b hb => ?_) h
  have := cmpZ_spec (cls a) (cls b); omega

/-! ### pairs: first component, then second -/

def pairI {α : Type} (c : α → α → Int) : α × α → α × α → Int :=
  thenI (fun p q => c p.1 q.1) (fun p q => c p.2 q.2)

theorem pairI_PW {α : Type} (c : α → α → Int) (p : α × α) (h1 : PW c p.1) (h2 : PW c p.2) : PW (pairI c) p :=
  (h1.comap Prod.fst p).thenI (S := fun _ => True) (fun _ _ => trivial)
    (h2.onComap Prod.snd trivial fun _ _ _ _ => rfl)

/-! ### lexicographic order on lists (a proper prefix is smaller) -/

def lexI {α : Type} (c : α → α → Int) : List α → List α → Int
  | [], [] => 0
  | [], _ :: _ => -1
  | _ :: _, [] => 1
  | x :: xs, y :: ys => if c x y = 0 then lexI c xs ys else c x y

/-- the empty list before the others; those by their heads, then their tails -/
theorem lexI_PW {α : Type} (c : α → α → Int) :
    ∀ xs : List α, (∀ x ∈ xs, PW c x) → PW (lexI c) xs
  | [], _ => by
    refine ⟨fun b => ?_, ?_, fun b => ?_, fun b d => ?_, fun b d => ?_, fun b d => ?_⟩
    · cases b <;> simp [lexI]
    · simp [lexI]
    · cases b <;> simp [lexI]
    · cases b <;> cases d <;> simp [lexI]
    · cases b <;> cases d <;> simp [lexI]
    · cases b <;> cases d <;> simp [lexI]
  | x :: xs, hx => by
    have px : PW c x := hx x (by simp)
    have ih : PW (lexI c) xs := lexI_PW c xs (fun y hy => hx y (by simp [hy]))
    have := (px.comap (fun l => l.headD x) (x :: xs)).thenI (S := fun _ => True) (fun _ _ => trivial)
      (ih.onComap (c := fun l l' => lexI c l.tail l'.tail) List.tail trivial fun _ _ _ _ => rfl)
    refine cls_PW (fun l => if l = [] then 0 else 1) (lexI c) (fun l l' => ?_) _
      (this.onComap id rfl fun l l' hl hl' => ?_)
    · cases l <;> cases l' <;> simp [lexI]
    · cases l <;> simp at hl
      cases l' <;> simp at hl'
      rfl

/-! ### shorter lists first, lexicographic among equal lengths -/

def lenLexI {α : Type} (c : α → α → Int) (xs ys : List α) : Int :=
  if xs.length < ys.length then -1 else if ys.length < xs.length then 1 else lexI c xs ys

/-- lengths are the classes; inside a class it is `lexI` -/
theorem lenLexI_PW {α : Type} (c : α → α → Int) (xs : List α) (h : PW (lexI c) xs) : PW (lenLexI c) xs := by
  refine cls_PW List.length (lenLexI c) (fun x y => ?_) xs (h.onComap id rfl fun x y hx hy => ?_)
  · by_cases h1 : x.length < y.length
    · rw [if_pos h1, lenLexI, if_pos h1]
    · by_cases h2 : y.length < x.length
      · rw [if_neg h1, if_pos h2, lenLexI, if_neg h1, if_pos h2]
      · rw [if_neg h1, if_neg h2]
  · rw [lenLexI, if_neg (by omega), if_neg (by omega)]; rfl

end Grol.Ord
