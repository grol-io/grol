import Grol.Eval.Sexp
/-
Running a computation of the evaluator model's monad `M = ExceptT Stop (StateM St)` from a state:
`run x st` is the pair (outcome, state after), `outcome` and `stateAfter` are its two components.
Sequencing is proved once, for `run` (`run_bind`); every other form follows from it.
Then the operators that never end in a Go panic (eval/eval.go evalIntegerInfixExpression …).
-/
namespace Grol.E

def outcome (x : M α) (st : St) : Except Stop α := (x.run st |>.run).1

def stateAfter (x : M α) (st : St) : St := (x.run st |>.run).2

def run (x : M α) (st : St) : Except Stop α × St := (x.run st |>.run)

theorem outcome_eq_run (x : M α) (st : St) : outcome x st = (run x st).1 := rfl
theorem stateAfter_eq_run (x : M α) (st : St) : stateAfter x st = (run x st).2 := rfl
theorem run_eq (x : M α) (st : St) : run x st = (outcome x st, stateAfter x st) := rfl

theorem of_run_eq {x : M α} {st : St} {r : Except Stop α} {s : St} (h : run x st = (r, s)) :
    outcome x st = r ∧ stateAfter x st = s := ⟨congrArg Prod.fst h, congrArg Prod.snd h⟩

def SameRun {α : Type} (x : M α) (st : St) (y : M α) (st' : St) : Prop :=
  outcome x st = outcome y st' ∧ stateAfter x st = stateAfter y st'

theorem SameRun.of_run {α : Type} {x y : M α} {st st' : St} (h : run x st = run y st') : SameRun x st y st' :=
  of_run_eq h
theorem SameRun.refl {α : Type} (x : M α) (st : St) : SameRun x st x st := ⟨rfl, rfl⟩
theorem SameRun.trans {α : Type} {x y z : M α} {s t u : St} (h : SameRun x s y t) (h' : SameRun y t z u) :
    SameRun x s z u := ⟨h.1.trans h'.1, h.2.trans h'.2⟩

def isGoPanic : Except Stop α → Bool
  | .error (.goPanic _) => true
  | _ => false

theorem outcome_pure (a : α) (st : St) : outcome (pure a : M α) st = .ok a := rfl

theorem run_bind (x : M α) (f : α → M β) (st : St) :
    run (x >>= f) st =
      match run x st with
      | (.ok a, st') => run (f a) st'
      | (.error e, st') => (.error e, st') := by
  unfold run
  simp only [bind, ExceptT.bind, ExceptT.run, ExceptT.mk, StateT.bind, ExceptT.bindCont, Id.run]
  split
  next a s h =>
    simp only [h]
    cases a <;> rfl

theorem run_bind_ok {x : M α} (f : α → M β) {st : St} {a : α} (h : outcome x st = .ok a) :
    run (x >>= f) st = run (f a) (stateAfter x st) := by
  rw [run_bind, run_eq x, h]

theorem run_bind_error {x : M α} (f : α → M β) {st : St} {e : Stop} (h : outcome x st = .error e) :
    run (x >>= f) st = (.error e, stateAfter x st) := by
  rw [run_bind, run_eq x, h]

theorem outcome_bind (x : M α) (f : α → M β) (st : St) :
    outcome (x >>= f) st =
      match outcome x st with
      | .ok a => outcome (f a) (stateAfter x st)
      | .error e => .error e := by
  cases h : outcome x st with
  | ok a => exact congrArg Prod.fst (run_bind_ok f h)
  | error e => exact congrArg Prod.fst (run_bind_error f h)

theorem stateAfter_bind (x : M α) (f : α → M β) (st : St) :
    stateAfter (x >>= f) st =
      match outcome x st with
      | .ok a => stateAfter (f a) (stateAfter x st)
      | .error _ => stateAfter x st := by
  cases h : outcome x st with
  | ok a => exact congrArg Prod.snd (run_bind_ok f h)
  | error e => exact congrArg Prod.snd (run_bind_error f h)

theorem bind_no_panic (x : M α) (f : α → M β) (st : St)
    (hx : isGoPanic (outcome x st) = false)
    (hf : ∀ a st', isGoPanic (outcome (f a) st') = false) :
    isGoPanic (outcome (x >>= f) st) = false := by
  rw [outcome_bind]
  cases h : outcome x st with
  | ok a => exact hf _ _
  | error e => rw [h] at hx; cases e <;> exact hx

theorem mustBeOk_no_panic (n : Int) (st : St) : isGoPanic (outcome (mustBeOk n) st) = false := by
  unfold mustBeOk outcome
  split <;> rfl

/-- an integer operator returns an integer, a language-level error (`/` and `%` by zero, shifts by negative
counts, unknown operator) or the range `l:r`, without looking at the state; only the range consults the
allocation guard first.  `Q` is whatever the caller needs to know of such values. -/
theorem evalIntegerInfix_val (op : String) (l r : Int64) {Q : Obj → Prop} (hi : ∀ i, Q (.int i))
    (he : ∀ m, Q (err m)) (ha : Q (newArray (int64Range l r))) :
    ∃ v, Q v ∧ (evalIntegerInfix op l r = pure v ∨ ∃ n, evalIntegerInfix op l r = (mustBeOk n >>= fun _ => pure v)) := by
  unfold evalIntegerInfix
  split
  · exact ⟨_, hi _, .inl rfl⟩
  · exact ⟨_, hi _, .inl rfl⟩
  · exact ⟨_, hi _, .inl rfl⟩
  · split
    · exact ⟨_, he _, .inl rfl⟩
    · exact ⟨_, hi _, .inl rfl⟩
  · split
    · exact ⟨_, he _, .inl rfl⟩
    · exact ⟨_, hi _, .inl rfl⟩
  · split
    · exact ⟨_, he _, .inl rfl⟩
    · split <;> exact ⟨_, hi _, .inl rfl⟩
  · split
    · exact ⟨_, he _, .inl rfl⟩
    · split <;> exact ⟨_, hi _, .inl rfl⟩
  · exact ⟨_, hi _, .inl rfl⟩
  · exact ⟨_, hi _, .inl rfl⟩
  · exact ⟨_, hi _, .inl rfl⟩
  · dsimp only
    split
    · exact ⟨_, he _, .inl rfl⟩
    · exact ⟨_, ha, .inr ⟨_, rfl⟩⟩
  · exact ⟨_, he _, .inl rfl⟩

theorem evalIntegerInfix_shape (op : String) (l r : Int64) :
    (∃ v, evalIntegerInfix op l r = pure v) ∨ ∃ n v, evalIntegerInfix op l r = (mustBeOk n >>= fun _ => pure v) := by
  obtain ⟨v, -, h | ⟨n, h⟩⟩ := evalIntegerInfix_val op l r (Q := fun _ => True) (fun _ => trivial) (fun _ => trivial) trivial
  · exact .inl ⟨v, h⟩
  · exact .inr ⟨n, v, h⟩

theorem evalIntegerInfix_no_panic (op : String) (l r : Int64) (st : St) :
    isGoPanic (outcome (evalIntegerInfix op l r) st) = false := by
  rcases evalIntegerInfix_shape op l r with ⟨v, h⟩ | ⟨n, v, h⟩ <;> rw [h]
  · rfl
  · exact bind_no_panic _ _ _ (mustBeOk_no_panic _ _) (fun _ _ => rfl)

end Grol.E
