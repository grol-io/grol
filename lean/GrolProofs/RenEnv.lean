import GrolProofs.RenVal
import GrolProofs.EvalSafeEnv
/-
C10 (two-run simulation): the environment operations (lean/Grol/Eval/Env.lean) run in
lockstep in the two runs.
-/
namespace Grol.R
open Grol.E

/-- renamed results -/
abbrev QO (σ : Sh) : Obj → Obj → Prop := fun a b => a = ren σ b
abbrev QOpt (σ : Sh) : Option Obj → Option Obj → Prop := fun a b => a = b.map (ren σ)

/-! ### frames of the two runs -/

def FrameDec (i : Nat) (f : Frame) : Prop :=
  (∀ o, f.outer = some o → o < i) ∧ (∀ k e n, (k, Obj.ref e n) ∈ f.store → e < i)

theorem StR.none {σ : Sh} {s t : St} (hR : StR σ s t) {e : Nat} (h : t.frames[e]? = none) :
    s.frames[sh σ e]? = none := by
  have h1 : t.frames.size ≤ e := by
    rcases Nat.lt_or_ge e t.frames.size with h2 | h2
    · rw [Array.getElem?_eq_getElem h2] at h; cases h
    · exact h2
  apply Array.getElem?_eq_none
  rw [hR.size, sh_of_ge σ (Nat.le_trans hR.n0 h1)]
  omega

theorem runM_getFrame_none {st : St} {e : Nat} (h : st.frames[e]? = none) :
    runM (getFrame e) st = (.error (.goPanic "nil environment"), st) := by
  rw [show runM (getFrame e) st = run (getFrame e) st from rfl, run_getFrame, h]

/-- `getFrame` on both sides: either both panic, or both continue with related frames -/
theorem sim_getFrame_bind {σ : Sh} {s t : St} (hR : StR σ s t) (e : Nat) {f : Frame → M α} {g : Frame → M β}
    {Q : α → β → Prop}
    (h : ∀ fs ft, t.frames[e]? = some ft → s.frames[sh σ e]? = some fs → FrameR σ e fs ft →
      SimAt σ (f fs) (g ft) s t Q) :
    SimAt σ (getFrame (sh σ e) >>= f) (getFrame e >>= g) s t Q := by
  cases hte : t.frames[e]? with
  | none =>
    unfold SimAt
    rw [runM_bind, runM_bind, runM_getFrame_none hte, runM_getFrame_none (hR.none hte)]
    exact ⟨rfl, hR⟩
  | some ft =>
    obtain ⟨fs, hfs, hfr⟩ := hR.frames e ft hte
    exact SimAt.bind_read (runM_getFrame hfs) (runM_getFrame hte) (h fs ft hte hfs hfr)

/-- replacing related frames by related frames -/
theorem StR.setFrame {σ : Sh} {s t : St} (hR : StR σ s t) {e : Nat} {ft : Frame} (hte : t.frames[e]? = some ft)
    {fs' ft' : Frame} (hfr : FrameR σ e fs' ft') (hdec : FrameDec e ft') :
    StR σ { s with frames := s.frames.setIfInBounds (sh σ e) fs' }
      { t with frames := t.frames.setIfInBounds e ft' } := by
  have hlt := lt_of_frame hte
  obtain ⟨fs, hfs, _⟩ := hR.frames e ft hte
  have hlts := lt_of_frame hfs
  refine { hR with size := ?_, n0 := ?_, frames := ?_, dec := ?_ }
  · simp only [Array.size_setIfInBounds]; exact hR.size
  · simp only [Array.size_setIfInBounds]; exact hR.n0
  · intro i fi hi
    simp only [Array.getElem?_setIfInBounds] at hi ⊢
    by_cases hei : e = i
    · subst hei
      simp only [hlt, if_true] at hi
      cases hi
      exact ⟨fs', by simp [hlts], hfr⟩
    · simp only [hei, if_false] at hi
      obtain ⟨fsi, hfsi, hfri⟩ := hR.frames i fi hi
      refine ⟨fsi, ?_, hfri⟩
      have : sh σ e ≠ sh σ i := fun h => hei (sh_inj σ h)
      simp only [this, if_false]
      exact hfsi
  · intro i fi hi
    simp only [Array.getElem?_setIfInBounds] at hi
    by_cases hei : e = i
    · subst hei
      simp only [hlt, if_true] at hi
      cases hi
      exact hdec
    · simp only [hei, if_false] at hi
      exact hR.dec i fi hi

theorem runM_modifyFrame {st : St} {e : Nat} {f : Frame} (h : st.frames[e]? = some f) (g : Frame → Frame) :
    runM (modifyFrame e g) st = (.ok (), { st with frames := st.frames.setIfInBounds e (g f) }) := by
  rw [show runM (modifyFrame e g) st = run (modifyFrame e g) st from rfl, run_modifyFrame, h]

theorem sim_modifyFrame {σ : Sh} {s t : St} (hR : StR σ s t) (e : Nat) {g' g : Frame → Frame}
    (hg : ∀ fs ft, t.frames[e]? = some ft → FrameR σ e fs ft → FrameR σ e (g' fs) (g ft) ∧ FrameDec e (g ft)) :
    SimAt σ (modifyFrame (sh σ e) g') (modifyFrame e g) s t (fun _ _ => True) := by
  cases hte : t.frames[e]? with
  | none =>
    unfold SimAt modifyFrame
    rw [runM_bind, runM_bind, runM_getFrame_none hte, runM_getFrame_none (hR.none hte)]
    exact ⟨rfl, hR⟩
  | some ft =>
    obtain ⟨fs, hfs, hfr⟩ := hR.frames e ft hte
    obtain ⟨h1, h2⟩ := hg fs ft hte hfr
    unfold SimAt
    rw [runM_modifyFrame hfs, runM_modifyFrame hte]
    exact ⟨hR.setFrame hte h1 h2, trivial⟩

/-- counters and flags only -/
theorem sim_bump {σ : Sh} {s t : St} (hR : StR σ s t) (e : Nat) {g : Frame → Frame}
    (hg : ∀ f, (g f).store = f.store ∧ (g f).outer = f.outer ∧ (g f).depth = f.depth ∧
      (g f).cacheKey = f.cacheKey ∧ (g f).function = f.function)
    (hc : ∀ fs ft : Frame, fs.getMiss = ft.getMiss ∧ fs.cantCache = ft.cantCache ∧ fs.numSet = ft.numSet →
      (g fs).getMiss = (g ft).getMiss ∧ (g fs).cantCache = (g ft).cantCache ∧ (g fs).numSet = (g ft).numSet)
    (hl : ∀ f, (g f).localFunc = f.localFunc := by intro f; rfl) :
    SimAt σ (modifyFrame (sh σ e) g) (modifyFrame e g) s t (fun _ _ => True) := by
  refine sim_modifyFrame hR e ?_
  intro fs ft hte hfr
  obtain ⟨a1, a2, a3, a4, a5⟩ := hg fs
  obtain ⟨b1, b2, b3, b4, b5⟩ := hg ft
  refine ⟨⟨by rw [a1, b1]; exact hfr.store, by rw [a2, b2]; exact hfr.outer, by rw [a3, b3]; exact hfr.depth,
    by rw [a4, b4]; exact hfr.cacheKey, by rw [a5, b5]; exact hfr.function, fun h => hc fs ft (hfr.counters h),
    by rw [hl fs, hl ft]; exact hfr.localFunc⟩, ?_⟩
  have := hR.dec e ft hte
  exact ⟨by rw [b2]; exact this.1, by rw [b1]; exact this.2⟩

theorem sim_triggerNoCache {σ : Sh} {s t : St} (hR : StR σ s t) (e : Nat) :
    SimAt σ (triggerNoCache (sh σ e)) (triggerNoCache e) s t (fun _ _ => True) := by
  unfold triggerNoCache
  refine sim_bump hR e (fun f => ⟨rfl, rfl, rfl, rfl, rfl⟩) ?_
  intro fs ft h
  exact ⟨by simp [h.1], rfl, h.2.2⟩

/-! ### references -/

def notRef : Obj → Bool
  | .ref .. => false
  | _ => true

theorem ren_notRef (σ : Sh) {o : Obj} (h : notRef o = true) : notRef (ren σ o) = true := by
  cases o <;> first | rfl | (simp [notRef] at h)

/-- `refValue`: related results; a reference found in frame `env` points below `env` -/
theorem sim_refValue {σ : Sh} {s t : St} (hR : StR σ s t) (env : Nat) (name : String) :
    SimAt σ (refValue (sh σ env) name) (refValue env name) s t
      (fun a b => a = ren σ b ∧ ∀ e' n', b = Obj.ref e' n' → e' < env) := by
  unfold refValue
  refine sim_getFrame_bind hR env ?_
  intro fs ft hte hfs hfr
  rw [hfr.store, lookupStore_ren]
  cases hl : lookupStore ft.store name with
  | none => exact SimAt.pure hR ⟨rfl, fun _ _ h => by cases h⟩
  | some v =>
    obtain ⟨k, hk⟩ := lookupStore_mem hl
    cases v with
    | ref e n =>
      have hlt : e < env := (hR.dec env ft hte).2 k e n hk
      simp only [Option.map, ren]
      have h1 : (e == env && n == name) = false := by
        have : (e == env) = false := by simp; omega
        simp [this]
      have h2 : (sh σ e == sh σ env && n == name) = false := by
        have : (sh σ e == sh σ env) = false := by
          have := sh_lt σ hlt
          simp; omega
        simp [this]
      simp only [h1, h2]
      exact SimAt.pure hR ⟨rfl, fun e' n' h => by cases h; exact hlt⟩
    | _ => exact SimAt.pure hR ⟨rfl, fun _ _ h => by cases h⟩

theorem sim_refAlive {σ : Sh} {s t : St} (hR : StR σ s t) (env : Nat) (name : String) :
    SimAt σ (refAlive (sh σ env) name) (refAlive env name) s t (fun a b => a = b) := by
  unfold refAlive
  refine sim_getFrame_bind hR env ?_
  intro fs ft hte hfs hfr
  rw [hfr.store, lookupStore_ren]
  refine SimAt.pure hR ?_
  cases lookupStore ft.store name <;> rfl

theorem go_notRef {o : Obj} (h : notRef o = true) (n : Nat) : valueOf.go n o = pure o := by
  cases o <;> cases n <;> first | rfl | (simp [notRef] at h)

/-- dereferencing, with any fuels that cover the chain -/
theorem sim_valueOf_go {σ : Sh} :
    ∀ (n m : Nat) (o : Obj) (s t : St), StR σ s t → (∀ e nm, o = Obj.ref e nm → e < n ∧ sh σ e < m) →
      SimAt σ (valueOf.go m (ren σ o)) (valueOf.go n o) s t (fun a b => a = ren σ b ∧ notRef b = true) := by
  intro n
  induction n with
  | zero =>
    intro m o s t hR ho
    cases ho' : notRef o with
    | false =>
      cases o with
      | ref e nm => exact absurd (ho e nm rfl).1 (Nat.not_lt_zero _)
      | _ => simp [notRef] at ho'
    | true =>
      rw [go_notRef ho', go_notRef (ren_notRef σ ho')]
      exact SimAt.pure hR ⟨rfl, ho'⟩
  | succ n ih =>
    intro m o s t hR ho
    cases ho' : notRef o with
    | true =>
      rw [go_notRef ho', go_notRef (ren_notRef σ ho')]
      exact SimAt.pure hR ⟨rfl, ho'⟩
    | false =>
      cases o with
      | ref e nm =>
        obtain ⟨hen, hem⟩ := ho e nm rfl
        obtain ⟨m', rfl⟩ : ∃ m', m = m' + 1 := ⟨m - 1, by omega⟩
        simp only [ren]
        unfold valueOf.go
        refine SimAt.bind (sim_refValue hR e nm) ?_
        rintro a b s' t' hR' ⟨hab, hb⟩
        subst hab
        have hnext : ∀ s2 t2, StR σ s2 t2 →
            SimAt σ (valueOf.go m' (ren σ b)) (valueOf.go n b) s2 t2 (fun a b => a = ren σ b ∧ notRef b = true) := by
          intro s2 t2 hR2
          refine ih m' b s2 t2 hR2 ?_
          intro e' n' hbe
          have := hb e' n' hbe
          have h2 := sh_lt σ this
          exact ⟨by omega, by omega⟩
        dsimp only
        cases b with
        | ref e' n' =>
          simp only [ren]
          refine sim_getFrame_bind hR' e' ?_
          intro fs1 ft1 _ _ hfr1
          refine sim_getFrame_bind hR' e ?_
          intro fs2 ft2 _ _ hfr2
          rw [hfr1.depth, hfr2.depth]
          exact SimAt.ite (fun _ => SimAt.stop_bind hR') (fun _ => hnext _ _ hR')
        | _ => all_goals exact hnext _ _ hR'
      | _ => simp [notRef] at ho'

theorem sim_valueOf {σ : Sh} {s t : St} (hR : StR σ s t) (o : Obj) :
    SimAt σ (valueOf (ren σ o)) (valueOf o) s t (fun a b => a = ren σ b ∧ notRef b = true) := by
  unfold valueOf
  refine SimAt.bind_read (runM_get s) (runM_get t) ?_
  cases o with
  | ref e nm =>
    by_cases he : e < t.frames.size
    · refine sim_valueOf_go _ _ _ s t hR ?_
      intro e' nm' h
      cases h
      have h1 := sh_lt σ he
      have h2 : sh σ t.frames.size = t.frames.size + σ.d := sh_of_ge σ hR.n0
      rw [hR.size]
      exact ⟨by omega, by omega⟩
    · -- out of range in both runs: `refValue` panics
      simp only [ren]
      unfold valueOf.go
      have hte : t.frames[e]? = none := Array.getElem?_eq_none (by omega)
      unfold SimAt refValue
      rw [runM_bind, runM_bind, runM_bind, runM_bind, runM_getFrame_none hte, runM_getFrame_none (hR.none hte)]
      exact ⟨rfl, hR⟩
  | _ =>
    all_goals
      refine sim_valueOf_go _ _ _ s t hR ?_
      intro e nm h; cases h

/-! ### makeRef -/

theorem refTo_ren (σ : Sh) (o : Nat) (name : String) (obj : Obj) :
    refTo (sh σ o) name (ren σ obj) = ren σ (refTo o name obj) := by
  cases obj <;> rfl

theorem isFuncObj_ren (σ : Sh) (o : Obj) : isFuncObj (ren σ o) = isFuncObj o := by
  cases o <;> rfl

/-- storing `r` under `name` in related frames -/
theorem frameR_setStore {σ : Sh} {i : Nat} {fs ft : Frame} (h : FrameR σ i fs ft) (name : String) (v : Obj) :
    FrameR σ i { fs with store := setStore fs.store name (ren σ v) } { ft with store := setStore ft.store name v } :=
  ⟨by simp only; rw [h.store, setStore_ren], h.outer, h.depth, h.cacheKey, h.function, h.counters, h.localFunc⟩

theorem frameDec_setStore {i : Nat} {ft : Frame} (h : FrameDec i ft) (name : String) {v : Obj}
    (hv : ∀ e n, v = Obj.ref e n → e < i) : FrameDec i { ft with store := setStore ft.store name v } := by
  refine ⟨h.1, ?_⟩
  intro k e n hm
  rcases mem_setStore hm with h1 | h1
  · exact h.2 k e n h1
  · exact hv e n h1.symm

theorem SimAt.congr_run {σ : Sh} {x x' : M α} {y y' : M β} {s t : St} {Q : α → β → Prop}
    (hx : run x s = run x' s) (hy : run y t = run y' t) (h : SimAt σ x' y' s t Q) : SimAt σ x y s t Q := by
  unfold SimAt at h ⊢
  rw [show runM x s = runM x' s from hx, show runM y t = runM y' t from hy]
  exact h

/-- the two walks go the same way -/
theorem makeRefWalk_ren {σ : Sh} {s t : St} (hR : StR σ s t) (name : String) :
    ∀ (n m e : Nat), e < n → sh σ e < m →
      makeRefWalk s.frames name m (sh σ e) =
        (makeRefWalk t.frames name n e).map (Option.map fun p => (sh σ p.1, ren σ p.2)) := by
  intro n
  induction n with
  | zero => intro m e h; exact absurd h (Nat.not_lt_zero _)
  | succ n ih =>
    intro m e hen hem
    obtain ⟨m', rfl⟩ : ∃ m', m = m' + 1 := ⟨m - 1, by omega⟩
    unfold makeRefWalk
    cases hte : t.frames[e]? with
    | none => rw [hR.none hte]; rfl
    | some ft =>
      obtain ⟨fs, hfs, hfr⟩ := hR.frames e ft hte
      rw [hfs]
      dsimp only
      rw [hfr.outer]
      cases hout : ft.outer with
      | none => rfl
      | some o =>
        have hoe : o < e := (hR.dec e ft hte).1 o hout
        dsimp only [Option.map]
        cases hto : t.frames[o]? with
        | none => rw [hR.none hto]; rfl
        | some fto =>
          obtain ⟨fso, hfso, hfro⟩ := hR.frames o fto hto
          rw [hfso]
          dsimp only
          rw [hfro.store, lookupStore_ren]
          cases lookupStore fto.store name with
          | none =>
            have := sh_lt σ hoe
            exact ih m' o (by omega) (by omega)
          | some obj => rfl

/-- the reference `makeRef` hands out for an entry of frame `o` points at `o` or further out -/
theorem refTo_lt {t : St} (hdec : RefDec t) {o : Nat} {fto : Frame} {name : String} {obj : Obj}
    (hto : t.frames[o]? = some fto) (hl : lookupStore fto.store name = some obj) {orig : Nat} (ho : o < orig) :
    ∃ e' n', refTo o name obj = Obj.ref e' n' ∧ e' < orig := by
  obtain ⟨k, hk⟩ := lookupStore_mem hl
  cases obj with
  | ref e2 n2 => exact ⟨e2, n2, rfl, Nat.lt_trans ((hdec o fto hto).2 k e2 n2 hk) ho⟩
  | _ => all_goals exact ⟨o, name, rfl, ho⟩

theorem sim_makeRefFound {σ : Sh} {s t : St} (hR : StR σ s t) (orig : Nat) (name : String) {o : Nat} {obj : Obj}
    {fto : Frame} (hto : t.frames[o]? = some fto) (hl : lookupStore fto.store name = some obj) (ho : o < orig) :
    SimAt σ (makeRefFound (sh σ orig) name (sh σ o) (ren σ obj)) (makeRefFound orig name o obj) s t (QOpt σ) := by
  unfold makeRefFound
  obtain ⟨e', n', hrt, hlt⟩ := refTo_lt hR.dec hto hl ho
  dsimp only
  rw [refTo_ren, isFuncObj_ren]
  rw [hrt]
  refine SimAt.bind (Q := fun _ _ => True) ?_ ?_
  · refine sim_modifyFrame hR orig ?_
    intro fs1 ft1 hte1 hfr1
    exact ⟨frameR_setStore hfr1 name _, frameDec_setStore (hR.dec orig ft1 hte1) name (fun _ _ h => by cases h; exact hlt)⟩
  · intro _ _ s1 t1 hR1 _
    simp only [ren]
    refine sim_getFrame_bind hR1 e' ?_
    intro fs3 ft3 _ _ hfr3
    refine SimAt.bind_read (runM_pure _ s1) (runM_pure _ t1) ?_
    rw [hfr3.depth]
    refine SimAt.ite (fun _ => ?_) (fun _ => SimAt.pure hR1 rfl)
    refine SimAt.bind (Q := fun _ _ => True) ?_ (fun _ _ s2 t2 hR2 _ => SimAt.pure hR2 rfl)
    refine sim_bump hR1 orig (fun f => ⟨rfl, rfl, rfl, rfl, rfl⟩) ?_
    intro fs2 ft2 h
    exact ⟨by simp [h.1], h.2.1, h.2.2⟩

theorem sim_makeRef_go {σ : Sh} (orig : Nat) (name : String) (n m e : Nat) {s t : St} (hR : StR σ s t)
    (hen : e < n) (hem : sh σ e < m) (heo : e ≤ orig) :
    SimAt σ (makeRef.go (sh σ orig) name m (sh σ e)) (makeRef.go orig name n e) s t (QOpt σ) := by
  refine SimAt.congr_run (run_makeRef_go ..) (run_makeRef_go ..) ?_
  rw [makeRefWalk_ren hR name n m e hen hem]
  cases hw : makeRefWalk t.frames name n e with
  | error err => exact SimAt.stop hR
  | ok r =>
    cases r with
    | none => exact SimAt.pure hR rfl
    | some p =>
      obtain ⟨hoe, fto, hto, hl⟩ := makeRefWalk_found (fun i f o hf => (hR.dec i f hf).1 o) hw
      exact sim_makeRefFound hR orig name hto hl (by omega)

theorem sim_makeRef {σ : Sh} {s t : St} (hR : StR σ s t) (orig : Nat) (name : String) :
    SimAt σ (makeRef (sh σ orig) name) (makeRef orig name) s t (QOpt σ) := by
  unfold makeRef
  refine SimAt.bind_read (runM_get s) (runM_get t) ?_
  have h2 : sh σ t.frames.size = t.frames.size + σ.d := sh_of_ge σ hR.n0
  by_cases ho : orig < t.frames.size
  · have h1 := sh_lt σ ho
    exact sim_makeRef_go orig name _ _ orig hR ho (by rw [hR.size]; omega) (Nat.le_refl _)
  · -- out of range in both runs (there is at least the root frame, so the fuel is not 0)
    have hpos := hR.pos
    have hn0 := hR.n0
    obtain ⟨k, hk⟩ : ∃ k, t.frames.size = k + 1 := ⟨t.frames.size - 1, by omega⟩
    obtain ⟨k', hk'⟩ : ∃ k', s.frames.size = k' + 1 := ⟨s.frames.size - 1, by rw [hR.size]; omega⟩
    rw [hk, hk']
    unfold makeRef.go
    have hte : t.frames[orig]? = none := Array.getElem?_eq_none (by omega)
    unfold SimAt
    rw [runM_bind, runM_bind, runM_getFrame_none hte, runM_getFrame_none (hR.none hte)]
    exact ⟨rfl, hR⟩

/-! ### envGet -/

theorem frameR_delStore {σ : Sh} {i : Nat} {fs ft : Frame} (h : FrameR σ i fs ft) (name : String) :
    FrameR σ i { fs with store := delStore fs.store name } { ft with store := delStore ft.store name } :=
  ⟨by simp only; rw [h.store, delStore_ren], h.outer, h.depth, h.cacheKey, h.function, h.counters, h.localFunc⟩

theorem frameDec_delStore {i : Nat} {ft : Frame} (h : FrameDec i ft) (name : String) :
    FrameDec i { ft with store := delStore ft.store name } :=
  ⟨h.1, fun k e n hm => h.2 k e n (mem_delStore hm)⟩

theorem sim_envGet {σ : Sh} {s t : St} (hR : StR σ s t) (e : Nat) (name : String) :
    SimAt σ (envGet (sh σ e) name) (envGet e name) s t (QOpt σ) := by
  unfold envGet
  dsimp only
  refine SimAt.ite (fun _ => SimAt.stop_bind hR) (fun _ => ?_)
  refine sim_getFrame_bind hR e ?_
  intro fs ft hte hfs hfr
  have het := lt_of_frame hte
  have hrest : SimAt σ (envGetStored (sh σ e) name fs) (envGetStored e name ft) s t (QOpt σ) := by
    unfold envGetStored
    rw [hfr.store, lookupStore_ren, hfr.outer]
    cases hl : lookupStore ft.store name with
    | none =>
      simp only [Option.map]
      cases ft.outer with
      | none => exact SimAt.pure hR rfl
      | some o => exact sim_makeRef hR e name
    | some obj =>
      cases obj with
      | ref re rn =>
        simp only [Option.map, ren]
        refine SimAt.bind (sim_refAlive hR re rn) ?_
        rintro a b s1 t1 hR1 rfl
        refine SimAt.ite (fun _ => ?_) (fun _ => ?_)
        · refine SimAt.bind (Q := fun _ _ => True) ?_ ?_
          · refine sim_modifyFrame hR1 e ?_
            intro fs1 ft1 hte1 hfr1
            exact ⟨frameR_delStore hfr1 name, frameDec_delStore (hR1.dec e ft1 hte1) name⟩
          · intro _ _ s2 t2 hR2 _
            cases ft.outer with
            | none => exact SimAt.pure hR2 rfl
            | some o =>
              exact sim_makeRef hR2 e name
        · refine SimAt.bind (sim_refValue hR1 re rn) ?_
          rintro tgs tgt s2 t2 hR2 ⟨rfl, _⟩
          refine sim_getFrame_bind hR2 re ?_
          intro fs3 ft3 _ _ hfr3
          rw [hfr3.depth, isFuncObj_ren]
          refine SimAt.ite (fun _ => ?_) (fun _ => SimAt.pure hR2 rfl)
          refine SimAt.bind (Q := fun _ _ => True) ?_ (fun _ _ s3 t3 hR3 _ => SimAt.pure hR3 rfl)
          refine sim_bump hR2 e (fun f => ⟨rfl, rfl, rfl, rfl, rfl⟩) ?_
          intro fs4 ft4 h
          exact ⟨by simp [h.1], h.2.1, h.2.2⟩
      | _ => all_goals exact SimAt.pure hR rfl
  refine SimAt.ite (fun _ => ?_) (fun _ => ?_)
  · rw [hfr.function]
    cases ft.function with
    | none => exact SimAt.pure hR rfl
    | some fn => exact SimAt.pure hR rfl
  · rw [hfr.function]
    cases ft.function with
    | none => exact hrest
    | some fn =>
      simp only [Option.map]
      refine SimAt.ite' (by simp [renFn]) (fun _ => SimAt.pure hR rfl) (fun _ => hrest)

/-! ### writes -/

theorem StR.clearCache {σ : Sh} {s t : St} (hR : StR σ s t) :
    StR σ { s with cache := [] } { t with cache := [] } :=
  { hR with cache := CacheR.nil }

theorem sim_functionChanged {σ : Sh} {s t : St} (hR : StR σ s t) (w : Nat) (old : Option Obj) :
    SimAt σ (functionChanged (sh σ w) (old.map (ren σ))) (functionChanged w old) s t (fun _ _ => True) := by
  unfold functionChanged
  cases old with
  | none => exact SimAt.pure hR trivial
  | some o =>
    simp only [Option.map, isFuncObj_ren]
    refine SimAt.ite (fun _ => ?_) (fun _ => SimAt.pure hR trivial)
    refine SimAt.bind (Q := fun _ _ => True) ?_ ?_
    · refine sim_bump hR w (fun f => ⟨rfl, rfl, rfl, rfl, rfl⟩) ?_
      intro fs ft h
      exact ⟨by simp [h.1], h.2.1, h.2.2⟩
    · intro _ _ s1 t1 hR1 _
      unfold SimAt
      rw [runM_modify, runM_modify]
      exact ⟨hR1.clearCache, trivial⟩

/-- the frame update of `create`, `update` and the reference path of `SetNoChecks` -/
theorem sim_storeSet {σ : Sh} {s t : St} (hR : StR σ s t) (e : Nat) (name : String) {v : Obj}
    (hnr : notRef v = true) (g' g : Frame → Frame)
    (hg' : ∀ f, (g' f).store = setStore f.store name (ren σ v) ∧ (g' f).outer = f.outer ∧ (g' f).depth = f.depth ∧
      (g' f).cacheKey = f.cacheKey ∧ (g' f).function = f.function ∧ (g' f).getMiss = f.getMiss ∧
      (g' f).cantCache = f.cantCache)
    (hg : ∀ f, (g f).store = setStore f.store name v ∧ (g f).outer = f.outer ∧ (g f).depth = f.depth ∧
      (g f).cacheKey = f.cacheKey ∧ (g f).function = f.function ∧ (g f).getMiss = f.getMiss ∧
      (g f).cantCache = f.cantCache)
    (hn : ∀ fs ft : Frame, fs.depth = ft.depth → fs.numSet = ft.numSet → (g' fs).numSet = (g ft).numSet)
    (hl : ∀ fs ft : Frame, fs.depth = ft.depth → fs.localFunc = ft.localFunc → (g' fs).localFunc = (g ft).localFunc := by
      intro fs ft h1 h2; simp only [noteLocal, h1, h2, isFuncObj_ren]) :
    SimAt σ (modifyFrame (sh σ e) g') (modifyFrame e g) s t (fun _ _ => True) := by
  refine sim_modifyFrame hR e ?_
  intro fs ft hte hfr
  obtain ⟨a1, a2, a3, a4, a5, a6, a7⟩ := hg' fs
  obtain ⟨b1, b2, b3, b4, b5, b6, b7⟩ := hg ft
  refine ⟨⟨by rw [a1, b1, hfr.store, setStore_ren], by rw [a2, b2]; exact hfr.outer, by rw [a3, b3]; exact hfr.depth,
    by rw [a4, b4]; exact hfr.cacheKey, by rw [a5, b5]; exact hfr.function, ?_, hl fs ft hfr.depth hfr.localFunc⟩, ?_⟩
  · intro h
    obtain ⟨h1, h2, h3⟩ := hfr.counters h
    exact ⟨by rw [a6, b6]; exact h1, by rw [a7, b7]; exact h2, hn fs ft hfr.depth h3⟩
  · have := hR.dec e ft hte
    refine ⟨by rw [b2]; exact this.1, ?_⟩
    rw [b1]
    intro k e' n' hm
    rcases mem_setStore hm with h1 | h1
    · exact this.2 k e' n' h1
    · subst h1; simp [notRef] at hnr

/-- both runs see the same answer to "the top level frame binds `name` to a function" -/
theorem rootFnOf_ren {σ : Sh} {s t : St} (hR : StR σ s t) (name : String) : rootFnOf s name = rootFnOf t name := by
  unfold rootFnOf
  rw [hR.root]
  cases hte : t.frames[t.root]? with
  | none => rw [hR.none hte]
  | some ft =>
    obtain ⟨fs, hfs, hfr⟩ := hR.frames t.root ft hte
    rw [hfs]
    dsimp only
    rw [hfr.store, lookupStore_ren, hfr.depth]
    cases lookupStore ft.store name with
    | none => rfl
    | some o => simp only [Option.map, isFuncObj_ren]

theorem sim_rootBindsFunc_bind {σ : Sh} {s t : St} (hR : StR σ s t) (name : String) {f g : Bool → M α} {Q : α → α → Prop}
    (h : SimAt σ (f (rootFnOf t name)) (g (rootFnOf t name)) s t Q) :
    SimAt σ (rootBindsFunc name >>= f) (rootBindsFunc name >>= g) s t Q := by
  refine SimAt.bind_read (runM_rootBindsFunc name s) (runM_rootBindsFunc name t) ?_
  rw [rootFnOf_ren hR]; exact h

theorem sim_envCreate {σ : Sh} {s t : St} (hR : StR σ s t) (e : Nat) (name : String) (val : Obj) :
    SimAt σ (envCreate (sh σ e) name (ren σ val)) (envCreate e name val) s t (QO σ) := by
  unfold envCreate
  refine SimAt.bind (sim_valueOf hR val) ?_
  rintro a v s1 t1 hR1 ⟨rfl, hnr⟩
  refine sim_rootBindsFunc_bind hR1 name ?_
  refine SimAt.bind (Q := fun _ _ => True) ?_ (fun _ _ s2 t2 hR2 _ => SimAt.pure hR2 rfl)
  exact sim_storeSet hR1 e name hnr _ _ (fun f => ⟨rfl, rfl, rfl, rfl, rfl, rfl, rfl⟩)
    (fun f => ⟨rfl, rfl, rfl, rfl, rfl, rfl, rfl⟩) (fun fs ft h1 h2 => by simp only [h1, h2])

theorem sim_envStoreAt {σ : Sh} {s t : St} (hR : StR σ s t) (w e : Nat) (name : String) {v : Obj}
    (hnr : notRef v = true) :
    SimAt σ (envStoreAt (sh σ w) (sh σ e) name (ren σ v)) (envStoreAt w e name v) s t (QO σ) := by
  unfold envStoreAt
  refine sim_getFrame_bind hR e ?_
  intro fs ft hte hfs hfr
  have : lookupStore fs.store name = (lookupStore ft.store name).map (ren σ) := by
    rw [hfr.store, lookupStore_ren]
  rw [this]
  refine SimAt.bind (sim_functionChanged hR w _) ?_
  intro _ _ s1 t1 hR1 _
  refine sim_rootBindsFunc_bind hR1 name ?_
  refine SimAt.bind (Q := fun _ _ => True) ?_ (fun _ _ s2 t2 hR2 _ => SimAt.pure hR2 rfl)
  exact sim_storeSet hR1 e name hnr _ _ (fun f => ⟨rfl, rfl, rfl, rfl, rfl, rfl, rfl⟩)
    (fun f => ⟨rfl, rfl, rfl, rfl, rfl, rfl, rfl⟩) (fun fs ft h1 h2 => by simp only [h1, h2])

theorem updTarget_ren (σ : Sh) (e : Nat) (name : String) (found : Obj) :
    updTarget (sh σ e) name (ren σ found) = (sh σ (updTarget e name found).1, (updTarget e name found).2) := by
  cases found <;> rfl

theorem sim_envUpdate {σ : Sh} {s t : St} (hR : StR σ s t) (e : Nat) (name : String) (found val : Obj) :
    SimAt σ (envUpdate (sh σ e) name (ren σ found) (ren σ val)) (envUpdate e name found val) s t (QO σ) := by
  unfold envUpdate
  rw [updTarget_ren]
  have hrest : ∀ (a v : Obj) s1 t1, StR σ s1 t1 → a = ren σ v → notRef v = true →
      SimAt σ (envStoreAt (sh σ e) (sh σ (updTarget e name found).1) (updTarget e name found).2 a)
        (envStoreAt e (updTarget e name found).1 (updTarget e name found).2 v) s1 t1 (QO σ) := by
    intro a v s1 t1 hR1 ha hnr
    subst ha
    exact sim_envStoreAt hR1 e _ _ hnr
  cases val with
  | ref re rn =>
    simp only [ren]
    have := sim_valueOf hR (.ref re rn)
    simp only [ren] at this
    refine SimAt.bind this ?_
    rintro a v s1 t1 hR1 ⟨rfl, hnr⟩
    exact hrest _ v s1 t1 hR1 rfl hnr
  | _ =>
    all_goals
      simp only [ren]
      refine SimAt.bind_read (runM_pure _ s) (runM_pure _ t) ?_
      exact hrest _ _ s t hR (by simp only [ren]) rfl

theorem sim_setNoChecks {σ : Sh} {s t : St} (hR : StR σ s t) (e : Nat) (name : String) (val : Obj) (create : Bool) :
    SimAt σ (setNoChecks (sh σ e) name (ren σ val) create) (setNoChecks e name val create) s t (QO σ) := by
  unfold setNoChecks
  refine SimAt.ite (fun _ => sim_envCreate hR e name val) (fun _ => ?_)
  refine sim_getFrame_bind hR e ?_
  intro fs ft hte hfs hfr
  rw [hfr.store, lookupStore_ren]
  cases hl : lookupStore ft.store name with
  | some r =>
    simp only [Option.map]
    exact sim_envUpdate hR e name r val
  | none =>
    simp only [Option.map]
    refine SimAt.bind (sim_makeRef hR e name) ?_
    rintro a b s1 t1 hR1 rfl
    cases b with
    | none => exact sim_envCreate hR1 e name val
    | some r =>
      cases r with
      | ref re rn =>
        simp only [Option.map, ren]
        refine SimAt.bind (sim_valueOf hR1 val) ?_
        rintro a v s2 t2 hR2 ⟨rfl, hnr⟩
        refine sim_getFrame_bind hR2 re ?_
        intro fs3 ft3 _ _ hfr3
        have : lookupStore fs3.store rn = (lookupStore ft3.store rn).map (ren σ) := by
          rw [hfr3.store, lookupStore_ren]
        rw [this]
        refine SimAt.bind (sim_functionChanged hR2 e _) ?_
        intro _ _ s3 t3 hR3 _
        refine sim_rootBindsFunc_bind hR3 rn ?_
        refine SimAt.bind (Q := fun _ _ => True) ?_ (fun _ _ s4 t4 hR4 _ => SimAt.pure hR4 rfl)
        exact sim_storeSet hR3 re rn hnr _ _ (fun f => ⟨rfl, rfl, rfl, rfl, rfl, rfl, rfl⟩)
          (fun f => ⟨rfl, rfl, rfl, rfl, rfl, rfl, rfl⟩) (fun fs ft _ h2 => h2)
      | _ => all_goals exact sim_envCreate hR1 e name val

theorem sim_createOrSet {σ : Sh} {s t : St} (hR : StR σ s t) (e : Nat) (name : String) (val : Obj) (create : Bool) :
    SimAt σ (createOrSet (sh σ e) name (ren σ val) create) (createOrSet e name val create) s t (QO σ) := by
  unfold createOrSet
  dsimp only
  have hrest : ∀ s1 t1, StR σ s1 t1 →
      SimAt σ (do
          let st ← get
          if st.extNames.contains name = true then pure (Obj.error ("attempt to change internal function " ++ name))
            else setNoChecks (sh σ e) name (ren σ val) create)
        (do
          let st ← get
          if st.extNames.contains name = true then pure (Obj.error ("attempt to change internal function " ++ name))
            else setNoChecks e name val create) s1 t1 (QO σ) := by
    intro s1 t1 hR1
    refine SimAt.bind_read (runM_get s1) (runM_get t1) ?_
    rw [hR1.extNames]
    exact SimAt.ite (fun _ => SimAt.pure hR1 rfl) (fun _ => sim_setNoChecks hR1 e name val create)
  refine SimAt.ite (fun _ => ?_) (fun _ => hrest s t hR)
  refine SimAt.bind (sim_envGet hR e name) ?_
  rintro a b s1 t1 hR1 rfl
  cases b with
  | none => exact hrest s1 t1 hR1
  | some old =>
    simp only [Option.map, ren_typeNum]
    have hfin : ∀ (same : Bool) s2 t2, StR σ s2 t2 →
        SimAt σ (if (!same) = true then pure (Obj.error ("attempt to change constant " ++ name)) else do
            let st ← get
            if st.extNames.contains name = true then pure (Obj.error ("attempt to change internal function " ++ name))
              else setNoChecks (sh σ e) name (ren σ val) create)
          (if (!same) = true then pure (Obj.error ("attempt to change constant " ++ name)) else do
            let st ← get
            if st.extNames.contains name = true then pure (Obj.error ("attempt to change internal function " ++ name))
              else setNoChecks e name val create) s2 t2 (QO σ) :=
      fun same s2 t2 hR2 => SimAt.ite (fun _ => SimAt.pure hR2 rfl) (fun _ => hrest s2 t2 hR2)
    refine SimAt.ite (fun _ => ?_) (fun _ => ?_)
    · refine SimAt.bind_read (runM_pure _ s1) (runM_pure _ t1) ?_
      exact hfin false s1 t1 hR1
    · refine SimAt.bind (sim_valueOf hR1 old) ?_
      rintro a o s2 t2 hR2 ⟨rfl, _⟩
      refine SimAt.bind (sim_valueOf hR2 val) ?_
      rintro a v s3 t3 hR3 ⟨rfl, _⟩
      rw [cmp_ren, sameTypes_ren]
      refine SimAt.bind (Q := fun a b => a = b) (SimAt.liftR hR3 (RelR.of_eq (f := id) (by cases cmp o v <;> rfl) (fun _ => rfl))) ?_
      rintro c _ s4 t4 hR4 rfl
      refine SimAt.bind_read (runM_pure _ s4) (runM_pure _ t4) ?_
      exact hfin _ s4 t4 hR4

theorem sim_envSet {σ : Sh} {s t : St} (hR : StR σ s t) (e : Nat) (name : String) (val : Obj) :
    SimAt σ (envSet (sh σ e) name (ren σ val)) (envSet e name val) s t (QO σ) :=
  sim_createOrSet hR e name val false

/-! ### envDelete -/

theorem sim_setFrame {σ : Sh} {s t : St} (hR : StR σ s t) {e : Nat} {ft : Frame} (hte : t.frames[e]? = some ft)
    {fs' ft' : Frame} (hfr : FrameR σ e fs' ft') (hdec : FrameDec e ft') :
    SimAt σ (setFrame (sh σ e) fs') (setFrame e ft') s t (fun _ _ => True) := by
  unfold SimAt setFrame
  rw [runM_modify, runM_modify]
  exact ⟨hR.setFrame hte hfr hdec, trivial⟩

theorem sim_envDelete_go {σ : Sh} (name : String) :
    ∀ (n m e : Nat) (s t : St), StR σ s t → e < n → sh σ e < m →
      SimAt σ (envDelete.go name m (sh σ e)) (envDelete.go name n e) s t (QO σ) := by
  intro n
  induction n with
  | zero => intro m e s t _ h; exact absurd h (Nat.not_lt_zero _)
  | succ n ih =>
    intro m e s t hR hen hem
    obtain ⟨m', rfl⟩ : ∃ m', m = m' + 1 := ⟨m - 1, by omega⟩
    unfold envDelete.go
    refine sim_getFrame_bind hR e ?_
    intro fs ft hte hfs hfr
    dsimp only
    -- the frames with the set counter bumped
    have hfr2 : FrameR σ e (if (fs.depth == 0) = true then { fs with numSet := fs.numSet + 1 } else fs)
        (if (ft.depth == 0) = true then { ft with numSet := ft.numSet + 1 } else ft) := by
      have hd : (fs.depth == 0) = (ft.depth == 0) := by rw [hfr.depth]
      rw [hd]
      split
      · exact ⟨hfr.store, hfr.outer, hfr.depth, hfr.cacheKey, hfr.function,
          fun h => ⟨(hfr.counters h).1, (hfr.counters h).2.1, by simp [(hfr.counters h).2.2]⟩, hfr.localFunc⟩
      · exact hfr
    have hdec2 : FrameDec e (if (ft.depth == 0) = true then { ft with numSet := ft.numSet + 1 } else ft) := by
      have := hR.dec e ft hte
      split
      · exact ⟨this.1, this.2⟩
      · exact this
    generalize (if (fs.depth == 0) = true then { fs with numSet := fs.numSet + 1 } else fs) = fs2 at hfr2
    generalize (if (ft.depth == 0) = true then { ft with numSet := ft.numSet + 1 } else ft) = ft2 at hfr2 hdec2
    rw [hfr2.store, lookupStore_ren]
    cases hl : lookupStore ft2.store name with
    | some old =>
      simp only [Option.map]
      refine SimAt.bind (Q := fun _ _ => True) ?_ ?_
      · refine sim_setFrame hR hte ?_ (frameDec_delStore hdec2 name)
        have := frameR_delStore hfr2 name
        rw [hfr2.store] at this
        exact this
      · intro _ _ s1 t1 hR1 _
        refine SimAt.bind (Q := fun _ _ => True) ?_ (fun _ _ s2 t2 hR2 _ => SimAt.pure hR2 rfl)
        exact sim_functionChanged hR1 e (some old)
    | none =>
      simp only [Option.map]
      refine SimAt.bind (Q := fun _ _ => True) (sim_setFrame hR hte hfr2 hdec2) ?_
      intro _ _ s1 t1 hR1 _
      rw [hfr2.outer]
      cases hout : ft2.outer with
      | none => exact SimAt.pure hR1 rfl
      | some o =>
        simp only [Option.map]
        have hoe : o < e := hdec2.1 o hout
        have := sh_lt σ hoe
        exact ih m' o s1 t1 hR1 (by omega) (by omega)

theorem sim_envDelete {σ : Sh} {s t : St} (hR : StR σ s t) (e : Nat) (name : String) :
    SimAt σ (envDelete (sh σ e) name) (envDelete e name) s t (QO σ) := by
  unfold envDelete
  refine SimAt.bind_read (runM_get s) (runM_get t) ?_
  have h2 : sh σ t.frames.size = t.frames.size + σ.d := sh_of_ge σ hR.n0
  by_cases ho : e < t.frames.size
  · have h1 := sh_lt σ ho
    exact sim_envDelete_go name _ _ e s t hR ho (by rw [hR.size]; omega)
  · have hpos := hR.pos
    have hn0 := hR.n0
    obtain ⟨k, hk⟩ : ∃ k, t.frames.size = k + 1 := ⟨t.frames.size - 1, by omega⟩
    obtain ⟨k', hk'⟩ : ∃ k', s.frames.size = k' + 1 := ⟨s.frames.size - 1, by rw [hR.size]; omega⟩
    rw [hk, hk']
    unfold envDelete.go
    have hte : t.frames[e]? = none := Array.getElem?_eq_none (by omega)
    unfold SimAt
    rw [runM_bind, runM_bind, runM_getFrame_none hte, runM_getFrame_none (hR.none hte)]
    exact ⟨rfl, hR⟩

end Grol.R
