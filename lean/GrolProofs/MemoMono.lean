import GrolProofs.EvalFrame
import GrolProofs.EnvRun
/-
C04, step 1 of the footprint lemma: the miss counter of every frame (`Frame.getMiss`, the number
`applyFunction` reads before and after the body) never decreases, and the heap of frames never
shrinks, through ANY computation of the evaluator model, whatever its outcome.

Consequence (`MemoFootprint.lean`): a computation that leaves a counter where it was leaves it where
it was in every sub-computation — "after = before" is inherited by every step of the call.
-/
namespace Grol.E

/-- 0 for a frame that does not exist yet -/
def missOf (st : St) (e : Nat) : Nat :=
  match st.frames[e]? with
  | some f => f.getMiss
  | none => 0

structure Grows (st st' : St) : Prop where
  size : st.frames.size ≤ st'.frames.size
  miss : ∀ e, missOf st e ≤ missOf st' e

theorem Grows.refl (st : St) : Grows st st := ⟨Nat.le_refl _, fun _ => Nat.le_refl _⟩

theorem Grows.trans {a b c : St} (h1 : Grows a b) (h2 : Grows b c) : Grows a c :=
  ⟨Nat.le_trans h1.size h2.size, fun e => Nat.le_trans (h1.miss e) (h2.miss e)⟩

theorem Grows.of_frames_eq {st st' : St} (h : st'.frames = st.frames) : Grows st st' := by
  refine ⟨by rw [h]; exact Nat.le_refl _, fun e => ?_⟩
  unfold missOf; rw [h]; exact Nat.le_refl _

structure Tr (x : M α) : Prop where
  h : ∀ st, Grows st (stateAfter x st)

theorem tr_pure (a : α) : Tr (pure a : M α) := ⟨fun st => Grows.refl st⟩
theorem tr_stop (e : Stop) : Tr (stop e : M α) := ⟨fun st => Grows.refl st⟩
theorem tr_throw (e : Stop) : Tr (throw e : M α) := ⟨fun st => Grows.refl st⟩
theorem tr_get : Tr (get : M St) := ⟨fun st => Grows.refl st⟩

theorem tr_bind {x : M α} {f : α → M β} (hx : Tr x) (hf : ∀ a, Tr (f a)) : Tr (x >>= f) := by
  constructor
  intro st
  rw [stateAfter_bind]
  cases h : outcome x st with
  | error e => exact hx.h st
  | ok a => exact (hx.h st).trans ((hf a).h _)

def FramesKept (g : St → St) : Prop := ∀ st, (g st).frames = st.frames

theorem tr_modify {g : St → St} (hg : FramesKept g) : Tr (modify g : M PUnit) :=
  ⟨fun st => Grows.of_frames_eq (hg st)⟩

theorem tr_get_set {g : St → St} (hg : FramesKept g) {k : St → M β} (hk : ∀ s, Tr (k s)) :
    Tr (get >>= fun st => set (g st) >>= fun _ => k st) :=
  ⟨fun st => (Grows.of_frames_eq (hg st)).trans ((hk st).h (g st))⟩


theorem missOf_setIfInBounds (st : St) (e : Nat) (f f' : Frame) (h : st.frames[e]? = some f) (i : Nat) :
    missOf { st with frames := st.frames.setIfInBounds e f' } i =
      if i = e then f'.getMiss else missOf st i := by
  unfold missOf
  dsimp only
  rw [Array.getElem?_setIfInBounds]
  by_cases hi : e = i
  · subst hi
    have hlt : e < st.frames.size := by
      cases hlt : decide (e < st.frames.size) with
      | true => exact of_decide_eq_true hlt
      | false =>
        have : ¬ e < st.frames.size := of_decide_eq_false hlt
        rw [Array.getElem?_eq_none (by omega)] at h; cases h
    simp [hlt]
  · have : ¬ i = e := fun h => hi h.symm
    simp [hi, this]

theorem grows_setFrame (st : St) (e : Nat) (f f' : Frame) (h : st.frames[e]? = some f)
    (hm : f.getMiss ≤ f'.getMiss) : Grows st { st with frames := st.frames.setIfInBounds e f' } := by
  refine ⟨by simp, fun i => ?_⟩
  rw [missOf_setIfInBounds st e f f' h]
  split
  next hi => subst hi; unfold missOf; rw [h]; exact hm
  next => exact Nat.le_refl _

theorem tr_modifyFrame {e : Nat} {g : Frame → Frame} (hg : ∀ f, f.getMiss ≤ (g f).getMiss) :
    Tr (modifyFrame e g) := by
  constructor
  intro st
  have : stateAfter (modifyFrame e g) st = (run (modifyFrame e g) st).2 := rfl
  rw [this, run_modifyFrame]
  cases h : st.frames[e]? with
  | none => exact Grows.refl st
  | some f => exact grows_setFrame st e f (g f) h (hg f)

theorem tr_newFrame {f} : Tr (newFrame f) := by
  constructor
  intro st
  have : stateAfter (newFrame f) st = { st with frames := st.frames.push f } := rfl
  rw [this]
  refine ⟨by simp, fun i => ?_⟩
  unfold missOf
  dsimp only
  rw [Array.getElem?_push]
  by_cases hi : i = st.frames.size
  · subst hi
    rw [Array.getElem?_eq_none (Nat.le_refl _)]
    exact Nat.zero_le _
  · simp only [hi, if_false]
    exact Nat.le_refl _

theorem trStep : StepClosed Tr where
  pure := tr_pure
  stop := tr_stop
  bind := tr_bind
  read := tr_get
  inert hx := ⟨fun st => Grows.of_frames_eq (hx st).frames⟩
  update hg hk := tr_get_set (fun st => (hg st).frames) hk
  newFrame _ := tr_newFrame
  modifyFrame _ _ := tr_modifyFrame

theorem tr_forIn {γ δ : Type} (l : List γ) (init : δ) (f : γ → δ → M (ForInStep δ))
    (hf : ∀ a b, Tr (f a b)) : Tr (forIn l init f) :=
  trStep.forIn l init f hf

theorem tr_setFrame_of_get {e : Nat} {k : Frame → Frame} (hk : ∀ f, f.getMiss ≤ (k f).getMiss)
    {rest : M β} (hr : Tr rest) :
    Tr (getFrame e >>= fun f => setFrame e (k f) >>= fun _ => rest) := by
  have : (getFrame e >>= fun f => setFrame e (k f) >>= fun _ => rest) = (modifyFrame e k >>= fun _ => rest) := by
    unfold modifyFrame
    simp only [bind_assoc]
  rw [this]
  exact tr_bind (tr_modifyFrame hk) (fun _ => hr)


theorem tr_of_sat {x : M α} (h : ∀ st, Sat x st (fun _ s => Grows st s)) : Tr x := ⟨h⟩

theorem Sat.tr_tail {x : M α} (hx : Tr x) {st0 st : St} (hg : Grows st0 st) :
    Sat x st (fun _ s => Grows st0 s) := hg.trans (hx.h st)

theorem tr_getFrame_bind {e : Nat} {k : Frame → M β}
    (h : ∀ st f, st.frames[e]? = some f → Grows st (stateAfter (k f) st)) : Tr (getFrame e >>= k) := by
  constructor
  intro st
  have e1 : stateAfter (getFrame e >>= k) st = (run (getFrame e >>= k) st).2 := rfl
  rw [e1, run_bind, run_getFrame]
  cases hf : st.frames[e]? with
  | none => exact Grows.refl st
  | some f => exact h st f hf

/-- `envDelete` writes the frame it has just read back with `setFrame`: the miss counter is the one read -/
theorem tr_envDelete_go {name fuel e} : Tr (envDelete.go name fuel e) := by
  induction fuel generalizing e with
  | zero => exact tr_pure _
  | succ n ih =>
    unfold envDelete.go
    refine tr_getFrame_bind ?_
    intro st f hf
    extract_lets f'
    have hm : f.getMiss ≤ f'.getMiss := by
      unfold f'; split <;> exact Nat.le_refl _
    split
    · next old _ =>
      refine (grows_setFrame st e f { f' with store := delStore f'.store name } hf hm).trans ?_
      exact (tr_bind (trStep.functionChanged (w := e) (o := some old)) (fun _ => tr_pure (Obj.bool true))).h _
    · have hs := grows_setFrame st e f f' hf hm
      refine hs.trans ?_
      split
      · exact (@ih _).h _
      · exact Grows.refl _

/-- the brackets only change `depth`, `cur` and `outs` -/
theorem trClosed : EvalClosed Tr where
  toStepClosed := trStep
  envDelete _ _ := tr_bind tr_get fun _ => tr_envDelete_go
  deeper := by
    intro α β c _ e x k hx hk
    refine tr_of_sat fun st => Sat.bind (Sat.get ?_)
    dsimp only
    split
    · exact Sat.bind (Sat.stop (Grows.refl _))
    · refine Sat.bind (Sat.set (Sat.tr_tail ?_ (Grows.of_frames_eq rfl)))
      exact tr_bind hx fun a => tr_bind (tr_modify fun _ => rfl) fun _ => hk a
  inScope := by
    intro α β nenv x k hx hk
    refine tr_bind trStep.curEnv fun cur => tr_bind (tr_modify fun _ => rfl) fun _ => tr_bind hx fun a =>
      tr_bind trStep.getFrame fun fr => tr_of_sat fun st => Sat.bind (Sat.get (Sat.bind (Sat.set ?_)))
    exact Sat.tr_tail (hk ..) (Grows.of_frames_eq rfl)

structure AllTr (fuel : Nat) : Prop where
  eval : ∀ node, Tr (Grol.E.eval fuel node)
  evalI : ∀ node, Tr (Grol.E.evalI fuel node)
  evalStatements : ∀ l r, Tr (Grol.E.evalStatements fuel l r)
  evalExpressions : ∀ l acc, Tr (Grol.E.evalExpressions fuel l acc)
  evalAssignment : ∀ right op left, Tr (Grol.E.evalAssignment fuel right op left)
  evalIf : ∀ c cons alt, Tr (Grol.E.evalIf fuel c cons alt)
  evalFor : ∀ c body, Tr (Grol.E.evalFor fuel c body)
  evalForLoop : ∀ c body last, Tr (Grol.E.evalForLoop fuel c body last)
  evalForSpecialForms : ∀ c body, Tr (Grol.E.evalForSpecialForms fuel c body)
  evalForInteger : ∀ body i e name last, Tr (Grol.E.evalForInteger fuel body i e name last)
  evalForList : ∀ body list name last, Tr (Grol.E.evalForList fuel body list name last)
  evalBuiltin : ∀ t ps, Tr (Grol.E.evalBuiltin fuel t ps)
  evalPrint : ∀ t ps first buf, Tr (Grol.E.evalPrint fuel t ps first buf)
  evalDelete : ∀ node, Tr (Grol.E.evalDelete fuel node)
  evalIndexExpression : ∀ left tok i, Tr (Grol.E.evalIndexExpression fuel left tok i)
  evalIndexRange : ∀ left li ri, Tr (Grol.E.evalIndexRange fuel left li ri)
  evalMapLiteral : ∀ ks vs big acc, Tr (Grol.E.evalMapLiteral fuel ks vs big acc)
  applyExtension : ∀ name args, Tr (Grol.E.applyExtension fuel name args)
  applyFunction : ∀ fn args, Tr (Grol.E.applyFunction fuel fn args)

theorem allTr (fuel : Nat) : AllTr fuel :=
  have a := evalAll trClosed fuel
  ⟨a.eval, a.evalI, a.evalStatements, a.evalExpressions, a.evalAssignment, a.evalIf, a.evalFor, a.evalForLoop,
    a.evalForSpecialForms, a.evalForInteger, a.evalForList, a.evalBuiltin, a.evalPrint, a.evalDelete,
    a.evalIndexExpression, a.evalIndexRange, a.evalMapLiteral, a.applyExtension, a.applyFunction⟩

theorem eval_grows (fuel : Nat) (node : Node) (st : St) : Grows st (stateAfter (eval fuel node) st) :=
  ((allTr fuel).eval node).h st

theorem applyFunction_grows (fuel : Nat) (fn : Obj) (args : List Obj) (st : St) :
    Grows st (stateAfter (applyFunction fuel fn args) st) :=
  ((allTr fuel).applyFunction fn args).h st

theorem tr_valueOf {o} : Tr (valueOf o) := trStep.valueOf
theorem tr_createOrSet {e n v c} : Tr (createOrSet e n v c) := trStep.createOrSet
theorem tr_bindParams {nenv l} : Tr (bindParams nenv l) := trStep.bindParams
theorem tr_extendFunctionEnv {f a} : Tr (extendFunctionEnv f a) := trStep.extendFunctionEnv
theorem tr_finishCall {f a c b af cc r o} : Tr (finishCall f a c b af cc r o) := trStep.finishCall

end Grol.E
