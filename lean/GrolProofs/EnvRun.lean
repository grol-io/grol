import GrolProofs.EvalOps
/-
Symbolic execution of the evaluator model's monad: one rewriting lemma for `run` per primitive, and the
read-only lemmas of the environment layer (object/state.go).
-/
namespace Grol.E

@[simp] theorem run_pure (a : α) (st : St) : run (pure a : M α) st = (.ok a, st) := rfl

@[simp] theorem run_get (st : St) : run (get : M St) st = (.ok st, st) := rfl
@[simp] theorem run_set (s' st : St) : run (set s' : M Unit) st = (.ok (), s') := rfl
@[simp] theorem run_modify (g : St → St) (st : St) : run (modify g : M Unit) st = (.ok (), g st) := rfl
@[simp] theorem run_stop (s : Stop) (st : St) : run (stop s : M α) st = (.error s, st) := rfl
@[simp] theorem run_throw (s : Stop) (st : St) : run (throw s : M α) st = (.error s, st) := rfl

@[simp] theorem run_liftR (r : R α) (st : St) :
    run (liftR r) st = (match r with | .ok a => (.ok a, st) | .error e => (.error e, st)) := by
  cases r <;> rfl

def ReadOnly (x : M α) : Prop := ∀ st, (run x st).2 = st

theorem ReadOnly.pure (a : α) : ReadOnly (pure a : M α) := fun _ => rfl
theorem ReadOnly.stop (s : Stop) : ReadOnly (stop s : M α) := fun _ => rfl
theorem ReadOnly.throw (s : Stop) : ReadOnly (throw s : M α) := fun _ => rfl
theorem ReadOnly.get : ReadOnly (get : M St) := fun _ => rfl
theorem ReadOnly.liftR (r : R α) : ReadOnly (liftR r) := by
  intro st; cases r <;> rfl

theorem ReadOnly.bind {x : M α} {f : α → M β} (hx : ReadOnly x) (hf : ∀ a, ReadOnly (f a)) :
    ReadOnly (x >>= f) := by
  intro st
  rw [run_bind]
  have h := hx st
  split
  next a st' heq => rw [heq] at h; simp only at h; rw [h]; exact hf a st
  next e st' heq => rw [heq] at h; exact h

theorem ReadOnly.ite {c : Prop} [Decidable c] {x y : M α} (hx : ReadOnly x) (hy : ReadOnly y) :
    ReadOnly (if c then x else y) := by
  split <;> assumption

theorem run_getFrame (e : Nat) (st : St) :
    run (getFrame e) st = match st.frames[e]? with
      | some f => (.ok f, st)
      | none => (.error (.goPanic "nil environment"), st) := by
  unfold getFrame
  rw [run_bind, run_get]
  simp only
  cases st.frames[e]? <;> rfl

theorem ReadOnly.getFrame (e : Nat) : ReadOnly (getFrame e) := by
  intro st; rw [run_getFrame]; split <;> rfl

theorem run_setFrame (e : Nat) (f : Frame) (st : St) :
    run (setFrame e f) st = (.ok (), { st with frames := st.frames.setIfInBounds e f }) := rfl

theorem run_modifyFrame (e : Nat) (g : Frame → Frame) (st : St) :
    run (modifyFrame e g) st = match st.frames[e]? with
      | some f => (.ok (), { st with frames := st.frames.setIfInBounds e (g f) })
      | none => (.error (.goPanic "nil environment"), st) := by
  unfold modifyFrame
  rw [run_bind, run_getFrame]
  cases st.frames[e]? <;> rfl

theorem run_bind_inv {x : M α} {f : α → M β} {st sF : St} {b : β} (h : run (x >>= f) st = (.ok b, sF)) :
    ∃ a s1, run x st = (.ok a, s1) ∧ run (f a) s1 = (.ok b, sF) := by
  rw [run_bind] at h
  split at h
  · next a s1 hx => exact ⟨a, s1, hx, h⟩
  · cases h

theorem ReadOnly.bind_inv {x : M α} {f : α → M β} {st sF : St} {b : β} (hx : ReadOnly x)
    (h : run (x >>= f) st = (.ok b, sF)) : ∃ a, run x st = (.ok a, st) ∧ run (f a) st = (.ok b, sF) := by
  obtain ⟨a, s1, h1, h2⟩ := run_bind_inv h
  cases (congrArg Prod.snd h1).symm.trans (hx st)
  exact ⟨a, h1, h2⟩

theorem getFrame_bind_inv {e : Nat} {f : Frame → M β} {st sF : St} {b : β}
    (h : run (getFrame e >>= f) st = (.ok b, sF)) : ∃ fr, st.frames[e]? = some fr ∧ run (f fr) st = (.ok b, sF) := by
  obtain ⟨fr, h1, h2⟩ := (ReadOnly.getFrame e).bind_inv h
  rw [run_getFrame] at h1
  cases hf : st.frames[e]? with
  | none => rw [hf] at h1; cases h1
  | some fr' => rw [hf] at h1; cases h1; exact ⟨fr, rfl, h2⟩

theorem modifyFrame_bind_inv {e : Nat} {g : Frame → Frame} {f : Unit → M β} {st sF : St} {b : β}
    (h : run (modifyFrame e g >>= f) st = (.ok b, sF)) :
    ∃ fr, st.frames[e]? = some fr ∧
      run (f ()) { st with frames := st.frames.setIfInBounds e (g fr) } = (.ok b, sF) := by
  obtain ⟨u, s1, h1, h2⟩ := run_bind_inv h
  rw [run_modifyFrame] at h1
  cases hf : st.frames[e]? with
  | none => rw [hf] at h1; cases h1
  | some fr => rw [hf] at h1; cases h1; exact ⟨fr, rfl, h2⟩

theorem readOnly_refValue (env : Nat) (name : String) : ReadOnly (refValue env name) := by
  unfold refValue
  refine ReadOnly.bind (ReadOnly.getFrame _) fun f => ?_
  split
  · exact ReadOnly.ite (ReadOnly.stop _) (ReadOnly.pure _)
  · exact ReadOnly.pure _
  · exact ReadOnly.pure _

theorem readOnly_refAlive (env : Nat) (name : String) : ReadOnly (refAlive env name) := by
  unfold refAlive
  exact ReadOnly.bind (ReadOnly.getFrame _) fun f => ReadOnly.pure _

theorem readOnly_valueOf_go (n : Nat) (o : Obj) : ReadOnly (valueOf.go n o) := by
  induction n generalizing o with
  | zero => cases o <;> (unfold valueOf.go; first | exact ReadOnly.stop _ | exact ReadOnly.pure _)
  | succ n ih =>
    cases o
    case ref e name =>
      unfold valueOf.go
      refine ReadOnly.bind (readOnly_refValue _ _) fun v => ?_
      dsimp only
      split
      · refine ReadOnly.bind (ReadOnly.getFrame _) fun _ => ?_
        refine ReadOnly.bind (ReadOnly.getFrame _) fun _ => ?_
        split
        · exact ReadOnly.bind (ReadOnly.stop _) fun _ => ih _
        · exact ih _
      · exact ih _
    all_goals (unfold valueOf.go; exact ReadOnly.pure _)

theorem readOnly_valueOf (o : Obj) : ReadOnly (valueOf o) := by
  unfold valueOf
  exact ReadOnly.bind (fun _ => rfl) fun _ => readOnly_valueOf_go _ _

/-- what `Get` does with the entry its frame `f` holds under `name`, once `self` and the frame's own function
are out of the way: a reference is checked (a stale one is forgotten and the name looked up again; one to an
untrusted binding counts a miss), a value is returned, and an unbound name is looked for up the scope chain -/
def envGetStored (e : Nat) (name : String) (f : Frame) : M (Option Obj) :=
  match lookupStore f.store name with
  | some (.ref re rn) => do
    if !(← refAlive re rn) then
      modifyFrame e fun f => { f with store := delStore f.store name }
      match f.outer with
      | none => pure none
      | some _ => makeRef e name
    else
      let tgt ← refValue re rn
      let refDepth := (← getFrame re).depth
      if !(isConstant rn && refDepth == 0) && !(isFuncObj tgt && refDepth == 0) then
        modifyFrame e fun f => { f with getMiss := f.getMiss + 1 }
      pure (some (.ref re rn))
  | some obj => pure (some obj)
  | none =>
    match f.outer with
    | none => pure none
    | some _ => makeRef e name

/-- `Get`, run: `info` is not modelled; `self` and the frame's own name are the frame's function, found without
looking at the store (and `self` in a frame that runs no function is unbound); anything else is `envGetStored` -/
theorem run_envGet (e : Nat) (name : String) (st : St) :
    run (envGet e name) st =
      if name == "info" then (.error (.unmodelled "info"), st)
      else match st.frames[e]? with
        | none => (.error (.goPanic "nil environment"), st)
        | some f =>
          if name == "self" || f.function.any (·.name == some name) then (.ok (f.function.map .func), st)
          else run (envGetStored e name f) st := by
  have h : envGet e name = (do
      if name == "info" then stop (.unmodelled "info")
      let f ← getFrame e
      if name == "self" then
        match f.function with
        | some fn => return some (.func fn)
        | none => return none
      match f.function with
      | some fn => if fn.name == some name then return some (.func fn)
      | none => pure ()
      envGetStored e name f) := rfl
  rw [h]
  cases name == "info"
  · rw [if_neg Bool.false_ne_true, if_neg Bool.false_ne_true, run_bind, run_getFrame]
    cases st.frames[e]? with
    | none => rfl
    | some f =>
      dsimp only
      generalize f.function = fo
      cases fo with
      | none => cases name == "self" <;> rfl
      | some fn =>
        dsimp only [Option.any]
        cases name == "self"
        · rw [if_neg Bool.false_ne_true]; simp only [Bool.false_or]; split <;> rfl
        · rfl
  · rfl

/-- `Get` of a name that is not `info`, `self` or the name of the frame's own function, and that the frame
binds to a value that is no reference: that value, no state change -/
theorem run_envGet_bound {st : St} {e : Nat} {fr : Frame} {name : String} {v : Obj} (hfr : st.frames[e]? = some fr)
    (hi : (name == "info") = false) (hs : (name == "self") = false)
    (hfn : ∀ fn, fr.function = some fn → (fn.name == some name) = false)
    (hl : lookupStore fr.store name = some v) (hp : ∀ e n, v ≠ .ref e n) :
    run (envGet e name) st = (.ok (some v), st) := by
  have hown : (name == "self" || fr.function.any (·.name == some name)) = false := by
    rw [hs, Bool.false_or]
    cases hf : fr.function with
    | none => rfl
    | some fn => exact hfn fn hf
  rw [run_envGet, hi, if_neg Bool.false_ne_true, hfr]
  dsimp only
  rw [hown, if_neg Bool.false_ne_true]
  unfold envGetStored
  rw [hl]
  cases v <;> first | rfl | exact absurd rfl (hp _ _)

/-- … and so the identifier evaluates to it, when it is no extension name either -/
theorem run_evalIdentifier_bound {st : St} {fr : Frame} {name : String} {v : Obj}
    (he : st.extNames.contains name = false) (hfr : st.frames[st.cur]? = some fr)
    (hi : (name == "info") = false) (hs : (name == "self") = false)
    (hfn : ∀ fn, fr.function = some fn → (fn.name == some name) = false)
    (hl : lookupStore fr.store name = some v) (hp : ∀ e n, v ≠ .ref e n) :
    run (evalIdentifier name) st = (.ok v, st) := by
  unfold evalIdentifier
  rw [run_bind, run_get]
  simp only [he, Bool.false_eq_true, if_false]
  rw [run_bind, run_envGet_bound hfr hi hs hfn hl hp]
  rfl

end Grol.E

namespace Grol.E

/-- the walk of `makeRef` up the scope chain from frame `e`, as a function of the frames alone: the first
enclosing frame that binds `name`, with the entry it holds; a missing frame is Go's nil dereference -/
def makeRefWalk (frames : Array Frame) (name : String) : Nat → Nat → Except Stop (Option (Nat × Obj))
  | 0, _ => .ok none
  | fuel + 1, e =>
    match frames[e]? with
    | none => .error (.goPanic "nil environment")
    | some f =>
      match f.outer with
      | none => .ok none
      | some o =>
        match frames[o]? with
        | none => .error (.goPanic "nil environment")
        | some fo =>
          match lookupStore fo.store name with
          | none => makeRefWalk frames name fuel o
          | some obj => .ok (some (o, obj))

/-- what `makeRef` does with the entry `obj` found in frame `o`: the reference is cached in frame `orig`, and
counts as a miss there unless it leads to a top-level constant or function -/
def makeRefFound (orig : Nat) (name : String) (o : Nat) (obj : Obj) : M (Option Obj) := do
  let r : Obj := refTo o name obj
  modifyFrame orig fun f => { f with store := setStore f.store name r }
  let refDepth ← match r with
    | .ref e' _ => do pure (← getFrame e').depth
    | _ => pure 0
  if !(isConstant name && refDepth == 0) && !(isFuncObj obj && refDepth == 0) then
    modifyFrame orig fun f => { f with getMiss := f.getMiss + 1 }
  pure (some r)

/-- the walk reads the state only; the state changes in `makeRefFound` -/
theorem run_makeRef_go (orig : Nat) (name : String) (fuel e : Nat) (st : St) :
    run (makeRef.go orig name fuel e) st =
      run (match makeRefWalk st.frames name fuel e with
        | .error s => stop s
        | .ok none => pure none
        | .ok (some (o, obj)) => makeRefFound orig name o obj) st := by
  induction fuel generalizing e with
  | zero => rfl
  | succ fuel ih =>
    have h : makeRef.go orig name (fuel + 1) e = (getFrame e >>= fun f =>
        match f.outer with
        | none => pure none
        | some o => getFrame o >>= fun fo =>
          match lookupStore fo.store name with
          | none => makeRef.go orig name fuel o
          | some obj => makeRefFound orig name o obj) := rfl
    rw [h, run_bind, run_getFrame]
    unfold makeRefWalk
    cases st.frames[e]? with
    | none => rfl
    | some f =>
      dsimp only
      cases f.outer with
      | none => rfl
      | some o =>
        dsimp only
        rw [run_bind, run_getFrame]
        cases st.frames[o]? with
        | none => rfl
        | some fo =>
          dsimp only
          cases lookupStore fo.store name with
          | none => exact ih o
          | some obj => rfl

/-- the frame found lies further out and binds the name to the entry returned -/
theorem makeRefWalk_found {frames : Array Frame} {name : String}
    (hdec : ∀ (i : Nat) (f : Frame) (o : Nat), frames[i]? = some f → f.outer = some o → o < i) :
    ∀ {fuel e o obj}, makeRefWalk frames name fuel e = .ok (some (o, obj)) →
      o < e ∧ ∃ fo, frames[o]? = some fo ∧ lookupStore fo.store name = some obj := by
  intro fuel
  induction fuel with
  | zero => intro e o obj h; cases h
  | succ fuel ih =>
    intro e o obj h
    unfold makeRefWalk at h
    cases hf : frames[e]? with
    | none => rw [hf] at h; cases h
    | some f =>
      rw [hf] at h
      dsimp only at h
      cases hout : f.outer with
      | none => rw [hout] at h; cases h
      | some o' =>
        have hlt := hdec e f o' hf hout
        rw [hout] at h
        dsimp only at h
        cases hfo : frames[o']? with
        | none => rw [hfo] at h; cases h
        | some fo =>
          rw [hfo] at h
          dsimp only at h
          cases hl : lookupStore fo.store name with
          | none =>
            rw [hl] at h
            obtain ⟨h1, h2⟩ := ih h
            exact ⟨Nat.lt_trans h1 hlt, h2⟩
          | some obj' =>
            rw [hl] at h
            cases h
            exact ⟨hlt, fo, hfo, hl⟩

end Grol.E
