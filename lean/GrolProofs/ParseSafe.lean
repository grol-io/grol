import GrolProofs.ParseClosed
/-
C08, parser half: the parser model never takes a `goPanic` branch.

`StreamWF s` collects what the parser needs from the lexer, two facts about every `NextToken()` result.  The lexer
model has both (`LexStream.lexer_streamWF`, used by `C08.statement_lexer`); `streamWFb` decides them for a concrete stream.
  * `lastNewLine ≤ min pos len(input)` after every call (so `CurrentLine` slices inside the input);
  * the call after a LINECOMMENT token either skipped a newline or returned the end marker
    (a line comment runs to the end of its line).
-/
namespace Grol.Parser
open Grol.Generated

def TokWF (s : TokStream) (i : Nat) : Prop :=
  (s.get i).lastNl ≤ min (s.get i).posAfter s.inputLen ∧
  ((s.get i).type = .LINECOMMENT →
     (s.get (i + 1)).hadNl = true ∨ (s.get (i + 1)).type = .EOF ∨ (s.get (i + 1)).type = .EOL)

def StreamWF (s : TokStream) : Prop := ∀ i, TokWF s i

structure Inv (s : TokStream) (st : PState) : Prop where
  idx : 2 ≤ st.idx
  cur : st.cur = s.get (st.idx - 2)
  peek : st.peek = s.get (st.idx - 1)
  nl : st.nextNewline = st.peek.hadNl

def OKQ (s : TokStream) (Q : α → PState → Prop) : Res (α × PState) → Prop
  | .goPanic _ => False
  | .ok (a, st') => Inv s st' ∧ Q a st'
  | .outOfFuel => True

def SafeQ (s : TokStream) (Q : α → PState → Prop) (m : PM α) : Prop := ∀ st, Inv s st → OKQ s Q (m st)

abbrev Safe (s : TokStream) (m : PM α) : Prop := SafeQ s (fun _ _ => True) m

variable {s : TokStream}

theorem get_of_le (s : TokStream) {i : Nat} (h : s.toks.length ≤ i) : s.get i = s.eof := by
  unfold TokStream.get
  rw [List.getElem?_eq_none h]
  rfl

def advance (s : TokStream) (st : PState) : PState :=
  { st with prev := some st.cur, cur := st.peek, prevPos := st.peek.posAfter, peek := s.get st.idx, idx := st.idx + 1,
            prevNewline := st.nextNewline, nextNewline := (s.get st.idx).hadNl }

theorem inv_adv {st : PState} (hi : Inv s st) : Inv s (advance s st) := by
  have h2 := hi.idx
  refine ⟨Nat.le_succ_of_le h2, ?_, rfl, rfl⟩
  show st.peek = s.get (st.idx + 1 - 2)
  rw [show st.idx + 1 - 2 = st.idx - 1 by omega]
  exact hi.peek

theorem inv_setCont {st : PState} (hi : Inv s st) : Inv s { st with cont := true } := ⟨hi.idx, hi.cur, hi.peek, hi.nl⟩
theorem inv_pushErr {st : PState} (e) (hi : Inv s st) : Inv s { st with errors := e :: st.errors } := ⟨hi.idx, hi.cur, hi.peek, hi.nl⟩

/-- `Safe s m` unfolds to `∀ st, SafeAt s m st`; this is the shape `ParserClosed` asks for -/
def SafeAt (s : TokStream) (m : PM α) (st : PState) : Prop := Inv s st → OKQ s (fun _ _ => True) (m st)

theorem SafeAt.bind {m : PM α} {f : α → PM β} {st : PState} (hm : SafeAt s m st) (hf : ∀ a st', SafeAt s (f a) st') :
    SafeAt s (m >>= f) st := by
  intro hi
  have h1 := hm hi
  show OKQ s _ (PM.bind m f st)
  unfold PM.bind
  revert h1
  cases m st with
  | ok r => exact fun h1 => hf r.1 r.2 h1.1
  | goPanic p => exact id
  | outOfFuel => exact id

end Grol.Parser
