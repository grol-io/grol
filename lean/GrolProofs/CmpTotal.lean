import Grol.CmpTotal
import GrolProofs.OrdLemmas
/-
`cmpI` is a total preorder on all model objects (`cmpI_PW`).
-/
namespace Grol.Obj
open Grol.Ord

theorem cmpI_cls (a b : Obj) :
    cmpI a b = if cls a < cls b then -1 else if cls b < cls a then 1 else cmpI a b := by
  split
  · unfold cmpI; rw [if_pos (by assumption)]
  · split
    · unfold cmpI; rw [if_neg (by assumption), if_pos (by assumption)]
    · rfl

theorem listI_eq : ∀ xs ys, listI xs ys = lexI cmpI xs ys
  | [], [] => by simp [listI, lexI]
  | [], _ :: _ => by simp [listI, lexI]
  | _ :: _, [] => by simp [listI, lexI]
  | x :: xs, y :: ys => by simp only [listI, lexI, listI_eq xs ys]

theorem kvsI_eq : ∀ xs ys, kvsI xs ys = lexI (pairI cmpI) xs ys
  | [], [] => by simp [kvsI, lexI]
  | [], _ :: _ => by simp [kvsI, lexI]
  | _ :: _, [] => by simp [kvsI, lexI]
  | (k, v) :: xs, (k', v') :: ys => by simp only [kvsI, lexI, pairI, thenI, kvsI_eq xs ys]

theorem cmpI_arr (xs ys : List Obj) : cmpI (arr xs) (arr ys) = lenLexI cmpI xs ys := by
  unfold cmpI; simp only [cls, Nat.lt_irrefl, if_false, lenLexI, listI_eq]

theorem cmpI_map (xs ys : List (Obj × Obj)) : cmpI (map xs) (map ys) = lenLexI (pairI cmpI) xs ys := by
  unfold cmpI; simp only [cls, Nat.lt_irrefl, if_false, lenLexI, kvsI_eq]

theorem cmpI_ret (v w : Obj) : cmpI (ret v) (ret w) = cmpI v w := by
  conv => lhs; unfold cmpI
  simp only [cls, Nat.lt_irrefl, if_false]

def isLeaf : Obj → Bool
  | arr _ => false | map _ => false | ret _ => false | _ => true

theorem cmpI_leaf (a b : Obj) (ha : isLeaf a = true) (hb : cls b = cls a) : cmpI a b = flatI a b := by
  unfold cmpI; rw [hb]; simp only [Nat.lt_irrefl, if_false]
  cases a <;> simp [isLeaf] at ha <;> rfl

def cmpU8 (a b : UInt8) : Int := if a < b then -1 else if b < a then 1 else 0

theorem cmpU8_eq (a b : UInt8) : cmpU8 a b = cmpZ a.toNat b.toNat := by
  simp only [cmpU8, cmpZ, UInt8.lt_iff_toNat_lt, Int.ofNat_lt]

theorem cmpU8_PW (a : UInt8) : PW cmpU8 a := by
  have := PW.comap (c := cmpZ) (fun x : UInt8 => (x.toNat : Int)) a (cmpZ_PW _)
  have e : cmpU8 = fun x y => cmpZ (x.toNat : Int) (y.toNat : Int) := by
    funext x y; exact cmpU8_eq x y
  rw [e]; exact this

theorem cmpBytes_eq : ∀ xs ys, cmpBytes xs ys = lexI cmpU8 xs ys
  | [], [] => by simp [cmpBytes, lexI]
  | [], _ :: _ => by simp [cmpBytes, lexI]
  | _ :: _, [] => by simp [cmpBytes, lexI]
  | x :: xs, y :: ys => by
    simp only [cmpBytes, lexI, cmpU8, cmpBytes_eq xs ys]
    split
    · simp
    · split
      · simp
      · simp

theorem cmpBytes_PW (a : Bytes) : PW cmpBytes a := by
  have e : cmpBytes = lexI cmpU8 := by funext x y; exact cmpBytes_eq x y
  rw [e]; exact lexI_PW cmpU8 a (fun x _ => cmpU8_PW x)

/-! whether an object is compared by its bytes, and whether it has sub-objects, depends on its class only -/

theorem isBytesCls_cls (x : Obj) :
    isBytesCls x = (cls x == 5 || cls x == 7 || cls x == 8 || cls x == 11 || cls x == 12 || cls x == 13) := by
  cases x <;> rfl

theorem isLeaf_cls (x : Obj) : isLeaf x = !(cls x == 6 || cls x == 9 || cls x == 10) := by
  cases x <;> rfl

theorem leaf_PW (a : Obj) (ha : isLeaf a = true) : PW cmpI a := by
  have e : ∀ x y, cls x = cls a → cls y = cls a → cmpI x y = flatI x y := fun x y hx hy =>
    cmpI_leaf x y (by rw [isLeaf_cls, hx, ← isLeaf_cls, ha]) (by rw [hy, hx])
  have hS : ∀ x, cls x = cls a → isBytesCls x = isBytesCls a := fun x hx => by
    rw [isBytesCls_cls, isBytesCls_cls, hx]
  refine cls_PW cls cmpI cmpI_cls a ?_
  cases hb : isBytesCls a
  · exact (cmpO_PW _).onComap numKey rfl fun x y hx hy => by rw [e x y hx hy, flatI, hS x hx, hb]; rfl
  · exact (cmpBytes_PW _).onComap bytesOf rfl fun x y hx hy => by rw [e x y hx hy, flatI, hS x hx, hb]; rfl

theorem arr_PW (xs : List Obj) (h : ∀ x ∈ xs, PW cmpI x) : PW cmpI (arr xs) := by
  refine cls_PW cls cmpI cmpI_cls _ ((lenLexI_PW cmpI xs (lexI_PW cmpI xs h)).onComap
    (fun o => match o with | arr l => l | _ => []) rfl fun x y hx hy => ?_)
  cases x <;> simp [cls] at hx
  cases y <;> simp [cls] at hy
  exact cmpI_arr _ _

theorem map_PW (xs : List (Obj × Obj)) (h : ∀ kv ∈ xs, PW cmpI kv.1 ∧ PW cmpI kv.2) : PW cmpI (map xs) := by
  have hp : ∀ kv ∈ xs, PW (pairI cmpI) kv := fun kv hkv => pairI_PW cmpI kv (h kv hkv).1 (h kv hkv).2
  refine cls_PW cls cmpI cmpI_cls _ ((lenLexI_PW (pairI cmpI) xs (lexI_PW (pairI cmpI) xs hp)).onComap
    (fun o => match o with | map l => l | _ => []) rfl fun x y hx hy => ?_)
  cases x <;> simp [cls] at hx
  cases y <;> simp [cls] at hy
  exact cmpI_map _ _

theorem ret_PW (v : Obj) (h : PW cmpI v) : PW cmpI (ret v) := by
  refine cls_PW cls cmpI cmpI_cls _
    (PW.onComap (fun o => match o with | ret w => w | o => o) h rfl fun x y hx hy => ?_)
  cases x <;> simp [cls] at hx
  cases y <;> simp [cls] at hy
  exact cmpI_ret _ _

mutual
theorem cmpI_PW : (a : Obj) → PW cmpI a
  | arr xs => arr_PW xs (list_PW xs)
  | map kvs => map_PW kvs (kvs_PW kvs)
  | ret v => ret_PW v (cmpI_PW v)
  | int _ => leaf_PW _ rfl
  | float _ => leaf_PW _ rfl
  | bool _ => leaf_PW _ rfl
  | nil => leaf_PW _ rfl
  | err _ => leaf_PW _ rfl
  | func _ => leaf_PW _ rfl
  | str _ => leaf_PW _ rfl
  | quote _ => leaf_PW _ rfl
  | mac _ => leaf_PW _ rfl
  | ext _ => leaf_PW _ rfl
  | reg _ => leaf_PW _ rfl
theorem list_PW : (xs : List Obj) → ∀ x ∈ xs, PW cmpI x
  | [], _, h => by cases h
  | y :: ys, x, h => by
    cases h with
    | head => exact cmpI_PW y
    | tail _ h' => exact list_PW ys x h'
theorem kvs_PW : (kvs : List (Obj × Obj)) → ∀ kv ∈ kvs, PW cmpI kv.1 ∧ PW cmpI kv.2
  | [], _, h => by cases h
  | (k, v) :: rest, kv, h => by
    cases h with
    | head => exact ⟨cmpI_PW k, cmpI_PW v⟩
    | tail _ h' => exact kvs_PW rest kv h'
end

end Grol.Obj
