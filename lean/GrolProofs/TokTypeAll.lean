import Grol.Generated.Precedence
/-
A statement about every token type is finite: it is checked on the list `TokType.all`.
-/
namespace Grol.Generated

theorem TokType.mem_all (t : TokType) : t ∈ TokType.all :=
  List.mem_of_getElem? (i := t.toNat) (by cases t <;> rfl)

/-- use: `TokType.forall_of_all (by decide +kernel)` -/
theorem TokType.forall_of_all {p : TokType → Prop} [DecidablePred p]
    (h : (TokType.all.all fun t => decide (p t)) = true) (t : TokType) : p t :=
  of_decide_eq_true (List.all_eq_true.mp h t (TokType.mem_all t))

end Grol.Generated
