import GrolProofs.CmpNum
/-
On data values (no RETURN/MACRO object inside, integers in int64 range) the model of `object.Cmp`
does not panic and returns `cmpI`.
-/
namespace Grol.Obj
open Grol.Ord Grol.F64

theorem cmpI_value_left (a b : Obj) : cmpI a.value b = cmpI a b := by
  cases a <;> rfl

theorem cmpI_value_right (a b : Obj) : cmpI a b.value = cmpI a b := by
  cases b <;> first | rfl | (cases a <;> rfl)

theorem isData_value (a : Obj) (h : isData a = true) : isData a.value = true := by
  cases a <;> exact h

def noReg : Obj → Bool
  | reg _ => false
  | _ => true

theorem noReg_value (a : Obj) : noReg a.value = true := by cases a <;> rfl

theorem bool_cmp (x y : Bool) : (if (x == y) = true then (0 : Int) else if x = true then 1 else -1)
    = cmpO (numKey (bool x)) (numKey (bool y)) := by
  cases x <;> cases y <;> rfl

/-! `Cmp` orders by type first; the class is the type, with FLOAT folded into INTEGER -/

theorem cls_of_typ (a : Obj) (ra : noReg a = true) : cls a = if a.typ = 2 then 1 else a.typ := by
  cases a <;> first | rfl | cases ra

/-- folding 2 into 1 keeps `<`, except between 1 and 2 -/
theorem fold_lt (s t : Nat) (h : s < t) (hn : ¬(s = 1 ∧ t = 2)) :
    (if s = 2 then 1 else s) < (if t = 2 then 1 else t) := by
  split <;> split <;> omega

theorem typ_int (a : Obj) (h : a.typ = 1) : ∃ x, a = int x := by
  cases a <;> first | exact ⟨_, rfl⟩ | cases h

theorem typ_float (a : Obj) (h : a.typ = 2) : ∃ x, a = float x := by
  cases a <;> first | exact ⟨_, rfl⟩ | cases h

theorem areIntFloat_iff (s t : Nat) : areIntFloat s t = true ↔ (s = 1 ∧ t = 2) ∨ (s = 2 ∧ t = 1) := by
  simp only [areIntFloat, Bool.and_eq_true, beq_iff_eq]; omega

/-- two operands of one type, not ARRAY or MAP: the type leaves one shape for `b`, and on each
shape both sides compute -/
theorem cmpFlat_eq (a b : Obj) (h : a.typ = b.typ) (ha : isData a = true) (ra : noReg a = true)
    (h9 : cls a ≠ 9) (h10 : cls a ≠ 10) : cmpFlat a b = .ok (cmpI a b) := by
  cases a <;>
    first | exact absurd rfl h9 | exact absurd rfl h10 | exact absurd ra Bool.false_ne_true | exact absurd ha Bool.false_ne_true | skip
  all_goals cases b <;> first | cases h | skip
  · exact congrArg Outcome.ok (by rw [cmpInt_eq_cmpZ]; exact (cmpZ_scale _ _).symm)
  · exact congrArg Outcome.ok (compare_eq _ _)
  · exact congrArg Outcome.ok (bool_cmp _ _)
  all_goals rfl

/-- everything except ARRAY/ARRAY and MAP/MAP -/
theorem cmpTop_eq (a b : Obj) (ha : isData a = true) (hb : isData b = true) (ra : noReg a = true) (rb : noReg b = true)
    (hne : ¬ (cls a = cls b ∧ (cls a = 9 ∨ cls a = 10))) : cmpTop a b = .ok (cmpI a b) := by
  have ca := cls_of_typ a ra
  have cb := cls_of_typ b rb
  have hif := areIntFloat_iff a.typ b.typ
  unfold cmpTop
  by_cases hf : areIntFloat a.typ b.typ = true
  · rw [if_pos hf]
    rcases hif.1 hf with ⟨h1, h2⟩ | ⟨h1, h2⟩
    · obtain ⟨i, rfl⟩ := typ_int a h1
      obtain ⟨f, rfl⟩ := typ_float b h2
      exact congrArg Outcome.ok (cmpIntFloat_eq i f (of_decide_eq_true ha).1 (of_decide_eq_true ha).2)
    · obtain ⟨f, rfl⟩ := typ_float a h1
      obtain ⟨i, rfl⟩ := typ_int b h2
      refine congrArg Outcome.ok ?_
      rw [cmpIntFloat_eq i f (of_decide_eq_true hb).1 (of_decide_eq_true hb).2]
      exact ((cmpO_PW _).anti _).symm
  · have hf' := mt hif.2 hf
    rw [if_neg hf, cmpI_cls]
    by_cases hlt : a.typ < b.typ
    · have : cls a < cls b := by rw [ca, cb]; exact fold_lt _ _ hlt fun h => hf' (.inl h)
      rw [if_pos hlt, if_pos this]
    · by_cases hgt : b.typ < a.typ
      · have : cls b < cls a := by rw [ca, cb]; exact fold_lt _ _ hgt fun h => hf' (.inr ⟨h.2, h.1⟩)
        rw [if_neg hlt, if_pos hgt, if_neg (Nat.lt_asymm this), if_pos this]
      · have e : a.typ = b.typ := by omega
        have ec : cls a = cls b := by rw [ca, cb, e]
        rw [if_neg hlt, if_neg hgt, ec, if_neg (Nat.lt_irrefl _), if_neg (Nat.lt_irrefl _)]
        exact cmpFlat_eq a b e ha ra (fun h => hne ⟨ec, .inl h⟩) (fun h => hne ⟨ec, .inr h⟩)

/-- the cases of `Cmp` that go straight to `cmpTop` -/
theorem cmp_flat (a b : Obj) (e : cmp a b = cmpTop a.value b.value) (ha : isData a = true) (hb : isData b = true)
    (hne : ((cls a.value == 9 || cls a.value == 10) && cls a.value == cls b.value) = false) :
    cmp a b = .ok (cmpI a b) := by
  rw [e, ← cmpI_value_left, ← cmpI_value_right]
  refine cmpTop_eq _ _ (isData_value _ ha) (isData_value _ hb) (noReg_value a) (noReg_value b) fun h => ?_
  rcases h with ⟨e, h | h⟩ <;> rw [← e, h] at hne <;> cases hne

mutual
theorem cmp_eq : (a b : Obj) → isData a = true → isData b = true → cmp a b = .ok (cmpI a b)
  | arr xs, b, ha, hb => by
    cases b with
    | arr ys =>
      unfold cmp
      simp only [value, cmpI_arr, lenLexI]
      split; · rfl
      split; · rfl
      rw [cmpList_eq xs ys (by simpa [isData] using ha) (by simpa [isData] using hb) (by omega), listI_eq]
    | _ => exact cmp_flat _ _ (by unfold cmp; rfl) ha hb rfl
  | map xs, b, ha, hb => by
    cases b with
    | map ys =>
      unfold cmp
      simp only [value, cmpI_map, lenLexI]
      split; · rfl
      split; · rfl
      rw [cmpKVs_eq xs ys (by simpa [isData] using ha) (by simpa [isData] using hb) (by omega), kvsI_eq]
    | _ => exact cmp_flat _ _ (by unfold cmp; rfl) ha hb rfl
  | ret _, _, ha, _ => by simp [isData] at ha
  | mac _, _, ha, _ => by simp [isData] at ha
  | reg _, b, ha, hb => cmp_flat _ b (by unfold cmp; rfl) ha hb rfl
  | int _, b, ha, hb => cmp_flat _ b (by unfold cmp; rfl) ha hb rfl
  | float _, b, ha, hb => cmp_flat _ b (by unfold cmp; rfl) ha hb rfl
  | bool _, b, ha, hb => cmp_flat _ b (by unfold cmp; rfl) ha hb rfl
  | nil, b, ha, hb => cmp_flat _ b (by unfold cmp; rfl) ha hb rfl
  | err _, b, ha, hb => cmp_flat _ b (by unfold cmp; rfl) ha hb rfl
  | func _, b, ha, hb => cmp_flat _ b (by unfold cmp; rfl) ha hb rfl
  | str _, b, ha, hb => cmp_flat _ b (by unfold cmp; rfl) ha hb rfl
  | quote _, b, ha, hb => cmp_flat _ b (by unfold cmp; rfl) ha hb rfl
  | ext _, b, ha, hb => cmp_flat _ b (by unfold cmp; rfl) ha hb rfl
theorem cmpList_eq : (xs ys : List Obj) → isDataList xs = true → isDataList ys = true → xs.length = ys.length →
    cmpList xs ys = .ok (listI xs ys)
  | [], [], _, _, _ => by simp [cmpList, listI]
  | [], _ :: _, _, _, h => by simp at h
  | _ :: _, [], _, _, h => by simp at h
  | x :: xs, y :: ys, hx, hy, h => by
    simp only [isDataList, Bool.and_eq_true] at hx hy
    simp only [cmpList, listI, cmp_eq x y hx.1 hy.1]
    by_cases h0 : cmpI x y = 0
    · rw [h0]; simp only [if_true]
      exact cmpList_eq xs ys hx.2 hy.2 (by simpa using h)
    · rw [if_neg h0]
      split
      · rename_i heq; injection heq with heq; exact absurd heq h0
      · rfl
theorem cmpKVs_eq : (xs ys : List (Obj × Obj)) → isDataKVs xs = true → isDataKVs ys = true → xs.length = ys.length →
    cmpKVs xs ys = .ok (kvsI xs ys)
  | [], [], _, _, _ => by simp [cmpKVs, kvsI]
  | [], _ :: _, _, _, h => by simp at h
  | _ :: _, [], _, _, h => by simp at h
  | (k, v) :: xs, (k', v') :: ys, hx, hy, h => by
    simp only [isDataKVs, Bool.and_eq_true] at hx hy
    simp only [cmpKVs, kvsI, cmp_eq k k' hx.1.1 hy.1.1, cmp_eq v v' hx.1.2 hy.1.2]
    by_cases h0 : cmpI k k' = 0
    · rw [h0]; simp only [if_true]
      by_cases h1 : cmpI v v' = 0
      · rw [h1]; simp only [if_true]
        exact cmpKVs_eq xs ys hx.2 hy.2 (by simpa using h)
      · rw [if_neg h1]
        split
        · rename_i heq; injection heq with heq; exact absurd heq h1
        · rfl
    · rw [if_neg h0, if_neg h0]
      split
      · rename_i heq; injection heq with heq; exact absurd heq h0
      · rfl
end

theorem cmpD_eq (a b : Obj) : cmpD a b = cmpI a b := by
  unfold cmpD
  split
  · rename_i h
    simp only [Bool.and_eq_true] at h
    rw [cmp_eq a b h.1 h.2]; rfl
  · rfl

theorem cmpD_PW (a : Obj) : PW cmpD a := by
  have : cmpD = cmpI := by funext x y; exact cmpD_eq x y
  rw [this]; exact cmpI_PW a

end Grol.Obj
