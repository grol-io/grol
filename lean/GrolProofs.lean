import GrolProofs.Props.C01
import GrolProofs.Props.C03Lexed
import GrolProofs.Props.C04Hit
import GrolProofs.Props.C05
import GrolProofs.Props.C06Stmts
import GrolProofs.Props.C08
import GrolProofs.Props.C09
import GrolProofs.Props.C10Full
import GrolProofs.Props.C11
import GrolProofs.Props.C12
import GrolProofs.Props.C13Global
import GrolProofs.Props.C14
import GrolProofs.Props.C15Lexed
import GrolProofs.Props.C17
import GrolProofs.Props.C18
import GrolProofs.Props.C19Full
import GrolProofs.Props.C20
import GrolProofs.Precedence
import GrolProofs.RegSimStmt
import GrolProofs.TokenTie
/- The modules of `GrolProofs` that no other module imports; every other module is reached through them, so building this
file builds the whole library (DESIGN.md section 4.5 says what each module is for). -/
